import St4sd.Model.DslLoad
import St4sd.Lemmas.C15Sort
/-!
Lemmas for the DSL 2.0 part of C15 (`Model/DslLoad.lean`): the sort inside `hash_environment` is invariant
under permutations of the entries of an environment; the three loops over the environments run one step
(`envStep`) that keeps `known_environments` an injective table of indices (`KnownOK`); the naming loop picks the
first free candidate (`pick_named`).
-/
namespace St4sd.DslLoad
open St4sd.Str St4sd.Sort

/-! ### `sorted(environment)` does not depend on the order of the entries -/

theorem insertE_eq (a : S × Option S) (l : Env) : insertE a l = insertK Prod.fst a l := by
  induction l with
  | nil => rfl
  | cons b r ih => simp only [insertE, insertK, ih]

theorem sortE_eq (e : Env) : sortE e = sortK Prod.fst e := by
  induction e with
  | nil => rfl
  | cons a r ih => simp only [sortE, sortK, ih, insertE_eq]

theorem hashEnv_perm (e₁ e₂ : Env) (h : e₁.Perm e₂) (hnd : (e₁.map Prod.fst).Nodup) :
    hashEnv e₁ = hashEnv e₂ := by
  unfold hashEnv
  rw [sortE_eq, sortE_eq, sortK_perm Prod.fst h (eq_of_nodup_keys Prod.fst hnd)]

/-! ### a mapping without repeated keys is its set of entries -/

theorem lookup_eq_some_iff_mem {α : Type} (l : List (S × α)) (hnd : (l.map Prod.fst).Nodup) (k : S) (v : α) :
    l.lookup k = some v ↔ (k, v) ∈ l := by
  induction l with
  | nil => simp
  | cons a r ih =>
    obtain ⟨ak, av⟩ := a
    simp only [List.map_cons, List.nodup_cons] at hnd
    by_cases hk : k = ak
    · subst hk
      have : (k, v) ∉ r := fun h => hnd.1 (List.mem_map.mpr ⟨(k, v), h, rfl⟩)
      simp [this, eq_comm]
    · simp [List.lookup_cons, beq_false_of_ne hk, hk, ih hnd.2]

theorem nodup_of_nodup_keys {α : Type} (l : List (S × α)) (hnd : (l.map Prod.fst).Nodup) : l.Nodup :=
  List.Pairwise.of_map Prod.fst (fun _ _ h e => h (congrArg Prod.fst e)) hnd

theorem perm_of_same_mapping (e₁ e₂ : Env) (h₁ : (e₁.map Prod.fst).Nodup) (h₂ : (e₂.map Prod.fst).Nodup)
    (h : ∀ k, e₁.lookup k = e₂.lookup k) : e₁.Perm e₂ := by
  rw [List.perm_ext_iff_of_nodup (nodup_of_nodup_keys e₁ h₁) (nodup_of_nodup_keys e₂ h₂)]
  intro ⟨k, v⟩
  rw [← lookup_eq_some_iff_mem e₁ h₁, ← lookup_eq_some_iff_mem e₂ h₂, h k]

theorem mem_dropNone (e : Env) (k v : S) : (k, v) ∈ dropNone e ↔ (k, some v) ∈ e := by
  induction e with
  | nil => simp [dropNone]
  | cons a r ih =>
    obtain ⟨ak, av⟩ := a
    cases av <;> simp [dropNone, ih]

theorem mem_hashEnv (e : Env) (k v : S) : (k, v) ∈ hashEnv e ↔ (k, some v) ∈ e := by
  unfold hashEnv
  rw [mem_dropNone, sortE_eq]
  exact (sortK_perm_self Prod.fst e).mem_iff

/-! ### `known_environments` -/

variable (h : Env → List (S × S))

/-- one iteration of the naming loop: the name the component gets, `known_environments` after it, and the
mapping it registers when its identity is new.  The three loops of the model run this step. -/
structure EnvStep where
  name : EnvName
  known : Known
  registered : List (Nat × Env)

def envStep (known : Known) : CEnv → EnvStep
  | .unset => ⟨.null, known, []⟩
  | .dict e =>
    if e.isEmpty then ⟨.noneLit, known, []⟩
    else match known.lookup (h e) with
      | some i => ⟨.env i, known, []⟩
      | none => ⟨.env known.length, (h e, known.length) :: known, [(known.length, e)]⟩

theorem assignEnvsWith_cons (known : Known) (c : CEnv) (r : List CEnv) :
    assignEnvsWith h known (c :: r) = (envStep h known c).name :: assignEnvsWith h (envStep h known c).known r := by
  cases c with
  | unset => rfl
  | dict e =>
    simp only [assignEnvsWith, envStep]
    cases e.isEmpty <;> cases known.lookup (h e) <;> rfl

theorem registeredWith_cons (known : Known) (c : CEnv) (r : List CEnv) :
    registeredWith h known (c :: r) = (envStep h known c).registered ++ registeredWith h (envStep h known c).known r := by
  cases c with
  | unset => rfl
  | dict e =>
    simp only [registeredWith, envStep]
    cases e.isEmpty <;> cases known.lookup (h e) <;> rfl

theorem knownAfterWith_cons (known : Known) (c : CEnv) (r : List CEnv) :
    knownAfterWith h known (c :: r) = knownAfterWith h (envStep h known c).known r := by
  cases c with
  | unset => rfl
  | dict e =>
    simp only [knownAfterWith, envStep]
    cases e.isEmpty <;> cases known.lookup (h e) <;> rfl

/-- indices are below the size, and no index is given to two identities -/
def KnownOK (known : Known) : Prop :=
  (∀ x i, known.lookup x = some i → i < known.length) ∧
  (∀ x y i, known.lookup x = some i → known.lookup y = some i → x = y)

theorem knownOK_nil : KnownOK ([] : Known) := by
  constructor <;> intro x <;> simp

theorem lookup_cons_ite {β : Type} (k a : List (S × S)) (b : β) (l : List (List (S × S) × β)) :
    ((a, b) :: l).lookup k = if k = a then some b else l.lookup k := by
  rw [List.lookup_cons]
  by_cases hk : k = a
  · simp [hk]
  · rw [beq_false_of_ne hk, if_neg hk]

theorem knownOK_cons (known : Known) (ok : KnownOK known) (x : List (S × S)) :
    KnownOK ((x, known.length) :: known) := by
  obtain ⟨lt, inj⟩ := ok
  refine ⟨fun y i hy => ?_, fun y z i hy hz => ?_⟩
  · rw [lookup_cons_ite] at hy
    split at hy
    · cases hy
      exact Nat.lt_succ_self _
    · exact Nat.lt_succ_of_lt (lt y i hy)
  · rw [lookup_cons_ite] at hy hz
    split at hy <;> split at hz
    · exact ‹y = x›.trans ‹z = x›.symm
    · cases hy
      exact absurd (lt z _ hz) (Nat.lt_irrefl _)
    · cases hz
      exact absurd (lt y _ hy) (Nat.lt_irrefl _)
    · exact inj y z i hy hz

theorem knownOK_step (known : Known) (ok : KnownOK known) (c : CEnv) : KnownOK (envStep h known c).known := by
  cases c with
  | unset => exact ok
  | dict e =>
    simp only [envStep]
    cases e.isEmpty
    · cases known.lookup (h e)
      · exact knownOK_cons known ok _
      · exact ok
    · exact ok

theorem lookup_step (known : Known) (c : CEnv) (x : List (S × S)) (i : Nat)
    (hx : known.lookup x = some i) : (envStep h known c).known.lookup x = some i := by
  cases c with
  | unset => exact hx
  | dict e =>
    simp only [envStep]
    cases e.isEmpty
    · cases hl : known.lookup (h e)
      · have hne : ¬ x = h e := fun hb => by rw [hb, hl] at hx; cases hx
        exact (lookup_cons_ite ..).trans ((if_neg hne).trans hx)
      · exact hx
    · exact hx

theorem knownOK_after (known : Known) (cs : List CEnv) (ok : KnownOK known) :
    KnownOK (knownAfterWith h known cs) := by
  induction cs generalizing known with
  | nil => exact ok
  | cons c r ih => exact knownAfterWith_cons h known c r ▸ ih _ (knownOK_step h known ok c)

theorem lookup_persists (known : Known) (cs : List CEnv) (x : List (S × S)) (i : Nat)
    (hx : known.lookup x = some i) : (knownAfterWith h known cs).lookup x = some i := by
  induction cs generalizing known with
  | nil => exact hx
  | cons c r ih => exact knownAfterWith_cons h known c r ▸ ih _ (lookup_step h known c x i hx)

theorem name_is_index (known : Known) (cs : List CEnv) (e : Env) (n : EnvName)
    (hm : (CEnv.dict e, n) ∈ cs.zip (assignEnvsWith h known cs)) (he : e ≠ []) :
    ∃ i, n = .env i ∧ (knownAfterWith h known cs).lookup (h e) = some i := by
  induction cs generalizing known with
  | nil => cases hm
  | cons c r ih =>
    rw [knownAfterWith_cons]
    rw [assignEnvsWith_cons, List.zip_cons_cons, List.mem_cons] at hm
    rcases hm with heq | hm
    · cases heq
      have hemp : e.isEmpty = false := by simpa using he
      simp only [envStep, hemp]
      cases hl : known.lookup (h e) with
      | some i => exact ⟨i, rfl, lookup_persists h known r _ i hl⟩
      | none => exact ⟨known.length, rfl, lookup_persists h _ r _ _ ((lookup_cons_ite ..).trans (if_pos rfl))⟩
    · exact ih _ hm

/-! ### names -/

theorem pick_named (used : List FullName) (s : S) (fuel k : Nat) (st : Nat) (n : S)
    (hp : pick used s fuel k = .named st n) :
    (st, n) ∉ used ∧ ∃ j, k ≤ j ∧ parseName (cand s j) = some (st, n) ∧
      ∀ i, k ≤ i → i < j → ∃ fn, parseName (cand s i) = some fn ∧ fn ∈ used := by
  induction fuel generalizing k with
  | zero => cases hp
  | succ f ih =>
    unfold pick at hp
    split at hp
    · cases hp
    · next fn hfn =>
      split at hp
      · next hused =>
        obtain ⟨hnot, j, hkj, hj, hall⟩ := ih (k + 1) hp
        refine ⟨hnot, j, by omega, hj, fun i hki hij => ?_⟩
        by_cases hik : i = k
        · exact ⟨fn, hik ▸ hfn, by simpa using hused⟩
        · exact hall i (by omega) hij
      · next hused =>
        cases hp
        exact ⟨by simpa using hused, k, Nat.le_refl _, hfn, fun i h1 h2 => absurd h1 (by omega)⟩

theorem namedOnly_fresh (used : List FullName) (steps : List S) :
    (namedOnly (assignNames used steps)).Nodup ∧ ∀ fn ∈ namedOnly (assignNames used steps), fn ∉ used := by
  induction steps generalizing used with
  | nil => simp [assignNames, namedOnly]
  | cons s r ih =>
    cases hp : pick used s (used.length + 1) 0 with
    | named st n =>
      obtain ⟨hnot, _⟩ := pick_named used s _ _ st n hp
      obtain ⟨nd, fresh⟩ := ih ((st, n) :: used)
      simp only [assignNames, hp, namedOnly, List.nodup_cons, List.mem_cons, forall_eq_or_imp]
      exact ⟨⟨fun hm => fresh _ hm (List.mem_cons_self ..), nd⟩, hnot,
        fun fn hfn hu => fresh fn hfn (List.mem_cons_of_mem _ hu)⟩
    | invalid | fuelOut =>
      simp only [assignNames, hp, namedOnly]
      exact ih used

theorem assignNames_append (used : List FullName) (l r : List S) :
    assignNames used (l ++ r) = assignNames used l ++ assignNames (usedAfter used l) r := by
  induction l generalizing used with
  | nil => simp [assignNames, usedAfter]
  | cons s t ih =>
    simp only [List.cons_append, assignNames, usedAfter]
    split <;> simp [ih]

theorem assignNames_length (used : List FullName) (l : List S) : (assignNames used l).length = l.length := by
  induction l generalizing used with
  | nil => simp [assignNames]
  | cons s t ih =>
    simp only [assignNames]
    split <;> simp [ih]

end St4sd.DslLoad
