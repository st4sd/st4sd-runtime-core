import St4sd.Model.ArgSubst
/-!
# C10 — the single pass: which alternative `best` takes at a position, and how `parse` goes on from there
-/
namespace St4sd.C10
open St4sd.Str St4sd.ArgSubst

theorem dictGet_mem {es : List (S × S)} {k v : S} (h : dictGet es k = some v) : (k, v) ∈ es := by
  induction es with
  | nil => cases h
  | cons e es ih =>
    obtain ⟨k0, v0⟩ := e
    by_cases hk : k = k0
    · simp only [dictGet, hk, if_true, Option.some.injEq] at h
      simp [hk, h]
    · simp only [dictGet, hk, if_false] at h
      exact List.mem_cons_of_mem _ (ih h)

theorem dictGet_of_mem {es : List (S × S)} (hf : Functional es) {k v : S} (hm : (k, v) ∈ es) :
    dictGet es k = some v := by
  induction es with
  | nil => cases hm
  | cons e es ih =>
    obtain ⟨k0, v0⟩ := e
    by_cases hk : k = k0
    · subst hk
      have : v0 = v := hf (k, v0) (by simp) (k, v) hm rfl
      simp [dictGet, this]
    · have hm' : (k, v) ∈ es := by simpa [hk] using hm
      simpa [dictGet, hk] using
        ih (fun e1 h1 e2 h2 => hf e1 (List.mem_cons_of_mem _ h1) e2 (List.mem_cons_of_mem _ h2)) hm'

theorem prefix_eq_of_length_eq {a b r : S} (ha : a.isPrefixOf r = true) (hb : b.isPrefixOf r = true)
    (hl : a.length = b.length) : a = b := by
  rw [List.isPrefixOf_iff_prefix] at ha hb
  exact (List.prefix_of_prefix_length_le ha hb (by omega)).eq_of_length hl

/-- the test `best` makes of one entry -/
theorem starts_iff (k rest : S) : (!k.isEmpty && k.isPrefixOf rest) = true ↔ k ≠ [] ∧ k.isPrefixOf rest = true := by
  cases k <;> simp

theorem best_spec (es : List (S × S)) (rest : S) :
    match best es rest with
    | none => ∀ e ∈ es, e.1 ≠ [] → e.1.isPrefixOf rest = false
    | some (k, v) => k ≠ [] ∧ k.isPrefixOf rest = true ∧ dictGet es k = some v ∧
        ∀ e ∈ es, e.1 ≠ [] → e.1.isPrefixOf rest = true → e.1.length ≤ k.length := by
  induction es with
  | nil => simp [best]
  | cons e es ih =>
    obtain ⟨k0, v0⟩ := e
    simp only [best, starts_iff, List.forall_mem_cons, dictGet]
    by_cases h0 : k0 ≠ [] ∧ k0.isPrefixOf rest = true
    · rw [if_pos h0]
      cases hb : best es rest with
      | none =>
        rw [hb] at ih
        refine ⟨h0.1, h0.2, by simp, fun _ _ => Nat.le_refl _, fun e he hne hp => ?_⟩
        have := ih e he hne
        rw [hp] at this
        cases this
      | some p =>
        obtain ⟨k, v⟩ := p
        rw [hb] at ih
        obtain ⟨hne, hp, hd, hlong⟩ := ih
        by_cases hlt : k0.length < k.length
        · have hk : k ≠ k0 := fun e => by rw [e] at hlt; omega
          simp only [hlt, if_true, hk, if_false]
          exact ⟨hne, hp, hd, fun _ _ => Nat.le_of_lt hlt, hlong⟩
        · simp only [hlt, if_false, if_true]
          exact ⟨h0.1, h0.2, trivial, fun _ _ => Nat.le_refl _, fun e he hne' hp' => by have := hlong e he hne' hp'; omega⟩
    · rw [if_neg h0]
      cases hb : best es rest with
      | none =>
        rw [hb] at ih
        exact ⟨fun hne => by simpa [hne, -List.isPrefixOf_iff_prefix] using h0, ih⟩
      | some p =>
        obtain ⟨k, v⟩ := p
        rw [hb] at ih
        obtain ⟨hne, hp, hd, hlong⟩ := ih
        have hk : k ≠ k0 := fun e => h0 (e ▸ ⟨hne, hp⟩)
        simp only [hk, if_false]
        exact ⟨hne, hp, hd, fun hne0 hp0 => absurd ⟨hne0, hp0⟩ h0, hlong⟩

theorem parseAux_nil (es : List (S × S)) (n : Nat) : parseAux es n [] = [] := by
  cases n <;> rfl

theorem parseAux_skip (es : List (S × S)) (s : S) : ∀ n, parseAux es n s = parseAux es 0 (s.drop n) := by
  induction s with
  | nil => intro n; simp [parseAux_nil]
  | cons c t ih =>
    intro n
    cases n with
    | zero => rfl
    | succ m => exact ih m

theorem parse_lit (es : List (S × S)) (c : Char) (s : S) (h : best es (c :: s) = none) :
    parse es (c :: s) = Seg.lit c :: parse es s := by
  simp [parse, parseAux, h]

theorem parse_tok (es : List (S × S)) (k v rest : S) (hne : k ≠ []) (h : best es (k ++ rest) = some (k, v)) :
    parse es (k ++ rest) = Seg.tok k v :: parse es rest := by
  cases k with
  | nil => exact absurd rfl hne
  | cons c k' =>
    simp only [parse, List.cons_append] at h ⊢
    simp [parseAux, h, parseAux_skip es (k' ++ rest)]

theorem parse_induction {motive : S → List Seg → Prop} (es : List (S × S)) (nil : motive [] [])
    (lit : ∀ c s, best es (c :: s) = none → motive s (parse es s) → motive (c :: s) (.lit c :: parse es s))
    (tok : ∀ k v rest, k ≠ [] → best es (k ++ rest) = some (k, v) → motive rest (parse es rest) →
      motive (k ++ rest) (.tok k v :: parse es rest)) (s : S) : motive s (parse es s) := by
  generalize hn : s.length = n
  induction n using Nat.strongRecOn generalizing s with
  | ind n ih =>
    subst hn
    cases s with
    | nil => exact nil
    | cons c t =>
      cases hb : best es (c :: t) with
      | none =>
        rw [parse_lit es c t hb]
        exact lit c t hb (ih _ (Nat.lt_succ_self _) t rfl)
      | some p =>
        obtain ⟨k, v⟩ := p
        have hs := best_spec es (c :: t)
        rw [hb] at hs
        obtain ⟨hne, hp, _, _⟩ := hs
        obtain ⟨r, hr⟩ := List.isPrefixOf_iff_prefix.mp hp
        have hk : 0 < k.length := List.length_pos_iff.mpr hne
        rw [← hr] at hb ⊢
        rw [parse_tok es k v r hne hb]
        exact tok k v r hne hb (ih _ (by rw [← hr, List.length_append]; omega) r rfl)

end St4sd.C10
