import St4sd.Lemmas.C13Sub
import St4sd.Lemmas.C13Kill
import St4sd.Lemmas.C13Dir
/-!
# C13 — A repeating observer sees its producers' final output and then stops

Property theorems about the model `St4sd.Repeat` (Model/Repeat.lean) of `RepeatingEngine`'s poll protocol.
Every theorem quantifies over ALL histories `h : List Op`: arbitrary interleavings of the engine's atomic
sub-steps with the environment operations (producers finished, new output, external kill, kill-delay timer,
long wait), arbitrary task outcomes (success / failure / the task generator raises).
`exec cfg h` is the state reached from `init cfg` by `h`.  `cfg.prods` is the observer's LIST of producer instances
(`job.producerInstances`: any number of entries, each of the observer's stage or of an earlier one, repeating or
not, several entries for one component); `Ev.out c` is output of component `c`.  Clause 1 is proved for every such
list: `no_exec_before_consume`, `launch_implies_output_of_every_same_stage_producer`,
`no_launch_while_a_same_stage_producer_has_no_output`.

The second part is about the model `St4sd.RepeatSub` (Model/RepeatSub.lean) of the subscription in
`ComponentState.stageIn` that decides WHEN `notify_all_producers_finished` is called, for all lists of producer
references (repetitions included) and all orders of stage-in / producer finishes, and about the composed system
(subscription + poll protocol) in which `fin` is no free operation of the environment any more.
-/
namespace St4sd.C13
open St4sd.Repeat

/-- Clause 1: the engine never executes before there is producer output it can consume: every launch in
every history happened when EVERY producer of the observer's own stage had output (`Exec.avail` records
`canConsume` of the moment of the launch; a component without producers, or with producers of earlier stages
only, can always consume), and the `consume` flag is only ever set in that situation. -/
theorem no_exec_before_consume (cfg : Cfg) (h : List Op) :
    (∀ e ∈ (exec cfg h).execLog, e.avail = true) ∧
    ((exec cfg h).consume = true → ∀ p ∈ cfg.prods, p.same = true → p.id ∈ (exec cfg h).outs) := by
  obtain ⟨hcan, havail, -⟩ := (inv_exec cfg h).a
  exact ⟨havail, fun hc => (canConsume_iff cfg _).mp (hcan hc)⟩

/-- clause 1 in terms of `hasOutput`: if the observer has no producers or at least one in its own stage, whoever
consumes has no producers or there is producer output -/
theorem consume_implies_some_output (cfg : Cfg) (h : List Op)
    (hs : cfg.noProd = true ∨ ∃ p ∈ cfg.prods, p.same = true) :
    (exec cfg h).consume = true → cfg.noProd = true ∨ (exec cfg h).hasOutput = true := by
  intro hc
  obtain ⟨-, -, -, houts⟩ := (inv_exec cfg h).a
  rcases hs with hs | ⟨p, hp, hs⟩
  · exact Or.inl hs
  · exact Or.inr (houts p.id ((no_exec_before_consume cfg h).2 hc p hp hs)).1

/-- Clause 1, operationally, for every list of producers: whenever the next operation `op` after a history `h`
launches an execution (the execution log grows), every producer of the observer's own stage - in whatever
position of `job.producerInstances`, however many there are - has output that predates `run()` or appeared
somewhere in `h`, i.e. BEFORE the launch. -/
theorem launch_implies_output_of_every_same_stage_producer (cfg : Cfg) (h : List Op) (op : Op)
    (hl : (exec cfg (h ++ [op])).execLog ≠ (exec cfg h).execLog) :
    ∀ p ∈ cfg.prods, p.same = true → p.id ∈ cfg.pre ∨ Op.env (.out p.id) ∈ h := by
  rw [exec_snoc] at hl
  have hcc : canConsume cfg (exec cfg h).outs = true :=
    (Bool.or_eq_true _ _ ▸ (step_trans cfg _ op).launches hl).elim (inv_exec cfg h).a.1 id
  exact fun p hp hs => outs_of_history cfg h p.id ((canConsume_iff cfg _).mp hcc p hp hs)

/-- … and as a statement about whole histories: as long as SOME producer of the observer's own stage has
produced no output (none before `run()`, no `out` in the history), nothing was ever launched and the engine
does not claim it can consume - wherever that producer stands in the list and whatever the others have
produced. -/
theorem no_launch_while_a_same_stage_producer_has_no_output (cfg : Cfg) (h : List Op) (p : Prod)
    (hp : p ∈ cfg.prods) (hs : p.same = true) (hpre : p.id ∉ cfg.pre) (hout : Op.env (.out p.id) ∉ h) :
    (exec cfg h).execLog = [] ∧ (exec cfg h).consume = false := by
  have hc : (exec cfg h).consume = false := Bool.eq_false_iff.mpr fun hc =>
    (outs_of_history cfg h p.id ((no_exec_before_consume cfg h).2 hc p hp hs)).elim hpre hout
  obtain ⟨-, -, hlog, -⟩ := (inv_exec cfg h).a
  exact ⟨Decidable.byContradiction fun hl => Bool.false_ne_true (hc ▸ hlog hl), hc⟩

/-- producers of other (earlier) stages never block: `canConsume` looks at same-stage entries only -/
theorem other_stage_producers_do_not_count (cfg : Cfg) (outs : List Nat)
    (h : ∀ p ∈ cfg.prods, p.same = false) : canConsume cfg outs = true :=
  (canConsume_iff cfg outs).mpr fun p hp hs => absurd hs (by simp [h p hp])

/-- Clause 2a: while the producers have not finished, nobody but an external `kill()` sets the cancel
event: the engine never stops itself early (neither through its success/retries bookkeeping nor through the
kill delay). -/
theorem no_early_stop (cfg : Cfg) (h : List Op) :
    (exec cfg h).cancel = true → (exec cfg h).prodDone = false → (exec cfg h).cause = some .external := by
  obtain ⟨hdone, hcause, -⟩ := (inv_exec cfg h).b
  intro hc hp
  cases hcs : (exec cfg h).cause with
  | none => exact absurd hcs (hcause.mp hc)
  | some c => cases c <;> simp_all

/-- a stop decided by the engine's own bookkeeping happens only after the producers finished -/
theorem self_stop_after_finished (cfg : Cfg) (h : List Op) :
    selfCause (exec cfg h) → (exec cfg h).prodDone = true :=
  fun hs => (inv_exec cfg h).b.1 (hs.elim Or.inl (Or.inr ∘ Or.inl))

/-- Clause 2b (partial): in every history in which the engine stops *itself* (cause `success` or `retries`,
i.e. not an external kill and not the kill delay), was able to consume and there is producer output, some
execution was launched at or after the instant the last producer output appeared.
PARTIAL: needs `1 ≤ repeatRetries` and that no producer output predates `run()`.  Without them the code
that exists violates the statement (`Witness.zero_retries_race_misses_final_output`,
`Witness.output_before_run_never_looked_at`).  Holds whatever `guardNone`, `killOnSuicidePoll` and `killAfterLaunch`
are. -/
theorem stop_implies_final_output_seen_partial (cfg : Cfg) (hr : 1 ≤ cfg.retries)
    (hp : cfg.preOutput = false) (h : List Op) :
    selfCause (exec cfg h) → (exec cfg h).consume = true → (exec cfg h).hasOutput = true →
    ∃ e ∈ (exec cfg h).execLog, (exec cfg h).lastOutput ≤ e.launch := by
  intro hs hc ho
  obtain ⟨hne, hle⟩ := ((inv_exec cfg h).d hr hp).1 hs hc ho
  exact ⟨_, List.mem_of_mem_head? (head?_newest hne), (inv_exec cfg h).t.1 ▸ hle⟩

/-- Clause 2b/3, the stop "after the first such execution that succeeds": in EVERY history (every configuration,
with and without the repairs) in which the engine stops itself by `success`, the newest entry of the execution log
is an execution that was really STARTED (the task generator returned a Task object - a launch that raises is an
attempt, not an execution), in a poll that sampled the producers as finished, launched at or after the instant of
the producers' last output.  What the bookkeeping judges is the attempt of the poll it belongs to: a task left
over from an earlier poll never makes a failed launch count as a success. -/
theorem success_stop_has_started_execution_after_final_output (cfg : Cfg) (h : List Op)
    (hs : (exec cfg h).cause = some .success) :
    ∃ e, (exec cfg h).execLog.head? = some e ∧ e.started = true ∧ e.pdws = true ∧
      (exec cfg h).lastOutput ≤ e.launch ∧ (exec cfg h).prodDone = true := by
  obtain ⟨-, hjudged, -⟩ := (inv_exec cfg h).f
  obtain ⟨hne, h1, h2, h3⟩ := hjudged hs
  exact ⟨_, head?_newest hne, h1, h2, (inv_exec cfg h).t.1 ▸ h3, self_stop_after_finished cfg h (Or.inl hs)⟩

/-- … "otherwise when its configured retries are used up": a stop by `retries` happens only with no retry left. -/
theorem retries_stop_only_when_used_up (cfg : Cfg) (h : List Op)
    (hs : (exec cfg h).cause = some .retries) : (exec cfg h).retries = 0 := by
  obtain ⟨-, -, hused⟩ := (inv_exec cfg h).f
  exact hused hs

/-- Both together: whenever the engine has stopped itself with retries left, it has started an execution after the
producers' last output appeared (and that execution is the newest one). -/
theorem self_stop_with_retries_left_has_started_execution (cfg : Cfg) (h : List Op)
    (hs : selfCause (exec cfg h)) (hr : 0 < (exec cfg h).retries) :
    ∃ e ∈ (exec cfg h).execLog, e.started = true ∧ (exec cfg h).lastOutput ≤ e.launch := by
  rcases hs with hs | hs
  · obtain ⟨e, he, h1, _, h3, _⟩ := success_stop_has_started_execution_after_final_output cfg h hs
    exact ⟨e, List.mem_of_mem_head? he, h1, h3⟩
  · have := retries_stop_only_when_used_up cfg h hs
    omega

/-- Clause 3 (for the repaired code): after the producers finished the engine's action is started as a
normal poll at most `repeatRetries + 1` times (`pollsFin` counts the polls that begin with the
producers-finished flag set); every such poll reaches the stop/retry bookkeeping (`books`), and as long as
the cancel event is not set each of them has used up one retry. -/
theorem bounded_after_finished (cfg : Cfg) (hf : Fixed cfg) (h : List Op) :
    (exec cfg h).pollsFin ≤ cfg.retries + 1 ∧ (exec cfg h).books ≤ cfg.retries + 1 ∧
    ((exec cfg h).cancel = false → (exec cfg h).books + (exec cfg h).retries ≤ cfg.retries) := by
  obtain ⟨-, hbooks, hleft, hpolls⟩ := (inv_exec cfg h).c hf
  refine ⟨?_, by omega, fun hc => hleft (Or.inl hc)⟩
  split at hpolls
  · -- a counted poll is in progress: it has not been through the bookkeeping yet
    rename_i hm
    have := hleft (Or.inr (Or.inl hm.1))
    omega
  · omega

/-- … the first execution that started with the producers finished and succeeds sets the cancel event …
(`.ready isNew fc pdws didExec rc0 raisedNow`: the poll sampled the producers as finished, `pdws`, and judged its own
execution `d` successful, `rc0`; the launch did not raise) -/
theorem success_after_finished_stops (cfg : Cfg) (s : St) (n f d : Bool) (o : Outcome)
    (hpc : s.pc = .ready n f true d true false) (hd : d = true) :
    (step cfg s (.eng o)).cancel = true := by
  simp [step, engStep, hpc, hd, post, doKill_eq]

/-- … and once the cancel event is set and the poll in progress is over, the monitor makes one last call of
the action (`lastAction`, no execution) and exits: two engine steps later the engine is stopped and dead. -/
theorem cancelled_then_stopped (cfg : Cfg) (s : St) (o o' : Outcome) (hpc : s.pc = .idle)
    (hc : s.cancel = true) :
    let s' := step cfg (step cfg s (.eng o)) (.eng o')
    s'.pc = .stopped ∧ alive s' = false ∧ s'.execLog = s.execLog := by
  simp [step, engStep, hpc, hc, alive]

/-- nothing happens to the execution log after the monitor exited -/
theorem stopped_no_more_launches (cfg : Cfg) (s : St) (o : Outcome) (hpc : s.pc = .stopped) :
    (step cfg s (.eng o)).execLog = s.execLog ∧ (step cfg s (.eng o)).pc = .stopped := by
  simp [step, engStep, hpc]

/-! ## Non-vacuity: concrete scripted histories satisfying the hypotheses -/

def cfgFixed : Cfg :=
  { retries := 3, dieAfter := false, prods := [⟨0, true, true⟩], pre := [],
    guardNone := true, killOnSuicidePoll := true, killAfterLaunch := true }

private def it0 : Iter := { gap := [], s0 := [], s1 := [], s2 := [], s3 := [], s4 := [], out := .ok }

/-- output, a launch, more output and the notification between the output check and the producers-done
sample of the second poll, then a successful launch that sees the final output: stopped by `success` -/
def histSuccess : List Op :=
  (runScript cfgFixed (init cfgFixed)
    [{ it0 with s0 := [.out 0] }, { it0 with s1 := [.out 0, .fin] }, it0, it0]).2

example : Fixed cfgFixed ∧ 1 ≤ cfgFixed.retries ∧ cfgFixed.preOutput = false :=
  ⟨⟨rfl, rfl⟩, by decide, rfl⟩

example : let s := exec cfgFixed histSuccess
    s.cause = some .success ∧ s.consume = true ∧ s.hasOutput = true ∧ s.prodDone = true ∧
    s.pc = .stopped ∧ s.execLog.length = 2 ∧ s.retries = 2 ∧ s.pollsFin = 1 := by decide +kernel

def cfgNonRep : Cfg := { cfgFixed with prods := [⟨0, true, false⟩] }

/-- the task generator raises on every launch after the producers finished (non-repeating producer, so
every poll launches): with the repair every failed launch uses up a retry and the engine stops by `retries`
after 4 polls -/
def histRaises : List Op :=
  (runScript cfgNonRep (init cfgNonRep)
    ([{ it0 with s0 := [.out 0] }, { it0 with gap := [.fin], out := .raised }] ++
      List.replicate 7 { it0 with out := .raised })).2

example : let s := exec cfgNonRep histRaises
    s.cause = some .retries ∧ s.pc = .stopped ∧ s.pollsFin = 4 ∧ s.books = 4 ∧ s.retries = 0 ∧
    s.execLog.length = 5 := by decide +kernel

/-- an execution succeeds while the producer still runs; more output and the notification; the first launch after
it RAISES, the next one succeeds: the failed launch used up a retry, the engine stopped by `success` only after the
started execution (newest log entry started, the one before it not) -/
def histLaunchFailsAfterEarlierSuccess : List Op :=
  (runScript cfgFixed (init cfgFixed)
    [{ it0 with s0 := [.out 0] }, { it0 with gap := [.out 0, .fin], out := .raised }, { it0 with gap := [.adv] }, it0]).2

example : let s := exec cfgFixed histLaunchFailsAfterEarlierSuccess
    s.cause = some .success ∧ s.retries = 2 ∧ s.pc = .stopped ∧
    s.execLog.map (·.started) = [true, false, true] ∧ s.execLog.map (·.pdws) = [true, true, false] := by decide +kernel

/-- three producer entries: component 5 (same stage, listed FIRST, slow), component 2 of an earlier stage,
component 7 (same stage, listed LAST, fast).  Output of 7 alone (several polls) launches nothing; once 5 has
output too the next poll launches. -/
def cfgStaggered : Cfg :=
  { cfgFixed with prods := [⟨5, true, true⟩, ⟨2, false, false⟩, ⟨7, true, true⟩] }

def histStaggered : List Op :=
  (runScript cfgStaggered (init cfgStaggered)
    [{ it0 with s0 := [.out 7] }, { it0 with gap := [.out 7] }, it0]).2

example : (⟨5, true, true⟩ : Prod) ∈ cfgStaggered.prods ∧ (5 : Nat) ∉ cfgStaggered.pre ∧
    Op.env (.out 5) ∉ histStaggered ∧ Op.env (.out 7) ∈ histStaggered ∧
    (exec cfgStaggered histStaggered).hasOutput = true ∧ (exec cfgStaggered histStaggered).books = 0 := by
  decide +kernel

example : let h := histStaggered ++ [.env (.out 5), .eng .ok, .eng .ok, .eng .ok]
    (exec cfgStaggered (h ++ [.eng .ok])).execLog ≠ (exec cfgStaggered h).execLog ∧
    (exec cfgStaggered (h ++ [.eng .ok])).consume = true := by decide +kernel

/-- producers of an earlier stage only: can consume from the start -/
example : (exec { cfgFixed with prods := [⟨0, false, false⟩] } [.eng .ok, .eng .ok, .eng .ok, .eng .ok]).execLog.length = 1 := by
  decide

/-! ## The subscription that delivers the producers-finished notification -/

open St4sd.RepeatSub

/-- The notification is delivered exactly when ALL producers are finished and not before: for every list of
producer references `refs` (a producer may be referenced several times) and every sequence `h` of stage-in /
component finishes / engine exits (any order, components that are no producers included, producers already
finished before stage-in included), `notify_all_producers_finished` has been called iff the observer was
staged in and every referenced producer has finished. -/
theorem notified_iff_all_producers_finished (refs : List Pid) (h : List SubOp) :
    (subExec refs h).notified = true ↔ (SubOp.stageIn ∈ h ∧ ∀ p ∈ refs, SubOp.pfin p ∈ h) := by
  obtain ⟨_, hw, hn, _⟩ := subInv_all refs h
  have hst := stagedIn_iff h (Sub.init refs)
  have hfin := fun p => finished_iff p h (Sub.init refs)
  simp only [subExec] at hw hn ⊢
  simp_all [Sub.init, List.isEmpty_iff, List.filter_eq_nil_iff]

/-- an engine of a producer that exits - and may be restarted by the controller - while the component stays
alive (postmortem / running again) is no finish: it never makes the subscription fire and leaves its state
unchanged -/
theorem engine_exit_is_no_finish (s : Sub) (p : Pid) :
    fires s (.pexit p) = false ∧ subStep s (.pexit p) = s := by
  simp [fires, subStep, b2n]

/-- … for whole histories: any number of engine exits and restarts of any component, anywhere in the history
(producer exits -> is restarted -> exits for good and is finished), changes nothing about whether the
notification has been delivered: only the finishes of the components count. -/
theorem notification_ignores_engine_exits (refs : List Pid) (h : List SubOp) :
    (subExec refs h).notified =
      (subExec refs (h.filter (fun o => match o with | .pexit _ => false | _ => true))).notified := by
  rw [Bool.eq_iff_iff, notified_iff_all_producers_finished, notified_iff_all_producers_finished]
  simp [List.mem_filter]

/-- it is called at most once -/
theorem notified_at_most_once (refs : List Pid) (h : List SubOp) : (subExec refs h).count ≤ 1 := by
  rw [(subInv_all refs h).2.2.2]
  cases (subExec refs h).notified <;> decide

/-- The composed system is the poll protocol run on the projected history: every theorem about all histories
of `St4sd.Repeat` holds for the engine of the composed system. -/
theorem composed_is_history (cfg : Cfg) (refs : List Pid) (h : List COp) :
    (cexec cfg refs h).eng = exec cfg (project (Sub.init refs) h) ∧
    (cexec cfg refs h).sub = subExec refs (subOps h) :=
  ⟨crun_eng cfg h _, crun_sub cfg h _⟩

/-- In the composed system the engine's producers-finished flag means: the observer was staged in and ALL
its producers have finished. -/
theorem prodDone_iff_all_producers_finished (cfg : Cfg) (refs : List Pid) (h : List COp) :
    (cexec cfg refs h).eng.prodDone = true ↔
      (SubOp.stageIn ∈ subOps h ∧ ∀ p ∈ refs, SubOp.pfin p ∈ subOps h) := by
  rw [← notified_iff_all_producers_finished, ← (composed_is_history cfg refs h).2]
  exact Bool.eq_iff_iff.mp (crun_prodDone cfg h _ rfl)

/-- Clause 2a for the composed system: as long as some producer has not finished (or the observer was not
staged in), nobody but an external `kill()` sets the cancel event. -/
theorem no_early_stop_all_producers (cfg : Cfg) (refs : List Pid) (h : List COp) :
    (cexec cfg refs h).eng.cancel = true →
    ¬ (SubOp.stageIn ∈ subOps h ∧ ∀ p ∈ refs, SubOp.pfin p ∈ subOps h) →
    (cexec cfg refs h).eng.cause = some .external := by
  intro hc hn
  have hp : (cexec cfg refs h).eng.prodDone = false := Bool.eq_false_iff.mpr fun hpd =>
    hn ((prodDone_iff_all_producers_finished cfg refs h).mp hpd)
  rw [(composed_is_history cfg refs h).1] at hc hp ⊢
  exact no_early_stop cfg _ hc hp

/-- a stop decided by the engine's own bookkeeping happens only after ALL producers finished -/
theorem self_stop_after_all_producers_finished (cfg : Cfg) (refs : List Pid) (h : List COp) :
    selfCause (cexec cfg refs h).eng →
    (SubOp.stageIn ∈ subOps h ∧ ∀ p ∈ refs, SubOp.pfin p ∈ subOps h) := by
  intro hs
  apply (prodDone_iff_all_producers_finished cfg refs h).mp
  rw [(composed_is_history cfg refs h).1] at hs ⊢
  exact self_stop_after_finished cfg _ hs

/-- Clause 3 for the composed system: `pollsFin` (polls begun with the flag set, i.e. by
`prodDone_iff_all_producers_finished` with all producers finished) is bounded by `repeatRetries + 1`. -/
theorem bounded_after_all_producers_finished (cfg : Cfg) (hf : Fixed cfg) (refs : List Pid) (h : List COp) :
    (cexec cfg refs h).eng.pollsFin ≤ cfg.retries + 1 := by
  rw [(composed_is_history cfg refs h).1]
  exact (bounded_after_finished cfg hf _).1

/-! non-vacuity -/

/-- two references to producer 1, one to producer 0 (of an earlier stage, finished before stage-in), a
component 7 that is no producer: the notification comes with the finish of producer 1, not at stage-in and
not with the finish of 7 -/
example :
    (subExec [1, 0, 1] [.pfin 0, .stageIn]).notified = false ∧
    (subExec [1, 0, 1] [.pfin 0, .stageIn, .pfin 7, .pexit 1]).notified = false ∧
    (subExec [1, 0, 1] [.pfin 0, .stageIn, .pfin 7, .pexit 1, .pfin 1]).notified = true ∧
    (subExec [1, 0, 1] [.pfin 0, .stageIn, .pfin 7, .pexit 1, .pfin 1, .pfin 1, .stageIn]).count = 1 := by decide +kernel

/-- all producers finished before stage-in (or no producers): notified at stage-in -/
example : (subExec [0, 2] [.pfin 2, .pfin 0, .stageIn]).notified = true ∧
    (subExec [] [.stageIn]).notified = true ∧ (subExec [0] [.pfin 0]).notified = false := by decide +kernel

/-- a composed history: producer 0 finished earlier, stage-in, output, a launch, producer 1 finishes while the
task runs, next poll launches again and succeeds: stopped by `success` after all producers finished -/
def cfgTwoStages : Cfg := { cfgFixed with prods := [⟨1, true, true⟩, ⟨0, false, false⟩] }

def histComposed : List COp :=
  [.ev (.sub (.pfin 0)), .ev (.sub .stageIn), .ev (.x (.out 1)), .eng .ok, .eng .ok, .eng .ok, .eng .ok,
   .ev (.x (.out 1)), .ev (.sub (.pfin 1)), .eng .ok, .eng .ok,
   .eng .ok, .eng .ok, .eng .ok, .eng .ok, .eng .ok, .eng .ok, .eng .ok, .eng .ok]

example : let c := cexec cfgTwoStages [1, 0] histComposed
    c.eng.cause = some .success ∧ c.eng.prodDone = true ∧ c.eng.pc = .stopped ∧ c.eng.execLog.length = 2 ∧
    c.sub.notified = true ∧ c.sub.count = 1 := by decide +kernel

/-! ## The kill-after-producers-done delay: armed whenever the notification arrives, stops the engine when it expires -/

/-- `notify_all_producers_finished` arms the kill-delay timer whenever a delay is configured and the engine is alive -
after ANY history, whether or not `run()` has been called in it (`started`). -/
theorem kill_delay_timer_armed_whether_or_not_started (cfg : Cfg) (hd : cfg.dieAfter = true) (h : List Op)
    (hal : alive (exec cfg h) = true) : (exec cfg (h ++ [.env .fin])).armed = true := by
  rw [exec_snoc]
  simp [step, envStep, hd, hal]

/-- … in particular when the notification PRECEDES `run()` (what `ComponentState.stageIn` does when no producer is
alive at stage-in): after any operations of the environment and the notification the engine has not been started
and the timer is pending. -/
theorem notification_before_run_arms_timer (cfg : Cfg) (hd : cfg.dieAfter = true) (es : List Ev)
    (hk : Ev.kill ∉ es) (hdie : Ev.die ∉ es) :
    (exec cfg (envs es ++ [.env .fin])).started = false ∧ (exec cfg (envs es ++ [.env .fin])).armed = true := by
  obtain ⟨h1, h2⟩ := run_envs cfg es (init cfg)
  refine ⟨?_, kill_delay_timer_armed_whether_or_not_started cfg hd _ ?_⟩
  · rw [exec_snoc, (step_trans ..).env.1]
    exact h1
  · rw [alive, exec, h2 hk hdie]
    rfl

/-- In every history: once the producers are finished (and a delay is configured) the timer is pending, has expired,
or the engine had already been cancelled - the delay is never silently dropped. -/
theorem kill_delay_pending_or_expired_after_notification (cfg : Cfg) (hd : cfg.dieAfter = true) (h : List Op)
    (hp : (exec cfg h).prodDone = true) :
    (exec cfg h).armed = true ∨ (exec cfg h).suicide = true ∨ (exec cfg h).cancel = true := by
  obtain ⟨-, -, -, htimer, -⟩ := (inv_exec cfg h).b
  exact htimer hd hp

/-- "… or the configured kill delay expires" (partial): for every history `h` after which the timer is pending, if it
expires now (`die`) then after ANY continuation `h2` in which the engine thread takes two more sub-steps the cancel event
is set - whatever the tasks do: a running task that never ends by itself (`Outcome.hang`) is killed, and no launch
follows the expiry.
PARTIAL (this is the statement that also holds for the code before the repair `killAfterLaunch`): the
expiry must not fall between the `_suicide` check at the start of a poll and its launch (`Pc.window`): there the code
before the repair launches a task nobody will kill (`Witness.kill_delay_expiring_before_launch_…`); when the tasks
end by themselves the window does not matter (`kill_delay_expiry_stops_when_tasks_end`).  The full statement for the
repaired code is `kill_delay_expiry_stops`. -/
theorem kill_delay_expiry_stops_partial (cfg : Cfg) (hf : Fixed cfg) (h h2 : List Op)
    (ha : (exec cfg h).armed = true) (hw : (exec cfg h).pc.window = false) (hn : 2 ≤ engCount h2) :
    (exec cfg (h ++ Op.env .die :: h2)).cancel = true :=
  expiry_stops hf h h2 ha (Or.inl hw) (by simpa [hw] using hn)

/-- "… or the configured kill delay expires", full strength, for the code with `guardNone`, `killOnSuicidePoll` and
`killAfterLaunch` (`Fixed3`): for EVERY history `h` after which the timer is pending - wherever the engine thread stands, the window between the `_suicide` check of a poll
and its launch included - if the delay expires now, then after ANY continuation in which the engine thread takes four
more sub-steps the cancel event is set, whatever the tasks do: a task that never ends by itself is killed, also one
that is launched right after the expiry. -/
theorem kill_delay_expiry_stops (cfg : Cfg) (hf : Fixed3 cfg) (h h2 : List Op)
    (ha : (exec cfg h).armed = true) (hn : 4 ≤ engCount h2) :
    (exec cfg (h ++ Op.env .die :: h2)).cancel = true :=
  expiry_stops hf.1 h h2 ha (Or.inr (Or.inr hf.2)) (by split <;> omega)

/-- … the notification precedes `run()`, the delay is configured: whatever happens in between (`h1`, no external kill
needed), once the delay expires the engine stops within four sub-steps of its thread. -/
theorem notified_before_run_then_delay_expires_then_stops (cfg : Cfg) (hf : Fixed3 cfg) (hd : cfg.dieAfter = true)
    (h1 h2 : List Op) (ha : (exec cfg (Op.env .fin :: h1)).armed = true) (hn : 4 ≤ engCount h2) :
    (exec cfg [Op.env .fin]).started = false ∧ (exec cfg [Op.env .fin]).armed = true ∧
    (exec cfg ((Op.env .fin :: h1) ++ Op.env .die :: h2)).cancel = true := by
  obtain ⟨hs, harm⟩ := notification_before_run_arms_timer cfg hd [] nofun nofun
  exact ⟨hs, harm, kill_delay_expiry_stops cfg hf _ h2 ha hn⟩

/-- … and for tasks that end by themselves, wherever the expiry falls: four sub-steps of the engine thread later the
cancel event is set. -/
theorem kill_delay_expiry_stops_when_tasks_end (cfg : Cfg) (hf : Fixed cfg) (h h2 : List Op)
    (ha : (exec cfg h).armed = true) (hh : ∀ op ∈ h2, op ≠ .eng .hang) (hn : 4 ≤ engCount h2) :
    (exec cfg (h ++ Op.env .die :: h2)).cancel = true :=
  expiry_stops hf h h2 ha (Or.inr (Or.inl hh)) (by split <;> omega)

/-- non-vacuity: the notification precedes `run()`, the observer's task never ends by itself; the delay expires while
it runs: the task is killed, the engine stops (and is dead after the monitor's last call) -/
def cfgKill : Cfg := { cfgFixed with dieAfter := true, prods := [⟨0, true, false⟩], pre := [0] }

example : (exec cfgKill [.env .fin]).started = false ∧ (exec cfgKill [.env .fin]).armed = true ∧
    (exec cfgKill [.env .fin]).pc.window = false := by decide

example : let h := [Op.env .fin, .eng .hang, .eng .hang, .eng .hang, .eng .hang, .eng .hang, .eng .hang]
    blocked (exec cfgKill h) = true ∧ (exec cfgKill h).armed = true ∧ (exec cfgKill h).execLog.length = 1 ∧
    (exec cfgKill (h ++ Op.env .die :: [.eng .hang, .eng .hang])).cancel = true ∧
    alive (exec cfgKill (h ++ Op.env .die :: [.eng .hang, .eng .hang, .eng .hang, .eng .hang])) = false := by decide +kernel

example : Fixed3 cfgKill := ⟨⟨rfl, rfl⟩, rfl⟩

/-- the expiry falls into the window, the task launched afterwards never ends by itself: killed at once, stopped -/
example : let h := [Op.env .fin, .eng .hang, .eng .hang]
    (exec cfgKill h).armed = true ∧ (exec cfgKill h).pc.window = true ∧
    (exec cfgKill (h ++ Op.env .die :: [.eng .hang, .eng .hang, .eng .hang, .eng .hang])).cancel = true ∧
    (exec cfgKill (h ++ Op.env .die :: [.eng .hang, .eng .hang, .eng .hang, .eng .hang])).execLog.length = 1 := by decide +kernel

/-! ## Working directories of producers: staged-in inputs are not output -/

open St4sd.RepeatDir

/-- `Job.stageIn()` of a component without copy-out references - whatever it stages by direct references (`direct`),
by references to other components (`comp`), both or nothing, into whatever directory - leaves NO output: everything
that is in the directory afterwards is recorded as input. -/
theorem staged_inputs_are_not_output (direct comp : List File) (d : Dir) :
    (stageIn direct comp [] d).output = [] := by
  rw [stageIn_eq]; exact output_updateInputs _

/-- after stage-in a file is output iff the component's task wrote it and it is not one of the staged files -/
theorem output_iff_written_and_not_staged (direct comp ws : List File) (d : Dir) (g : File) :
    g ∈ (drun (stageIn direct comp [] d) (writes ws)).output ↔
      g ∈ ws ∧ g ∉ (stageIn direct comp [] d).files := by
  rw [mem_output, drun_write_files, drun_write_inputs, stageIn_inputs]
  constructor
  · rintro ⟨h1 | h1, h2⟩
    · exact ⟨h1, h2⟩
    · exact absurd h1 h2
  · rintro ⟨h1, h2⟩
    exact ⟨Or.inl h1, h2⟩

/-- Clause 1 on directories: as long as every directory of some producer `p` of the observer's own stage holds staged
inputs only (no output), `Engine.canConsume` is false - whatever the other producers have written. -/
theorem canConsume_false_until_producer_writes (cfg : Cfg) (ds : List (Nat × Dir)) (p : Prod)
    (hp : p ∈ cfg.prods) (hs : p.same = true) (hd : ∀ x ∈ ds, x.1 = p.id → x.2.output = []) :
    canConsume cfg (outsOf ds) = false := by
  refine Bool.eq_false_iff.mpr fun hc => ?_
  have hm := (canConsume_iff cfg _).mp hc p hp hs
  simp only [outsOf, List.mem_map, List.mem_filter] at hm
  obtain ⟨x, ⟨hx, hne⟩, hid⟩ := hm
  rw [hd x hx hid] at hne
  exact Bool.false_ne_true hne

/-- … so a producer that was only staged in (direct references, component references, both, none) and whose task has
written nothing blocks its observer; the first file it writes that is not a staged one unblocks it -/
theorem only_staged_producer_blocks_observer (cfg : Cfg) (p : Prod) (hp : p ∈ cfg.prods) (hs : p.same = true)
    (direct comp : List File) (d : Dir) (others : List (Nat × Dir)) (ho : ∀ x ∈ others, x.1 ≠ p.id) :
    canConsume cfg (outsOf ((p.id, stageIn direct comp [] d) :: others)) = false := by
  apply canConsume_false_until_producer_writes cfg _ p hp hs
  intro x hx hid
  rcases List.mem_cons.mp hx with h1 | h1
  · rw [h1]; exact staged_inputs_are_not_output direct comp d
  · exact absurd hid (ho x h1)

example : (stageIn [1, 2] [3] [] Dir.fresh).files = [3, 2, 1] ∧ (stageIn [1, 2] [3] [] Dir.fresh).output = [] ∧
    (drun (stageIn [1, 2] [3] [] Dir.fresh) (writes [2, 10])).output = [10] ∧
    canConsume cfgFixed (outsOf [(0, stageIn [1, 2] [] [] Dir.fresh)]) = false ∧
    canConsume cfgFixed (outsOf [(0, drun (stageIn [1, 2] [] [] Dir.fresh) (writes [10]))]) = true := by decide +kernel

end St4sd.C13
