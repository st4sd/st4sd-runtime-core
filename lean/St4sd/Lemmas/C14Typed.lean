import St4sd.Model.FsAtomic
/-! Lemmas about typed stored values (`St4sd.TypedStore`): the structural test `YVal.beq` decides equality, Python's `==`
is reflexive, and a history of updates ends with its last update. -/
namespace St4sd.TypedStore

mutual
theorem YVal.beq_iff : ∀ a b : YVal, YVal.beq a b = true ↔ a = b
  | .null, b | .bool _, b | .int _, b | .float _ _, b | .fspec _, b | .str _, b => by cases b <;> simp [YVal.beq]
  | .seq l, b | .map l, b => by cases b <;> simp [YVal.beq, YList.beq_iff l]
theorem YList.beq_iff : ∀ a b : YList, YList.beq a b = true ↔ a = b
  | .nil, b => by cases b <;> simp [YList.beq]
  | .cons v t, b => by cases b <;> simp [YList.beq, YVal.beq_iff v, YList.beq_iff t]
end

theorem YList.beq_refl : ∀ l : YList, YList.beq l l = true := fun l => (YList.beq_iff l l).2 rfl

theorem YList.eq_of_beq : ∀ a b : YList, YList.beq a b = true → a = b := fun a b => (YList.beq_iff a b).1

instance : DecidableEq YVal := fun a b =>
  if h : YVal.beq a b = true then isTrue ((YVal.beq_iff a b).1 h)
  else isFalse (fun e => h ((YVal.beq_iff a b).2 e))

theorem numEq_refl (x : Sum (Int × Nat) Bool) : numEq x x = true := by
  rcases x with ⟨m, e⟩ | b <;> simp [numEq]

mutual
theorem pyEq_refl : ∀ v : YVal, pyEq v v = true
  | .null | .str _ => by simp [pyEq]
  | .bool _ | .int _ | .float _ _ | .fspec 0 | .fspec 1 | .fspec (_ + 2) => by simp [pyEq, numOf, numEq_refl]
  | .seq l | .map l => by simp [pyEq, pyEqL_refl l]
theorem pyEqL_refl : ∀ l : YList, pyEqL l l = true
  | .nil => rfl
  | .cons v t => by simp [pyEqL, pyEq_refl v, pyEqL_refl t]
end

theorem runStore_append (w : Stored → YVal → Stored) (init : Stored) (h : List YVal) (v : YVal) :
    runStore w init (h ++ [v]) = w (runStore w init h) v := by
  simp [runStore, List.foldl_append]

end St4sd.TypedStore
