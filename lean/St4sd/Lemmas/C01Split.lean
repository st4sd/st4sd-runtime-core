import St4sd.Lemmas.C01
/-!
# C01 — the invariant of the controller model survives the splitting of `finishedCheck`

`SplitInv wf s` = the invariant `C01L.Inv` of the underlying state + every notification in flight belongs
to a component whose state is final (that is what `fin c ∈ pending` guaranteed when the handler took
the notification, and final states are permanent).  Every split operation preserves it; `run` is the
special case of a history without split deliveries.
-/
namespace St4sd.C01L
open St4sd.Ctrl

structure SplitInv (wf : Wf) (s : SSt) : Prop where
  inv : Inv wf s.base
  fly : ∀ e ∈ s.inflight, (s.base.comp e.1).ctrl.isSome = true

theorem sinit_inv (wf : Wf) : SplitInv wf sinit :=
  ⟨init_inv wf, fun _ he => by simp [sinit] at he⟩

theorem sstep_spec (wf : Wf) {s : SSt} (h : SplitInv wf s) (op : SOp) :
    SplitInv wf (sstep wf s op) ∧ Keeps s.base (sstep wf s op).base := by
  -- a new underlying state that keeps the final states, with notifications in flight of components final in `s`
  have mk : ∀ {t : St} {fl : List (Nat × Phase)}, Inv wf t ∧ Keeps s.base t →
      (∀ e ∈ fl, (s.base.comp e.1).ctrl.isSome = true) → SplitInv wf ⟨t, fl⟩ ∧ Keeps s.base t :=
    fun p hfl => ⟨⟨p.1, fun e he => p.2.isSome e.1 (hfl e he)⟩, p.2⟩
  cases op with
  | base o => exact mk (step_spec wf h.inv o) h.fly
  | complete k => exact mk (h.inv.of_quiet (stopStage_spec wf h.inv.core k)) h.fly
  | finPre c =>
    simp only [sstep]
    split
    · next hm =>
      refine mk (h.inv.of_quiet (erase_spec h.inv.core (Notif.fin c))) fun e he => ?_
      rcases List.mem_append.1 he with he | he
      · exact h.fly e he
      · cases List.mem_singleton.1 he; exact h.inv.core.pend c hm
    · exact ⟨h, fun _ _ hc => hc⟩
  | finCrit c =>
    simp only [sstep]
    split
    · next hm =>
      refine mk (h.inv.of_quiet (finCritical_spec wf h.inv.core c)) fun e he => ?_
      rcases List.mem_append.1 he with he | he
      · exact h.fly e (List.mem_of_mem_erase he)
      · cases List.mem_singleton.1 he; exact h.fly (c, .waitLock) hm
    · exact ⟨h, fun _ _ hc => hc⟩
  | finPost c =>
    simp only [sstep]
    split
    · next hm =>
      exact mk (h.inv.of_quiet (finRecord_spec h.inv.core c (h.fly _ hm))) fun e he =>
        h.fly e (List.mem_of_mem_erase he)
    · exact ⟨h, fun _ _ hc => hc⟩

theorem sfoldl_inv (wf : Wf) (ops : List SOp) (s : SSt) (h : SplitInv wf s) :
    SplitInv wf (ops.foldl (sstep wf) s) ∧ Keeps s.base (ops.foldl (sstep wf) s).base :=
  List.foldlRecOn (motive := fun t => SplitInv wf t ∧ Keeps s.base t.base) ops (sstep wf) ⟨h, fun _ _ hc => hc⟩
    fun _ ht op _ => ⟨(sstep_spec wf ht.1 op).1, fun c f hc => (sstep_spec wf ht.1 op).2 c f (ht.2 c f hc)⟩

theorem srun_inv (wf : Wf) (ops : List SOp) : SplitInv wf (srun wf ops) :=
  (sfoldl_inv wf ops sinit (sinit_inv wf)).1

theorem srun_append_keeps (wf : Wf) (sops sops' : List SOp) :
    Keeps (srun wf sops).base (srun wf (sops ++ sops')).base := by
  unfold srun
  rw [List.foldl_append]
  exact (sfoldl_inv wf sops' _ (srun_inv wf sops)).2

/-! ## histories of unsplit operations are histories of the split system -/

theorem srun_base (wf : Wf) (ops : List Op) : ∀ (s : SSt),
    (ops.map SOp.base).foldl (sstep wf) s = { s with base := ops.foldl (step wf) s.base } := by
  induction ops with
  | nil => intro s; rfl
  | cons op ops ih => intro s; simp only [List.map_cons, List.foldl_cons]; rw [ih]; rfl

theorem srun_map_base (wf : Wf) (ops : List Op) : (srun wf (ops.map .base)).base = run wf ops := by
  unfold srun run
  rw [srun_base]
  rfl

theorem run_inv (wf : Wf) (ops : List Op) : Inv wf (run wf ops) :=
  srun_map_base wf ops ▸ (srun_inv wf (ops.map .base)).inv

theorem run_append_keeps (wf : Wf) (ops ops' : List Op) : Keeps (run wf ops) (run wf (ops ++ ops')) := by
  rw [← srun_map_base, ← srun_map_base, List.map_append]
  exact srun_append_keeps wf _ _

end St4sd.C01L
