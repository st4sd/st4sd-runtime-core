import St4sd.Model.HashCache
import St4sd.Model.HashExe
/-!
Witnesses for C16 (machine-checked, `decide`): the inputs on which the code violates the full statement — before a repair where
the witness says so, still where it names a known finding.  `md5 := fun x => 'h' :: x` is a concrete *injective* stand-in, so none of the equalities below is
an md5 collision.  The harness replays the same inputs on the real code (corpus of harness/c16.py).

Before the kernel evaluates a statement, every `"…".toList` in it is rewritten to the list of its characters
(`String.toList_ofList`, after unfolding the definitions that hold the literals): left to itself the kernel
decodes a literal from its UTF-8 bytes, in time quadratic in its length.
-/
namespace St4sd.C16.Witness
open St4sd.Str St4sd.Hash

def md5 (x : S) : S := 'h' :: x

theorem md5_injective : ∀ a b, md5 a = md5 b → a = b := by
  intro a b h; simpa [md5] using h

def inputRef : Ref :=
  ⟨"input/a.txt:ref".toList, "input/a.txt:ref".toList, "ref".toList, [], .file (some "AAA".toList)⟩

def comp (name : String) (stage : Nat) (exe : String) : Comp :=
  { name := name.toList, stage := stage, location := [], mtime := 0, replica := none, exe := exe.toList,
    args := "-l input/a.txt:ref".toList, refs := [inputRef], backend := .loc }

def bps : Blueprints :=
  [((0, "calc".toList), "/bin/ls".toList), ((0, "calc2".toList), "/bin/cat".toList),
   ((1, "step7".toList), "/bin/cat".toList)]

/-- the blueprint looked up by `name.rstrip(digits)` (before the repair): `calc2` (`/bin/cat`) is hashed with the
executable of `calc` (`/bin/ls`): same strong hash for different work … -/
theorem old_blueprint_lookup_false_reuse :
    hashOneOld md5 false bps [] (comp "calc2" 0 "/bin/cat") = hashOneOld md5 false bps [] (comp "calc" 0 "/bin/ls")
    ∧ (hashOneOld md5 false bps [] (comp "calc" 0 "/bin/ls")).isSome = true := by
  unfold comp inputRef bps
  simp -index only [String.toList_ofList]
  decide +kernel

/-- … and `step7` (there is no component `step`) gets no hash although its input is present. -/
theorem old_blueprint_lookup_no_hash : hashOneOld md5 false bps [] (comp "step7" 1 "/bin/cat") = none := by decide +kernel

/-- … and so do the replicas `calc20`, `calc21` of a replicated `calc2` when there is no `calc`. -/
theorem old_blueprint_lookup_replica_no_hash :
    hashOneOld md5 false [((0, "calc2".toList), "/bin/ls".toList)] []
      { comp "calc21" 0 "/bin/ls" with replica := some 1 } = none := by decide +kernel

/-- after the repair the three components are told apart / hashed -/
theorem new_blueprint_lookup :
    hashOne md5 false bps [] (comp "calc2" 0 "/bin/cat") ≠ hashOne md5 false bps [] (comp "calc" 0 "/bin/ls")
    ∧ (hashOne md5 false bps [] (comp "step7" 1 "/bin/cat")).isSome = true
    ∧ (hashOne md5 false [((0, "calc2".toList), "/bin/ls".toList)] []
        { comp "calc21" 0 "/bin/ls" with replica := some 1 }).isSome = true := by
  unfold comp inputRef bps
  simp -index only [String.toList_ofList]
  decide +kernel

/-- known finding C16-serialisation-no-separators: `(arguments "a", executable "bexecutablec")` and
`(arguments "aexecutableb", executable "c")` are different infos with the same buffer — the key word occurs inside a
value -/
theorem collision_keyword_inside_value :
    (⟨none, "a".toList, "bexecutablec".toList, []⟩ : Info) ≠ ⟨none, "aexecutableb".toList, "c".toList, []⟩
    ∧ serialize ⟨none, "a".toList, "bexecutablec".toList, []⟩ = serialize ⟨none, "aexecutableb".toList, "c".toList, []⟩ := by
  simp -index only [String.toList_ofList]
  decide +kernel

/-- … and no value needs to contain a whole key word: `executable` overlaps itself by one letter -/
theorem collision_keyword_overlap :
    (⟨none, "xexecutabl".toList, "E".toList, []⟩ : Info) ≠ ⟨none, "x".toList, "xecutableE".toList, []⟩
    ∧ serialize ⟨none, "xexecutabl".toList, "E".toList, []⟩ = serialize ⟨none, "x".toList, "xecutableE".toList, []⟩ := by
  simp -index only [String.toList_ofList]
  decide +kernel

def plain (name exe args : String) : Comp :=
  { name := name.toList, stage := 0, location := [], mtime := 0, replica := none, exe := exe.toList,
    args := args.toList, refs := [], backend := .loc }

/-- the same at the level of components: equal strong hashes for different executables and arguments -/
theorem collision_components :
    hashOne md5 false [((0, "c".toList), "bexecutablec".toList)] []
      (plain "c" "bexecutablec" "a")
    = hashOne md5 false [((0, "c".toList), "c".toList)] []
      (plain "c" "c" "aexecutableb") := by
  unfold plain
  simp -index only [String.toList_ofList]
  decide +kernel

def dock (image : String) : Comp :=
  { name := "dock".toList, stage := 0, location := [], mtime := 0, replica := none, exe := "/bin/cat".toList,
    args := "hi".toList, refs := [], backend := .docker image.toList }

/-- docker backend before the repair: the image is not part of the hash -/
theorem old_docker_image_ignored :
    hashOneOld md5 false [((0, "dock".toList), "/bin/cat".toList)] [] (dock "foo/bar:1")
      = hashOneOld md5 false [((0, "dock".toList), "/bin/cat".toList)] [] (dock "foo/bar:2")
    ∧ hashOne md5 false [((0, "dock".toList), "/bin/cat".toList)] [] (dock "foo/bar:1")
      ≠ hashOne md5 false [((0, "dock".toList), "/bin/cat".toList)] [] (dock "foo/bar:2") := by
  unfold dock
  simp -index only [String.toList_ofList]
  decide +kernel

def dirCopyConsumer : Comp :=
  { name := "run0".toList, stage := 1, location := [], mtime := 0, replica := none, exe := "exe2".toList,
    args := "go".toList, backend := .loc,
    refs := [⟨"stage0.post9:copy".toList, "post9:copy".toList, "copy".toList, [], .prodDir 0⟩] }

/-- known finding: a producer consumed only through a copy of its working directory does not reach the
consumer's fuzzy (or strong) hash: two different producer hashes, same consumer hash -/
theorem fuzzy_does_not_track_directory_copy :
    hashOne md5 true [((1, "run0".toList), "exe2".toList)] [some "aa".toList] dirCopyConsumer
      = hashOne md5 true [((1, "run0".toList), "exe2".toList)] [some "bb".toList] dirCopyConsumer
    ∧ (hashOne md5 true [((1, "run0".toList), "exe2".toList)] [some "aa".toList] dirCopyConsumer).isSome = true := by
  unfold dirCopyConsumer
  simp -index only [String.toList_ofList]
  decide +kernel

def cfgRef (name : String) : Ref :=
  ⟨("data/" ++ name ++ ":copy").toList, ("data/" ++ name ++ ":copy").toList, "copy".toList, [],
    .file (some "tolerance: 1\n".toList)⟩

def merge (name : String) (refs : List Ref) : Comp :=
  { name := name.toList, stage := 0, location := [], mtime := 0, replica := none, exe := "sh".toList,
    args := "-c \"cat *.cfg\"".toList, refs := refs, backend := .loc }

def mergeBps : Blueprints := [((0, "merge_two".toList), "sh".toList), ((0, "merge_one".toList), "sh".toList)]

/-- `files` as a **set** identifies different work: `merge_two` copies `first.cfg` and `second.cfg` (two files, the
same contents), `merge_one` copies `first.cfg` only; `sh -c "cat *.cfg"` prints the text twice / once.  With a
set of `hash:method` entries both get the same strong and fuzzy hash; the list the code builds tells them apart. -/
theorem set_based_files_identify_different_work :
    hashOneSet md5 false mergeBps [] (merge "merge_two" [cfgRef "first.cfg", cfgRef "second.cfg"])
      = hashOneSet md5 false mergeBps [] (merge "merge_one" [cfgRef "first.cfg"])
    ∧ hashOneSet md5 true mergeBps [] (merge "merge_two" [cfgRef "first.cfg", cfgRef "second.cfg"])
      = hashOneSet md5 true mergeBps [] (merge "merge_one" [cfgRef "first.cfg"])
    ∧ (hashOneSet md5 false mergeBps [] (merge "merge_one" [cfgRef "first.cfg"])).isSome = true
    ∧ hashOne md5 false mergeBps [] (merge "merge_two" [cfgRef "first.cfg", cfgRef "second.cfg"])
      ≠ hashOne md5 false mergeBps [] (merge "merge_one" [cfgRef "first.cfg"])
    ∧ hashOne md5 true mergeBps [] (merge "merge_two" [cfgRef "first.cfg", cfgRef "second.cfg"])
      ≠ hashOne md5 true mergeBps [] (merge "merge_one" [cfgRef "first.cfg"]) := by
  unfold merge cfgRef mergeBps
  simp -index only [String.toList_append, String.toList_ofList]
  decide +kernel

/-- … and the multiplicity is lost beyond "one or more": `[X, X, Y]` and `[X, Y, Y]` (one of three identical
files rewritten with the contents of the third) are the same set -/
theorem set_based_files_identify_rebalanced_contents :
    let x : Ref := cfgRef "a.cfg"
    let x' : Ref := cfgRef "b.cfg"
    let y (n : String) : Ref := { cfgRef n with target := .file (some "tolerance: 2\n".toList) }
    hashOneSet md5 false mergeBps [] (merge "merge_two" [x, x', y "c.cfg"])
      = hashOneSet md5 false mergeBps [] (merge "merge_two" [x, y "b.cfg", y "c.cfg"])
    ∧ hashOne md5 false mergeBps [] (merge "merge_two" [x, x', y "c.cfg"])
      ≠ hashOne md5 false mergeBps [] (merge "merge_two" [x, y "b.cfg", y "c.cfg"]) := by
  unfold merge cfgRef mergeBps
  simp -index only [String.toList_append, String.toList_ofList]
  decide +kernel

/-! ### a hash asked for too early is remembered (sessions, `Model/HashCache.lean`)

`fast` and `slow` feed `consumer` (`cat fast/out.txt:ref slow/out.txt:ref`).  `slow` has written the first half
of its output when some code asks for the hash of the waiting consumer (what a status report that prints the
hashes of pending components does); the hash exists — every file is there — and is remembered.  `slow` then
writes the rest.  The hash that is read afterwards (the CDB look-up of `Controller.can_memoize`) is the
remembered one: not the hash of the final contents.  The session does not keep the discipline
(`disciplinedB = false`: the write goes under the producer cone of a remembered hash); the same reads in a
session without the early request are current. -/

def sref (abs rel : String) (p : Nat) (path : String) : SRef :=
  ⟨abs.toList, rel.toList, "ref".toList, "out.txt".toList, .produced p path.toList⟩

def scomp (name exe args : String) (refs : List SRef) : SComp :=
  { name := name.toList, stage := 0, location := [], mtime := 0, replica := none, exe := exe.toList,
    args := args.toList, refs := refs, backend := .loc }

def sessionComps : List SComp :=
  [scomp "fast" "sh" "-c one" [], scomp "slow" "sh" "-c two" [],
   scomp "consumer" "cat" "fast/out.txt:ref slow/out.txt:ref"
     [sref "stage0.fast/out.txt:ref" "fast/out.txt:ref" 0 "/i/fast/out.txt",
      sref "stage0.slow/out.txt:ref" "slow/out.txt:ref" 1 "/i/slow/out.txt"]]

def sessionBps : Blueprints :=
  [((0, "fast".toList), "sh".toList), ((0, "slow".toList), "sh".toList), ((0, "consumer".toList), "cat".toList)]

/-- `fast` is done, `slow` half-way -/
def sessionFs : Fs :=
  [("/i/fast/out.txt".toList, .file "one\n".toList 1 1), ("/i/slow/out.txt".toList, .file "part\n".toList 2 2)]

def finishSlow : SOp := .fs (.write "/i/slow/out.txt".toList "part\nrest\n".toList 3 2)

/-- the early request: evaluations of the producers and of the consumer before `slow` has finished -/
def earlySession : List SOp :=
  [.compute false 0, .compute false 1, .compute false 2, finishSlow, .compute false 2, .get false 2]

/-- the same without the early request -/
def lateSession : List SOp :=
  [.compute false 0, .compute false 1, finishSlow, .compute false 2, .get false 2]

theorem early_request_freezes_stale_hash :
    let s₀ := Session.new sessionFs 3
    let early := runS md5 sessionBps sessionComps s₀ earlySession
    let late := runS md5 sessionBps sessionComps s₀ lateSession
    -- both sessions end on the same files
    early.fs = late.fs
    -- the consumer's hash that is read at the end of the early session is not the hash of those files …
    ∧ getH early.strong 2 ≠ getH (hashesFs md5 false sessionBps early.fs sessionComps) 2
    ∧ (getH early.strong 2).isSome = true
    -- … it is the hash of the half-written output
    ∧ getH early.strong 2 = getH (hashesFs md5 false sessionBps sessionFs sessionComps) 2
    -- the late session reads the hash of the final contents
    ∧ getH late.strong 2 = getH (hashesFs md5 false sessionBps late.fs sessionComps) 2
    -- the checker: the early session breaks the discipline, the late one keeps it
    ∧ disciplinedB md5 sessionBps sessionComps s₀ earlySession = false
    ∧ disciplinedB md5 sessionBps sessionComps s₀ lateSession = true
    ∧ wellOrderedB sessionComps = true := by
  unfold earlySession lateSession finishSlow sessionFs sessionBps sessionComps scomp sref
  simp -index only [String.toList_ofList]
  decide +kernel

/-! ### a reference to an un-hashable producer left in the arguments by name

What `replacementOf` must not do: leave the reference to the working directory of a producer that has no hash
in the arguments (`some none` instead of `none`).  The consumer would get a hash although a file up the chain
is missing — the same hash for consumers of producers that do different work, and another one after renaming
the producer.  In the model the consumer has no hash (`Props.C16.no_hash_down_the_chain`). -/

def chainComp (name exe args : String) (refs : List Ref) : Comp :=
  { name := name.toList, stage := 0, location := [], mtime := 0, replica := none, exe := exe.toList,
    args := args.toList, refs := refs, backend := .loc }

def chainBps : Blueprints :=
  [((0, "gen".toList), "/bin/echo".toList), ((0, "middle".toList), "/bin/cat".toList),
   ((0, "consumer".toList), "/bin/ls".toList)]

theorem no_hash_below_missing_file :
    let gen := chainComp "gen" "/bin/echo" "hello" []
    let middle := chainComp "middle" "/bin/cat" "gen/out.txt:ref"
      [⟨"stage0.gen/out.txt:ref".toList, "gen/out.txt:ref".toList, "ref".toList, "out.txt".toList, .prodFile 0 none⟩]
    let consumer := chainComp "consumer" "/bin/ls" "-l stage0.middle:ref"
      [⟨"stage0.middle:ref".toList, "middle:ref".toList, "ref".toList, [], .prodDir 1⟩]
    (hashes md5 false chainBps [gen, middle, consumer]).map Option.isSome = [true, false, false]
    ∧ (hashes md5 true chainBps [gen, middle, consumer]).map Option.isSome = [true, false, false] := by
  unfold chainComp chainBps
  simp -index only [String.toList_ofList]
  decide +kernel

/-! ### a reference spelling inside the text that replaced another reference (fuzzy hash, known finding)

The references are replaced in the arguments one after the other, each by `re.sub` over the text as it is by
then.  The fuzzy replacement of a produced file `stage0.N/F:output` is `file:fuzzy#<hash of N>#F:output` — it
ends in `F:output`.  When the producer is itself called `F` and the consumer also names `F:output` (the
standard output of the producer), the second substitution rewrites the inside of the first replacement: the
fuzzy hash of the consumer depends on the producer being called like the file it writes.  With any two other
names the hashes are equal. -/

def namedComp (name : S) (exe args : String) (refs : List Ref) : Comp :=
  { name := name, stage := 0, location := [], mtime := 0, replica := none, exe := exe.toList,
    args := args.toList, refs := refs, backend := .loc }

def namedProducer (n : S) : Comp := namedComp n "exe2" "input" []

def namedConsumer (n : S) : Comp :=
  { namedComp "sim3".toList "/bin/cat" ""
      [⟨"stage0.".toList ++ n ++ ":ref".toList, n ++ ":ref".toList, "ref".toList, [], .prodDir 0⟩,
       ⟨"stage0.".toList ++ n ++ "/x:output".toList, n ++ "/x:output".toList, "output".toList, "x".toList,
         .prodFile 0 (some "xx".toList)⟩,
       ⟨"stage0.".toList ++ n ++ ":output".toList, n ++ ":output".toList, "output".toList, [],
         .prodFile 0 (some [])⟩] with
    args := "@".toList ++ n ++ ":ref ".toList ++ n ++ ":output) a,b=stage0.".toList ++ n ++ "/x:output -l".toList }

def namedBps (n : S) : Blueprints := [((0, n), "exe2".toList), ((0, "sim3".toList), "/bin/cat".toList)]

def hashOfConsumer (fuzzy : Bool) (n : S) : Option S :=
  getH (hashes md5 fuzzy (namedBps n) [namedProducer n, namedConsumer n]) 1

theorem fuzzy_hash_other_names_equal :
    hashOfConsumer true "merge".toList = hashOfConsumer true "calc".toList
    ∧ (hashOfConsumer true "merge".toList).isSome = true := by
  unfold hashOfConsumer namedBps namedProducer namedConsumer namedComp
  simp -index only [String.toList_ofList]
  decide +kernel

theorem fuzzy_hash_depends_on_producer_named_like_its_file :
    hashOfConsumer true "x".toList ≠ hashOfConsumer true "merge".toList := by
  unfold hashOfConsumer namedBps namedProducer namedConsumer namedComp
  simp -index only [String.toList_ofList]
  decide +kernel

/-- the strong hashes are not affected -/
theorem strong_hash_of_producer_named_like_its_file :
    hashOfConsumer false "x".toList = hashOfConsumer false "merge".toList := by
  unfold hashOfConsumer namedBps namedProducer namedConsumer namedComp
  simp -index only [String.toList_ofList]
  decide +kernel

/-! ### reading the executable from the validated live configuration (not the code: `Source.liveConfiguration`)

`single` runs the pathless `tool.sh` that the package ships in `bin/` (found through `PATH: $INSTANCE_DIR/bin:$PATH`);
`many1` is a replica of `many`, declared with the same executable.  After validation the live configuration of the
instance at `/i1` holds `/i1/bin/tool.sh`, the one at `/i2` holds `/i2/bin/tool.sh`. -/

def toolProbe (base : String) : Probe :=
  { which := some (base ++ "/bin/tool.sh").toList, real := [], ok := [(base ++ "/bin/tool.sh").toList] }

def toolConf : Conf :=
  { unrep := [((0, "single".toList), "tool.sh".toList), ((0, "many".toList), "tool.sh".toList)],
    live := [((0, "single".toList), "tool.sh".toList), ((0, "many1".toList), "tool.sh".toList)] }

def validatedAt (base : String) : Conf := toolConf.validate base.toList [toolProbe base, toolProbe base]

def single : Comp := comp "single" 0 "tool.sh"
def many1 : Comp := { comp "many1" 0 "tool.sh" with replica := some 1 }

/-- with the live configuration as source the hash of `single` depends on where the instance lives, changes when
the experiment is validated, and differs from the hash of the replica that does the same work … -/
theorem live_executable_depends_on_location_and_validation :
    hashOneFrom .liveConfiguration md5 false (validatedAt "/i1") [] single ≠
      hashOneFrom .liveConfiguration md5 false (validatedAt "/i2") [] single
    ∧ hashOneFrom .liveConfiguration md5 false (validatedAt "/i1") [] single ≠
      hashOneFrom .liveConfiguration md5 false toolConf [] single
    ∧ hashOneFrom .liveConfiguration md5 false (validatedAt "/i1") [] single ≠
      hashOneFrom .liveConfiguration md5 false (validatedAt "/i1") [] many1 := by
  unfold validatedAt toolConf toolProbe single many1 comp inputRef
  simp -index only [String.toList_append, String.toList_ofList]
  decide +kernel

/-- … with the specification as source (the code) all of these are one hash -/
theorem specification_executable_is_stable :
    hashOneFrom .specification md5 false (validatedAt "/i1") [] single =
      hashOneFrom .specification md5 false (validatedAt "/i2") [] single
    ∧ hashOneFrom .specification md5 false (validatedAt "/i1") [] single =
      hashOneFrom .specification md5 false toolConf [] single
    ∧ hashOneFrom .specification md5 false (validatedAt "/i1") [] single =
      hashOneFrom .specification md5 false (validatedAt "/i1") [] many1
    ∧ (hashOneFrom .specification md5 false toolConf [] single).isSome = true := by
  unfold validatedAt toolConf toolProbe single many1 comp inputRef
  simp -index only [String.toList_append, String.toList_ofList]
  decide +kernel

/-! ### the order in which the references are substituted (not the code: `sortRefsAlpha`, the order of the names)

A consumer runs `paste -d, N1/out.txt:ref N2/out.txt:ref prod/out.txt:ref` over the files of three producers `N1`,
`N2` and `prod`.  For `N1 = x-prod`, `N2 = y-prod` the spelling `prod/out.txt:ref` is, at word boundaries, the tail
of the other two.  Longest first (the code, `sortRefs`): every reference stands for its own content.  In the order
of the names `stage0.prod/…` comes first and rewrites the tails of the other two: `x-file:<md5 of prod's file>:ref`;
the places of the arguments no longer say which content is read there (false reuse when the two contents are
exchanged), and what is left of the producer names stays in the hashed text. -/

def insertAlpha (x : Ref) : List Ref → List Ref
  | [] => [x]
  | y :: ys => if lexLe x.abs y.abs then x :: y :: ys else y :: insertAlpha x ys

/-- `sorted(refs, key=spelling)` -/
def sortRefsAlpha : List Ref → List Ref
  | [] => []
  | x :: xs => insertAlpha x (sortRefsAlpha xs)

/-- `infoCore` with the order of the references as a parameter -/
def infoCoreBy (order : List Ref → List Ref) (md5 : S → S) (fuzzy : Bool) (ph : Nat → Option S) (image : Option S)
    (exe args : S) (refs : List Ref) : Option Info :=
  match fileEntries md5 fuzzy ph (order refs) with
  | none => none
  | some entries =>
    match replaceRefs fuzzy (tokens args) entries ph (order refs) args with
    | none => none
    | some a => some ⟨image, a, exe, entries.map (fun e => e.hash ++ ':' :: e.method)⟩

/-- the code is `infoCoreBy sortRefs` -/
theorem infoCoreBy_longest_first (md5 : S → S) (fuzzy : Bool) (ph : Nat → Option S) (image : Option S)
    (exe args : S) (refs : List Ref) :
    infoCoreBy sortRefs md5 fuzzy ph image exe args refs = infoCore md5 fuzzy ph image exe args refs := rfl

def outRef (n : String) (p : Nat) (content : String) : Ref :=
  ⟨("stage0." ++ n ++ "/out.txt:ref").toList, (n ++ "/out.txt:ref").toList, "ref".toList, "out.txt".toList,
    .prodFile p (some content.toList)⟩

/-- strong hash of the consumer of `n1` (contents `c1`), `n2` (contents `c2`) and `prod` -/
def pasteHash (order : List Ref → List Ref) (n1 n2 c1 c2 : String) : Option S :=
  (infoCoreBy order md5 false (fun _ => none) none "paste".toList
    ("-d, " ++ n1 ++ "/out.txt:ref " ++ n2 ++ "/out.txt:ref prod/out.txt:ref").toList
    [outRef n1 0 c1, outRef n2 1 c2, outRef "prod" 2 "RRRR"]).map (hashInfo md5)

/-- in the order of the names: `paste P Q R` and `paste Q P R` get one hash (`md5` is injective: no collision) -/
theorem alphabetical_order_false_reuse :
    pasteHash sortRefsAlpha "x-prod" "y-prod" "PPPP" "QQQQ" = pasteHash sortRefsAlpha "x-prod" "y-prod" "QQQQ" "PPPP"
    ∧ (pasteHash sortRefsAlpha "x-prod" "y-prod" "PPPP" "QQQQ").isSome = true := by
  unfold pasteHash outRef
  simp -index only [String.toList_append, String.toList_ofList]
  decide +kernel

/-- … and the hash depends on what the producers are called -/
theorem alphabetical_order_depends_on_producer_names :
    pasteHash sortRefsAlpha "x-prod" "y-prod" "PPPP" "QQQQ" ≠ pasteHash sortRefsAlpha "u-prod" "v-prod" "PPPP" "QQQQ" := by
  unfold pasteHash outRef
  simp -index only [String.toList_append, String.toList_ofList]
  decide +kernel

/-- longest first (the code): exchanged contents are different work, the names do not matter -/
theorem longest_first_nested_spellings :
    pasteHash sortRefs "x-prod" "y-prod" "PPPP" "QQQQ" ≠ pasteHash sortRefs "x-prod" "y-prod" "QQQQ" "PPPP"
    ∧ pasteHash sortRefs "x-prod" "y-prod" "PPPP" "QQQQ" = pasteHash sortRefs "u-prod" "v-prod" "PPPP" "QQQQ"
    ∧ pasteHash sortRefs "x-prod" "y-prod" "PPPP" "QQQQ" = pasteHash sortRefs "work" "calc7" "PPPP" "QQQQ"
    ∧ (pasteHash sortRefs "x-prod" "y-prod" "PPPP" "QQQQ").isSome = true := by
  unfold pasteHash outRef
  simp -index only [String.toList_append, String.toList_ofList]
  decide +kernel

end St4sd.C16.Witness
