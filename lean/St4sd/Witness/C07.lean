import St4sd.Model.Instance
/-!
Witness for C07 (known finding `C07-setoption-patch-lost`): the full statement
"the reloaded experiment has the same resolved configuration" is false of the code that exists as soon as an
option or variable was changed through `setOptionForNode` / `ComponentSpecification.setOption` before the store:
the patch is applied to the replicated `_concrete` only, `store_unreplicated_flowir_to_disk` dumps `_unreplicated`.

Input replayed by the harness on the real code (corpus case 0): one component `src` with
`workflowAttributes.maxRestarts: 2`, patched to 7, and a new variable `patched = pv`.
Names: 1 = `src`, 2 = option path `workflowAttributes.maxRestarts`, 3 = variable `patched`;
characters: 50 = '2', 55 = '7', 112 = 'p', 118 = 'v'.
-/
namespace St4sd.C07.Witness
open St4sd.Instance

def doc : Doc :=
  { vars := [(0, ⟨[], []⟩)], bps := [],
    comps := [{ stage := 0, name := 1, isDoc := false, opts := [(2, [.ch 50])], vars := [], ovr := [] }] }

def patched : Exp :=
  { doc := doc, plat := 0,
    patches := [⟨0, 1, false, 2, [.ch 55]⟩, ⟨0, 1, true, 3, [.ch 112, .ch 118]⟩] }

/-- before the reload the node answers maxRestarts = 7 and has the variable `patched` … -/
theorem running_sees_patch :
    runningConfig 4 patched = [⟨0, 1, [(2, [.ch 55])], [(3, [.ch 112, .ch 118])]⟩] := by decide +kernel

/-- … after store + reload it answers maxRestarts = 2 and the variable is gone -/
theorem reload_loses_patch :
    runningConfig 4 (reload 4 patched) = [⟨0, 1, [(2, [.ch 50])], []⟩] := by decide +kernel

/-- negation of the full-strength statement at this input (its other hypothesis holds) -/
theorem reload_changes_configuration :
    resolves 4 patched.doc patched.plat = true ∧ runningConfig 4 (reload 4 patched) ≠ runningConfig 4 patched := by
  decide +kernel

/-- the stored description does not mention the patch at all -/
theorem store_ignores_patches : store 4 patched = store 4 { patched with patches := [] } := rfl

/-! ### known finding `C07-platformless-restore-forgets-platform`

"Loading and storing again does not change the stored description" is false of the code that exists when the
instance was created for a platform `P ≠ default` and is loaded by `experimentFromInstance(dir)` (no platform; the
reload re-stores): the description is stored for `default`, which drops the raw `override.P` blocks and writes
`platforms: [default]`.  The resolved configuration is unchanged (`platformless_reload_preserves_resolution`), but
the description on disk differs and can no longer be loaded naming `P` (`FlowIRPlatformUnknown`).

Input: platform 1 (`hpc`), one component with variable 3 = "s" and `override.hpc.variables.3 = "f"`. -/

def docP : Doc :=
  { vars := [(0, ⟨[], []⟩), (1, ⟨[], []⟩)], bps := [],
    comps := [{ stage := 0, name := 1, isDoc := false, opts := [(2, [.ref 3])], vars := [(3, [.ch 115])],
                ovr := [⟨1, [], [(3, [.ch 102])]⟩] }] }

def onHpc : Exp := { doc := docP, plat := 1, patches := [] }

/-- the stored description holds the folded value and the raw override block … -/
theorem store_keeps_override :
    (store 4 onHpc).comps = [{ stage := 0, name := 1, isDoc := false, opts := [(2, [.ref 3])],
                               vars := [(3, [.ch 102])], ovr := [⟨1, [], [(3, [.ch 102])]⟩] }] := by decide +kernel

/-- … a platform-less load + store writes a different description (hypotheses of the round trip hold) … -/
theorem platformless_store_changes_description :
    resolves 4 onHpc.doc onHpc.plat = true ∧ store 4 (reloadAs 4 onHpc 0) ≠ store 4 onHpc := by decide +kernel

/-- … that resolves to the same configuration … -/
theorem platformless_same_configuration : runningConfig 4 (reloadAs 4 onHpc 0) = runningConfig 4 onHpc := by decide +kernel

/-- … and whose platform list no longer admits a load that names the platform -/
theorem platform_forgotten :
    loadable (storedPlatforms onHpc.plat) onHpc.plat = true ∧
    loadable (storedPlatforms (reloadAs 4 onHpc 0).plat) onHpc.plat = false := by decide

/-! ### why the stored description must keep explicitly empty collections

`FlowIR.compress_flowir` (the call sits commented out in `store_unreplicated_flowir_to_disk`) would drop every
empty dict/list before dumping.  For a list option whose inherited value is not empty that changes the experiment:
blueprint `restartHookOn: [K]`, component `restartHookOn: []` (path 2; characters 91 `[`, 75 `K`, 93 `]`). -/

def docEmpty : Doc :=
  { vars := [(0, ⟨[], []⟩)], bps := [(0, ⟨[(2, [.ch 91, .ch 75, .ch 93])], []⟩)],
    comps := [{ stage := 0, name := 1, isDoc := false, opts := [(2, [.ch 91, .ch 93])], vars := [], ovr := [] }] }

def expEmpty : Exp := { doc := docEmpty, plat := 0, patches := [] }

/-- the value `[]` -/
def isEmptyList (t : Tmpl) : Bool := t == [.ch 91, .ch 93]

/-- the store as it is keeps `[]`: same configuration after the reload, same description after a second store -/
theorem store_keeps_empty_list :
    runningConfig 4 expEmpty = [⟨0, 1, [(2, [.ch 91, .ch 93])], []⟩] ∧
    runningConfig 4 (reload 4 expEmpty) = runningConfig 4 expEmpty ∧
    store 4 (reload 4 expEmpty) = store 4 expEmpty := by decide +kernel

/-- a compressing store loses it: the reloaded component inherits the blueprint's list (the configuration
differs), and storing again folds that list into the component (the stored description changes once more) -/
theorem compressing_store_breaks_both_clauses :
    resolves 4 expEmpty.doc expEmpty.plat = true ∧
    runningConfig 4 (reloadCompressed isEmptyList 4 expEmpty) = [⟨0, 1, [(2, [.ch 91, .ch 75, .ch 93])], []⟩] ∧
    runningConfig 4 (reloadCompressed isEmptyList 4 expEmpty) ≠ runningConfig 4 expEmpty ∧
    storeCompressed isEmptyList 4 (reloadCompressed isEmptyList 4 expEmpty) ≠ storeCompressed isEmptyList 4 expEmpty := by
  decide +kernel

/-! ### why the store of a new iteration must not depend on how the experiment object was obtained

`instantiate_dowhile_next_iteration(…, store_flowir_to_disk=True)` stores unconditionally (`Instance.step`).  A variant
that stores only when the configuration object may update the instance files (`Instance.stepGated`) loses the iterations
of a restarted experiment (`elaunch --restart` loads with `updateInstanceConfiguration=False` and keeps looping): the
object in memory has the components of the new iteration, the next load of the directory does not.
History: create (component 1), iterate (component 5), restart, iterate (component 6), load. -/

def iter1 : Step := .iterate [{ stage := 0, name := 5, isDoc := false, opts := [], vars := [], ovr := [] }]
def iter2 : Step := .iterate [{ stage := 0, name := 6, isDoc := false, opts := [], vars := [], ovr := [] }]
def restartHistory : List Step := [iter1, .load 0 false, iter2, .load 0 false]

/-- the code that exists: the second load sees all three components (instance of `session_components`) -/
theorem restart_keeps_iterations :
    compIds (runSteps 4 (Session.create 4 ⟨doc, 0, []⟩) restartHistory).exp.doc
      = [(0, 1, false), (0, 5, false), (0, 6, false)] := by decide +kernel

/-- the gated variant: the restarted object holds component 6 after its iteration, the directory it maintains does
not, and the next load yields an experiment without it -/
theorem gated_store_loses_iterations_of_a_restart :
    compIds ((restartHistory.take 3).foldl (stepGated 4) (Session.create 4 ⟨doc, 0, []⟩)).exp.doc
      = [(0, 1, false), (0, 5, false), (0, 6, false)] ∧
    compIds ((restartHistory.take 3).foldl (stepGated 4) (Session.create 4 ⟨doc, 0, []⟩)).disk
      = [(0, 1, false), (0, 5, false)] ∧
    compIds (restartHistory.foldl (stepGated 4) (Session.create 4 ⟨doc, 0, []⟩)).exp.doc
      = [(0, 1, false), (0, 5, false)] := by decide +kernel

/-! ## components instantiated after a reload

`looped`: platform 1 (`hpc`); the default blueprint of stage 1 (the stage of the loop) sets option 50 (say
`resourceRequest.numberThreads`) to `2`, the global blueprint of platform 1 sets it to `4` and option 51 (say
`command.environment`) to `e`.  The new component 40 of the next iteration sets neither. -/

def looped : Exp :=
  { doc := { vars := [(0, ⟨[(10, [.ch 49])], []⟩)]
             bps := [(0, ⟨[], [(1, [(50, [.ch 50])])]⟩), (1, ⟨[(50, [.ch 52]), (51, [.ch 101])], []⟩)]
             comps := [ { stage := 0, name := 30, isDoc := false, opts := [(23, [.ch 120])], vars := [], ovr := [] },
                        { stage := 1, name := 31, isDoc := true, opts := [], vars := [], ovr := [] } ] }
    plat := 1, patches := [] }

def nextIter : Comp := { stage := 1, name := 40, isDoc := false, opts := [(23, [.ch 121])], vars := [], ovr := [] }

/-- the folding BEFORE fix 1b655bb (`flattenOld` / `reloadOld`: stored stage blueprint = default-stage + platform-stage
only): the experiment that holds the package description gives the new component the platform's value `4`, the
experiment loaded from the stored description the default-stage value `2` -/
theorem stored_blueprints_swap_stage_and_platform_layers :
    resolves 4 looped.doc 1 = true ∧ bpClosed 4 looped.doc 1 1 = true ∧ bpOrderFree looped.doc 1 1 = false ∧
    get? (flatComp 4 (addIteration looped [nextIter]).doc 1 nextIter).opts 50 = some [.ch 52] ∧
    get? (flatComp 4 (addIteration (reloadOld 4 looped) [nextIter]).doc 1 nextIter).opts 50 = some [.ch 50] := by decide +kernel

/-- the code that exists (after the fix: the stored stage blueprint repeats the platform-global blueprint above a
non-empty default-stage blueprint): the restarted experiment gives the platform's value `4` too — an instance of
`C07.new_component_after_reload_partial` -/
theorem stored_blueprints_keep_platform_global_above_default_stage :
    get? ((layerOf (store 4 looped).bps 0).stage 1) 50 = some [.ch 52] ∧
    get? (flatComp 4 (addIteration (reload 4 looped) [nextIter]).doc 1 nextIter).opts 50 = some [.ch 52] ∧
    sameComp (flatComp 4 (addIteration (reload 4 looped) [nextIter]).doc 1 nextIter)
      (flatComp 4 (addIteration looped [nextIter]).doc 1 nextIter) = true := by decide +kernel

/-- on the other paths the two foldings agree -/
theorem stored_blueprints_agree_elsewhere :
    get? (flatComp 4 (addIteration looped [nextIter]).doc 1 nextIter).opts 51 = some [.ch 101] ∧
    get? (flatComp 4 (addIteration (reload 4 looped) [nextIter]).doc 1 nextIter).opts 51 = some [.ch 101] ∧
    get? (flatComp 4 (addIteration (reloadOld 4 looped) [nextIter]).doc 1 nextIter).opts 51 = some [.ch 101] := by decide +kernel

/-- NOT the code that exists: a store that leaves the blueprints out (`storeNoBlueprints`: "the components already
have them folded in").  Right after the reload nothing differs — every existing component has the configuration it
had and storing again writes the same components — but the next iteration of the restarted experiment loses every
inherited setting: option 51 is absent where the never-reloaded experiment has `e`. -/
theorem blueprintless_store_breaks_next_iteration :
    (let R : Exp := { doc := storeNoBlueprints 4 looped, plat := 1, patches := [] }
     runningConfig 4 R = runningConfig 4 looped ∧
     (store 4 R).comps = (store 4 looped).comps ∧
     get? (flatComp 4 (addIteration looped [nextIter]).doc 1 nextIter).opts 51 = some [.ch 101] ∧
     get? (flatComp 4 (addIteration R [nextIter]).doc 1 nextIter).opts 51 = none) := by decide +kernel

/-! ### a writer that files components under their name alone

(`Instance.storeByName`, NOT the code that exists.)  `stage0.sim` and `stage1.sim` (name 30) share a name;
`stage1.collect` (31) consumes `stage1.sim`.  The experiment in memory has three components, the description such a
writer stores has two: the lookup of (0, 30) answers nothing after the reload, the component set and the resolved
configurations differ - while a description with stage-unique names is stored exactly as the real store does. -/

def twoStages : Exp :=
  { doc := { vars := [(0, ⟨[(10, [.ch 49])], []⟩)], bps := [],
             comps := [ { stage := 0, name := 30, isDoc := false, opts := [(23, [.ch 120])], vars := [], ovr := [] },
                        { stage := 1, name := 30, isDoc := false, opts := [(23, [.ch 121])], vars := [], ovr := [] },
                        { stage := 1, name := 31, isDoc := false, opts := [(23, [.ref 10])], vars := [], ovr := [] } ] },
    plat := 0, patches := [] }

theorem store_keeps_namesakes_of_different_stages :
    compIds (store 2 twoStages) = [(0, 30, false), (1, 30, false), (1, 31, false)] := by decide +kernel

theorem reload_answers_each_namesake_its_own_configuration :
    (runningConfig 2 (reload 2 twoStages)).map (fun r => (r.stage, r.name, get? r.opts 23))
      = [(0, 30, some [.ch 120]), (1, 30, some [.ch 121]), (1, 31, some [.ch 49])]
    ∧ (runningConfig 2 twoStages).map (fun r => (r.stage, r.name, get? r.opts 23))
      = [(0, 30, some [.ch 120]), (1, 30, some [.ch 121]), (1, 31, some [.ch 49])] := by decide +kernel

theorem name_keyed_store_loses_a_component :
    compIds (storeByName 2 twoStages) = [(1, 30, false), (1, 31, false)]
    ∧ (findComp (store 2 twoStages) 0 30).isSome = true
    ∧ findComp (storeByName 2 twoStages) 0 30 = none := by decide +kernel

theorem name_keyed_reload_has_a_component_less :
    (runningConfig 2 (reloadByName 2 twoStages)).map (fun r => (r.stage, r.name))
      = [(1, 30), (1, 31)] := by decide +kernel

theorem name_keyed_store_invisible_with_unique_names :
    (let E : Exp := { twoStages with doc := { twoStages.doc with comps := twoStages.doc.comps.drop 1 } }
     compIds (storeByName 2 E) = compIds (store 2 E)) := by decide

end St4sd.C07.Witness
