import St4sd.Model.ReplConf
import St4sd.Lemmas.Str
import St4sd.Lemmas.C03Text
import St4sd.Lemmas.C03Agg
import St4sd.Lemmas.C03Over
import St4sd.Lemmas.C03Piece
/-!
# C03 — Replication expands a workflow without changing its dataflow

Property theorems about `St4sd.Repl` (model of `FlowIR.apply_replicate`), for every workflow given in topological
order.  The graph-level results (propagated counts, copies, wiring, closure) are invariants of the pass `go`,
proved by induction over that order (`go_ind`, `go_inv`).  The results about variables (counts and flags given
through `%(var)s`, the `replica` index of a copy, user variables of a parametrisation, platform scopes) read a scope
chain, which is a concatenation of scopes (`lookup_append`).  The kept `override.<platform>` block is followed
through the rewriting as `BlockEq (layerT x o) x`.  The text level is tied to the graph level for the `references`
entries of a copy only (`text_refines_graph_partial`, with two decidable side conditions); the path pattern of the
aggregator's text is characterised on its own (`Lemmas/C03Agg.lean`).
-/
namespace St4sd.C03
open St4sd.Repl St4sd.Str

/-! ## induction principle over the pass -/

private theorem go_cons_ok {d : Done} {out : List Comp} {c : Comp} {cs : List Comp} {r : Done × List Comp} :
    go d out (c :: cs) = .ok r ↔
      closedAt d c = true ∧ ∃ p, decide1 (vals d c) = some p ∧ go ((c, p) :: d) (out ++ piece d c p) cs = .ok r := by
  simp only [go]
  cases closedAt d c <;> cases decide1 (vals d c) <;> simp

/-- the pass establishes every invariant that each step preserves; the invariant may speak of the components
processed so far (`pre`) -/
theorem go_ind (P : List Comp → Done → List Comp → Prop)
    (hstep : ∀ pre d out c p, P pre d out → closedAt d c = true → decide1 (vals d c) = some p →
      P (pre ++ [c]) ((c, p) :: d) (out ++ piece d c p)) :
    ∀ (cs pre : List Comp) (d : Done) (out : List Comp) (d' : Done) (out' : List Comp),
      P pre d out → go d out cs = .ok (d', out') → P (pre ++ cs) d' out' := by
  intro cs
  induction cs with
  | nil =>
    intro pre d out d' out' h0 h
    cases h
    rwa [List.append_nil]
  | cons c cs ih =>
    intro pre d out d' out' h0 h
    obtain ⟨hc, p, hp, h⟩ := go_cons_ok.mp h
    have := ih _ _ _ _ _ (hstep pre d out c p h0 hc hp) h
    rwa [List.append_assoc] at this

theorem go_inv (P : Done → List Comp → Prop)
    (hstep : ∀ d out c p, P d out → closedAt d c = true → decide1 (vals d c) = some p →
      P ((c, p) :: d) (out ++ piece d c p)) :
    ∀ (cs : List Comp) (d : Done) (out : List Comp) (d' : Done) (out' : List Comp),
      P d out → go d out cs = .ok (d', out') → P d' out' :=
  fun cs => go_ind (fun _ => P) (fun _ => hstep) cs []

/-! ## propagation -/

private theorem decide1_some {vs : List Nat} {p : Option Nat} (h : decide1 vs = some p) :
    ∀ n, p = some n ↔ n ∈ vs := by
  cases vs with
  | nil =>
    cases h
    simp
  | cons v rest =>
    simp only [decide1] at h
    split at h <;> cases h
    rename_i hall
    intro n
    rw [List.all_eq_true] at hall
    simp only [Option.some.injEq, List.mem_cons]
    exact ⟨fun e => Or.inl e.symm, fun e => e.elim Eq.symm fun e => (by simpa using hall n e : n = v).symm⟩

private theorem mem_vals {d : Done} {c : Comp} {n : Nat} :
    n ∈ vals d c ↔ (c.repl = some n ∨ ∃ r ∈ c.refs, inherit d r = some n) := by
  simp [vals, or_comm]

/-- Every recorded count is justified relative to the components processed before it: the count of `c`
is `n` iff `c` itself requests `n` replicas or some non-aggregating producer of `c` has count `n`.
(Over a topological order this equation has exactly one solution: the region reachable from the
replication points without crossing an aggregator.) -/
def Justified : Done → Prop
  | [] => True
  | (c, p) :: d => (∀ n, p = some n ↔ (c.repl = some n ∨ ∃ r ∈ c.refs, inherit d r = some n)) ∧ Justified d

/-- `propagate_replicate` computes the justified counts, for the components in their given order. -/
theorem plan_justified (wf : List Comp) (d : Done) (out : List Comp) (h : go [] [] wf = .ok (d, out)) :
    Justified d ∧ d.map (·.1) = wf.reverse := by
  simpa using go_ind (fun pre d _ => Justified d ∧ d.map (·.1) = pre.reverse)
    (fun pre d _ c p h0 _ hp => ⟨⟨fun n => (decide1_some hp n).trans mem_vals, h0.1⟩, by simp [h0.2]⟩)
    wf [] [] [] d out ⟨trivial, rfl⟩ h

/-- A consumer of a replicated producer has the producer's count (so it is a copy or an aggregator). -/
theorem count_of_consumer {d : Done} {c : Comp} {p : Option Nat} (hp : decide1 (vals d c) = some p)
    {r : Ref} (hr : r ∈ c.refs) {n : Nat} (hi : inherit d r = some n) : p = some n :=
  (decide1_some hp n).mpr (mem_vals.mpr (Or.inr ⟨r, hr, hi⟩))

/-! ## counts -/

/-- the expansion is the concatenation of the pieces of the components, in order -/
def piecesOf : Done → List Comp
  | [] => []
  | (c, p) :: d => piecesOf d ++ piece d c p

theorem expand_counts (wf : List Comp) (d : Done) (out : List Comp) (h : go [] [] wf = .ok (d, out)) :
    out = piecesOf d := by
  refine go_inv (fun d out => out = piecesOf d) ?_ wf [] [] d out rfl h
  intro d out c p h0 _ _
  simp [piecesOf, h0]

/-- A non-aggregating component with count `N ≥ 1` yields exactly `N` copies; copy `i` carries the suffix
`i`, `replica = i`, `replicate = N`, stays in its stage and has one reference per original reference. -/
theorem piece_region (d : Done) (c : Comp) (n : Nat) (hagg : c.agg = false) (hn : 0 < n) :
    piece d c (some n) = (List.range n).map (mkCopy d c n) ∧
    (piece d c (some n)).length = n ∧
    ∀ i, i < n → ∃ o, (piece d c (some n))[i]? = some o ∧ o.stage = c.stage ∧
      o.name = c.name ++ natToDigits i ∧ o.replica = some i ∧ o.repl = some n ∧ o.agg = false ∧
      o.refs = c.refs.map (rwRef d i) := by
  have h1 : piece d c (some n) = (List.range n).map (mkCopy d c n) := by
    simp [piece, hagg, hn]
  refine ⟨h1, by simp [h1], ?_⟩
  intro i hi
  refine ⟨mkCopy d c n i, ?_, rfl, rfl, rfl, rfl, hagg, rfl⟩
  rw [h1]
  simp [hi]

/-- Everything outside the replicated region that does not aggregate is emitted once, unchanged. -/
theorem piece_outside (d : Done) (c : Comp) (p : Option Nat) (hagg : c.agg = false) (hp : p = none ∨ p = some 0) :
    piece d c p = [c] := by
  rcases hp with rfl | rfl <;> simp [piece, hagg]

/-- An aggregator stays single, keeps its name, stage and attributes; only its references are expanded. -/
theorem piece_agg (d : Done) (c : Comp) (p : Option Nat) (hagg : c.agg = true) :
    ∃ o, piece d c p = [o] ∧ o.name = c.name ∧ o.stage = c.stage ∧ o.replica = c.replica ∧ o.repl = c.repl ∧
      o.agg = true ∧ o.refs = c.refs.flatMap (aggRef d (p.getD 0)) := by
  exact ⟨{ c with refs := c.refs.flatMap (aggRef d (p.getD 0)) }, by simp [piece, hagg], rfl, rfl, rfl, rfl, hagg, rfl⟩

/-- In an aggregator a reference to a replicated producer becomes the references to its copies `0..N-1`
in index order, every other reference stays. -/
theorem aggregator_wiring (d : Done) (n : Nat) (r : Ref) :
    (replicated d r = true → aggRef d n r = (List.range n).map fun i => copyRef i r) ∧
    (replicated d r = false → aggRef d n r = [r]) := by
  constructor <;> intro h <;> simp [aggRef, h]

/-! ## wiring and closure -/

private theorem findDone_mem {d : Done} {st : Nat} {nm : S} {e : Comp × Option Nat}
    (h : findDone d st nm = some e) : e ∈ d ∧ e.1.stage = st ∧ e.1.name = nm := by
  unfold findDone at h
  have h1 := List.mem_of_find?_eq_some h
  have h2 := List.find?_some h
  simp only [Bool.and_eq_true, beq_iff_eq] at h2
  exact ⟨h1, h2.1, h2.2⟩

/-- what the pass guarantees about a processed component `e = (c, p)`: its copies / its single
instance are in the output -/
def Emitted (out : List Comp) (e : Comp × Option Nat) : Prop :=
  (e.1.agg = false → ∀ n, e.2 = some n → 0 < n → ∀ i, i < n →
      ∃ o ∈ out, o.stage = e.1.stage ∧ o.name = e.1.name ++ natToDigits i ∧ o.replica = some i) ∧
  ((e.1.agg = true ∨ e.2 = none ∨ e.2 = some 0) →
      ∃ o ∈ out, o.stage = e.1.stage ∧ o.name = e.1.name ∧ o.replica = e.1.replica)

private theorem emitted_mono {out out2 : List Comp} {e : Comp × Option Nat} (h : Emitted out e) :
    Emitted (out ++ out2) e := by
  obtain ⟨h1, h2⟩ := h
  constructor
  · intro ha n hn hpos i hi
    obtain ⟨o, ho, hh⟩ := h1 ha n hn hpos i hi
    exact ⟨o, List.mem_append_left _ ho, hh⟩
  · intro hc
    obtain ⟨o, ho, hh⟩ := h2 hc
    exact ⟨o, List.mem_append_left _ ho, hh⟩

private theorem emitted_self (d : Done) (out : List Comp) (c : Comp) (p : Option Nat) :
    Emitted (out ++ piece d c p) (c, p) := by
  rw [piece_eq]
  constructor
  · rintro ha n rfl _ i hi
    exact ⟨_, List.mem_append_right _ ((mem_pieceWith c _).mpr (.inr (.inl ⟨ha, i, hi, rfl⟩))), rfl, rfl, rfl⟩
  · intro hc
    cases ha : c.agg
    · have hp0 : p.getD 0 = 0 := by
        rcases hc with h | rfl | rfl
        · exact absurd (ha.symm.trans h) (by simp)
        · rfl
        · rfl
      exact ⟨c, List.mem_append_right _ ((mem_pieceWith c p).mpr (.inr (.inr ⟨ha, hp0, rfl⟩))), rfl, rfl, rfl⟩
    · exact ⟨_, List.mem_append_right _ ((mem_pieceWith c p).mpr (.inl ⟨ha, rfl⟩)), rfl, rfl, rfl⟩

private theorem closedAt_spec {d : Done} {c : Comp} (h : closedAt d c = true) {r : Ref} (hr : r ∈ c.refs)
    (hc : r.isComp = true) : ∃ e, findDone d r.stage r.name = some e := by
  have := List.all_eq_true.mp h r hr
  simp only [hc, Bool.not_true, Bool.false_or] at this
  exact Option.isSome_iff_exists.mp this

private theorem replicated_spec {d : Done} {c : Comp} {p : Option Nat} (hp : decide1 (vals d c) = some p)
    {r : Ref} (hr : r ∈ c.refs) (h : replicated d r = true) :
    ∃ q n, findDone d r.stage r.name = some (q, some n) ∧ q.agg = false ∧ 0 < n ∧ p = some n := by
  unfold replicated at h
  simp only [Bool.and_eq_true] at h
  obtain ⟨hc, hm⟩ := h
  split at hm
  · rename_i q n hf
    simp only [Bool.and_eq_true, Bool.not_eq_true', decide_eq_true_eq] at hm
    exact ⟨q, n, hf, hm.1, hm.2, count_of_consumer hp hr (by simp [inherit, hc, hf, hm.1])⟩
  · cases hm

/-- `e` is outside the replicated region (it aggregates, or has no / a zero count) -/
def Outside (e : Comp × Option Nat) : Prop := e.1.agg = true ∨ e.2 = none ∨ e.2 = some 0

private theorem not_replicated_spec {d : Done} {r : Ref} (h : replicated d r = false) (hc : r.isComp = true)
    {e : Comp × Option Nat} (hf : findDone d r.stage r.name = some e) : Outside e := by
  obtain ⟨q, p⟩ := e
  unfold replicated at h
  simp only [hc, Bool.true_and, hf] at h
  cases p with
  | none => exact Or.inr (Or.inl rfl)
  | some n =>
    simp only [Bool.and_eq_false_iff, Bool.not_eq_false', decide_eq_false_iff_not, Nat.not_lt,
      Nat.le_zero_eq] at h
    exact h.imp id fun h => Or.inr (congrArg some h)

/-- reference `r'` of the emitted component `o` names an emitted component `o'`; when `o` does not
aggregate, `o'` is either a copy with the **same replica index** as `o`, or the single instance of a
component outside the replicated region -/
def Target (d : Done) (out : List Comp) (o : Comp) (r' : Ref) : Prop :=
  ∃ o' ∈ out, o'.stage = r'.stage ∧ o'.name = r'.name ∧
    (o.agg = false → (o'.replica = o.replica ∧ o.replica ≠ none) ∨
      ∃ e ∈ d, Outside e ∧ o'.stage = e.1.stage ∧ o'.name = e.1.name)

def Inv (d : Done) (out : List Comp) : Prop :=
  (∀ e ∈ d, Emitted out e) ∧ (∀ o ∈ out, ∀ r' ∈ o.refs, r'.isComp = true → Target d out o r')

private theorem target_mono {d : Done} {out out2 : List Comp} {o : Comp} {r' : Ref} (e0 : Comp × Option Nat)
    (h : Target d out o r') : Target (e0 :: d) (out ++ out2) o r' := by
  obtain ⟨o', ho', h1, h2, h3⟩ := h
  exact ⟨o', List.mem_append_left _ ho', h1, h2, fun ha => (h3 ha).imp id
    fun ⟨e, he, hh⟩ => ⟨e, List.mem_cons_of_mem _ he, hh⟩⟩

private theorem piece_refs {d : Done} {c : Comp} {p : Option Nat} (hp : decide1 (vals d c) = some p)
    {o : Comp} (ho : o ∈ piece d c p) {r' : Ref} (hr' : r' ∈ o.refs) :
    ∃ r ∈ c.refs, (replicated d r = false ∧ r' = r) ∨
      (replicated d r = true ∧ ∃ i, i < p.getD 0 ∧ r' = copyRef i r ∧ (o.agg = false → o.replica = some i)) := by
  rw [piece_eq] at ho
  rcases (mem_pieceWith c p).mp ho with ⟨ha, rfl⟩ | ⟨_, i, hi, rfl⟩ | ⟨_, hn, rfl⟩
  · obtain ⟨r, hr, hra⟩ := List.mem_flatMap.mp hr'
    refine ⟨r, hr, ?_⟩
    unfold aggRef at hra
    cases hrep : replicated d r <;> simp only [hrep, if_true, Bool.false_eq_true, if_false] at hra
    · exact .inl ⟨rfl, List.mem_singleton.mp hra⟩
    · obtain ⟨i, hi, rfl⟩ := List.mem_map.mp hra
      exact .inr ⟨rfl, i, List.mem_range.mp hi, rfl, fun h => absurd (ha.symm.trans h) (by simp)⟩
  · obtain ⟨r, hr, rfl⟩ := List.mem_map.mp hr'
    refine ⟨r, hr, ?_⟩
    unfold rwRef
    cases hrep : replicated d r
    · exact .inl ⟨rfl, rfl⟩
    · exact .inr ⟨rfl, i, hi, rfl, fun _ => rfl⟩
  · refine ⟨r', hr', ?_⟩
    cases hrep : replicated d r'
    · exact .inl ⟨rfl, rfl⟩
    · obtain ⟨_, n, _, _, hpos, rfl⟩ := replicated_spec hp hr' hrep
      exact absurd hn (Nat.ne_of_gt hpos)

private theorem wire_replicated {d : Done} {out : List Comp} (hE : ∀ e ∈ d, Emitted out e)
    {c : Comp} {p : Option Nat} (hp : decide1 (vals d c) = some p)
    {r : Ref} (hr : r ∈ c.refs) (hrep : replicated d r = true) {i : Nat} (hi : i < p.getD 0)
    {o : Comp} (hidx : o.agg = false → o.replica = some i) : Target d out o (copyRef i r) := by
  obtain ⟨q, n, hf, hqa, hn, rfl⟩ := replicated_spec hp hr hrep
  obtain ⟨hm, hs, hnm⟩ := findDone_mem hf
  obtain ⟨o', ho', h1, h2, h3⟩ := (hE _ hm).1 hqa n rfl hn i hi
  exact ⟨o', ho', h1.trans hs, h2.trans (congrArg (· ++ natToDigits i) hnm),
    fun ha => .inl ⟨h3.trans (hidx ha).symm, by simp [hidx ha]⟩⟩

private theorem wire_plain {d : Done} {out : List Comp} (hE : ∀ e ∈ d, Emitted out e)
    {c : Comp} (hcl : closedAt d c = true) {r : Ref} (hr : r ∈ c.refs) (hrep : replicated d r = false)
    (hc : r.isComp = true) (o : Comp) : Target d out o r := by
  obtain ⟨e, hf⟩ := closedAt_spec hcl hr hc
  obtain ⟨hm, hs, hnm⟩ := findDone_mem hf
  have hout := not_replicated_spec hrep hc hf
  obtain ⟨o', ho', h1, h2, _⟩ := (hE _ hm).2 hout
  exact ⟨o', ho', h1.trans hs, h2.trans hnm, fun _ => .inr ⟨e, hm, hout, h1, h2⟩⟩

private theorem inv_step (d : Done) (out : List Comp) (c : Comp) (p : Option Nat) (h0 : Inv d out)
    (hcl : closedAt d c = true) (hp : decide1 (vals d c) = some p) :
    Inv ((c, p) :: d) (out ++ piece d c p) := by
  obtain ⟨hE, hT⟩ := h0
  refine ⟨fun e he => ?_, fun o ho r' hr' hc' => ?_⟩
  · rcases List.mem_cons.mp he with rfl | he
    · exact emitted_self d out c p
    · exact emitted_mono (hE e he)
  · -- a reference of a fresh piece, too, names a component emitted before
    refine target_mono _ ?_
    rcases List.mem_append.mp ho with ho | ho
    · exact hT o ho r' hr' hc'
    · obtain ⟨r, hr, ⟨hrep, rfl⟩ | ⟨hrep, i, hi, rfl, hidx⟩⟩ := piece_refs hp ho hr'
      · exact wire_plain hE hcl hr hrep hc' o
      · exact wire_replicated hE hp hr hrep hi hidx

private theorem expand_inv {wf : List Comp} {d : Done} {out : List Comp} (h : go [] [] wf = .ok (d, out)) :
    Inv d out :=
  go_inv Inv inv_step wf [] [] d out ⟨by simp, by simp⟩ h

/-- **Counts / copies exist.**  After expanding `wf`: every non-aggregating component with count `N ≥ 1`
has its `N` copies in the result (copy `i` named with suffix `i` and knowing `replica = i`), every other
component has its single instance in the result. -/
theorem expand_emits (wf : List Comp) (d : Done) (out : List Comp) (h : go [] [] wf = .ok (d, out)) :
    ∀ e ∈ d, Emitted out e :=
  (expand_inv h).1

/-- **Wiring + closure.**  Every component reference of every component of the result names a component
of the result; for a non-aggregating consumer that component is a copy with the consumer's own replica
index (copy `i` consumes copy `i`) or the single instance of a component outside the replicated region. -/
theorem expand_wiring (wf : List Comp) (d : Done) (out : List Comp) (h : go [] [] wf = .ok (d, out)) :
    ∀ o ∈ out, ∀ r' ∈ o.refs, r'.isComp = true → Target d out o r' :=
  (expand_inv h).2

private theorem expand_ok {wf out : List Comp} (h : expand wf = .ok out) :
    ∃ d, go [] [] wf = .ok (d, out) ∧ uniqueIds out = true := by
  unfold expand at h
  split at h
  · cases h
  · rename_i d out0 hg
    split at h <;> cases h
    exact ⟨d, hg, ‹_›⟩

/-- **Closure**, stated on `expand`: every reference in the result names a component that exists. -/
theorem expand_closed (wf out : List Comp) (h : expand wf = .ok out) :
    ∀ o ∈ out, ∀ r' ∈ o.refs, r'.isComp = true → ∃ o' ∈ out, idOf o' = (r'.stage, r'.name) := by
  obtain ⟨d, hg, _⟩ := expand_ok h
  intro o ho r' hr' hc
  obtain ⟨o', ho', h1, h2, _⟩ := expand_wiring wf d out hg o ho r' hr' hc
  exact ⟨o', ho', by rw [idOf, h1, h2]⟩

/-- the edges the loader derives are exactly the (producer, consumer) pairs of the references: no
reference is dropped because its producer is missing -/
theorem edges_complete (wf out : List Comp) (h : expand wf = .ok out) :
    ∀ o ∈ out, ∀ r' ∈ o.refs, r'.isComp = true → ((r'.stage, r'.name), idOf o) ∈ edges out := by
  intro o ho r' hr' hc
  obtain ⟨o', ho', hid⟩ := expand_closed wf out h o ho r' hr' hc
  unfold edges
  refine List.mem_flatMap.mpr ⟨o, ho, List.mem_map.mpr ⟨r', ?_, rfl⟩⟩
  refine List.mem_filter.mpr ⟨hr', ?_⟩
  simp only [hc, Bool.true_and, List.any_eq_true, beq_iff_eq]
  exact ⟨o', ho', hid⟩

/-! ## non-vacuity -/

def rA : Ref := { isComp := true, stage := 0, long := false, name := "A".toList, file := none, method := "ref".toList }
def rBA : Ref := { rA with name := "BA".toList }
def rC : Ref := { rA with name := "C".toList, long := true }
/-- `A` (2 replicas), `BA`, consumer `C` of both, aggregator `D` of `C`, plain consumer `E` of `D` -/
def wfEx : List Comp :=
  [ { stage := 0, name := "A".toList, refs := [], repl := some 2, agg := false },
    { stage := 0, name := "BA".toList, refs := [], repl := none, agg := false },
    { stage := 0, name := "C".toList, refs := [rA, rBA], repl := none, agg := false },
    { stage := 1, name := "D".toList, refs := [rC], repl := none, agg := true },
    { stage := 1, name := "E".toList, refs := [{ rA with stage := 1, name := "D".toList }], repl := none, agg := false } ]

example : (expand wfEx).toOption.map (·.map fun o => (String.ofList o.name, o.replica, o.refs.map fun r => String.ofList (render r))) =
    some [("A0", some 0, []), ("A1", some 1, []), ("BA", none, []),
          ("C0", some 0, ["stage0.A0:ref", "BA:ref"]), ("C1", some 1, ["stage0.A1:ref", "BA:ref"]),
          ("D", none, ["stage0.C0:ref", "stage0.C1:ref"]), ("E", none, ["D:ref"])] := by decide +kernel

/-- inconsistent counts are rejected -/
example : (match expand [ { stage := 0, name := "A".toList, refs := [], repl := some 2, agg := false },
                          { stage := 0, name := "C".toList, refs := [rA], repl := some 3, agg := false } ] with
    | .error .inconsistent => true
    | _ => false) = true := by decide +kernel

/-! ## replica counts and aggregate flags given through variables -/

theorem lookup_override (old new : Vars) (k : S) :
    lookup (override old new) k = (lookup new k).or (lookup old k) :=
  lookup_append new old k

/-- **Layering** (the scope chain of C04): a name visible to a component has the value the component
gives it itself, else the value of its stage, else the global value. -/
theorem visible_lookup (g s own : Vars) (k : S) :
    lookup (visible g s own) k = (lookup own k).or ((lookup s k).or (lookup g k)) := by
  simp only [visible, lookup_override]

/-- the value of `name` in the scope chain of `r` -/
def chain (g : Vars) (st : Nat → Vars) (r : Raw) (name : S) : Option S :=
  (lookup r.vars name).or ((lookup (st r.stage) name).or (lookup g name))

private theorem resolveComp_ok {g : Vars} {st : Nat → Vars} {r : Raw} {c : Comp} (h : resolveComp g st r = .ok c) :
    countIn (visible g (st r.stage) r.vars) r.replicate = .ok c.repl ∧
      aggIn (visible g (st r.stage) r.vars) r.aggregate = .ok c.agg := by
  unfold resolveComp resolveIn at h
  generalize countIn (visible g (st r.stage) r.vars) r.replicate = n at h ⊢
  generalize aggIn (visible g (st r.stage) r.vars) r.aggregate = a at h ⊢
  cases n <;> cases a <;> cases h
  exact ⟨rfl, rfl⟩

private theorem countIn_var {vis : Vars} {v : S} {o : Option Nat} (h : countIn vis (.var v) = .ok o) :
    ∃ t n, lookup vis v = some t ∧ digitsToNat? t = some n ∧ o = some n := by
  simp only [countIn, fillIn] at h
  cases hl : lookup vis v with
  | none => simp [hl] at h
  | some t =>
    cases hn : digitsToNat? t with
    | none => simp [hl, hn] at h
    | some n => exact ⟨t, n, rfl, hn, by simpa [hl, hn] using h.symm⟩

private theorem aggIn_var {vis : Vars} {v : S} {b : Bool} (h : aggIn vis (.var v) = .ok b) :
    ∃ t, lookup vis v = some t ∧ toBool t = some b := by
  simp only [aggIn, fillIn] at h
  cases hl : lookup vis v with
  | none => simp [hl] at h
  | some t =>
    cases hb : toBool t with
    | none => simp [hl, hb] at h
    | some b' => exact ⟨t, rfl, by simpa [hl, hb] using h⟩

/-- **The count a component requests through a variable is the value of that variable in its own scope
chain**: `replicate: %(v)s` resolves to `int` of the first of (own variables, stage variables, global
variables) that defines `v`. -/
theorem count_own_chain (g : Vars) (st : Nat → Vars) (r : Raw) (c : Comp) (v : S)
    (h : resolveComp g st r = .ok c) (hv : r.replicate = .var v) :
    ∃ t n, chain g st r v = some t ∧ digitsToNat? t = some n ∧ c.repl = some n := by
  obtain ⟨t, n, ht, hn, hc⟩ := countIn_var (hv ▸ (resolveComp_ok h).1)
  exact ⟨t, n, (visible_lookup ..).symm.trans ht, hn, hc⟩

/-- the same for `aggregate: %(v)s` -/
theorem aggregate_own_chain (g : Vars) (st : Nat → Vars) (r : Raw) (c : Comp) (v : S)
    (h : resolveComp g st r = .ok c) (hv : r.aggregate = .var v) :
    ∃ t, chain g st r v = some t ∧ toBool t = some c.agg := by
  obtain ⟨t, ht, hb⟩ := aggIn_var (hv ▸ (resolveComp_ok h).2)
  exact ⟨t, (visible_lookup ..).symm.trans ht, hb⟩

/-- The resolution of a component reads the variables of no other stage. -/
theorem resolveComp_scope_only (g : Vars) (st st' : Nat → Vars) (r : Raw) (h : st r.stage = st' r.stage) :
    resolveComp g st r = resolveComp g st' r := by
  unfold resolveComp
  rw [h]

private theorem resolveAll_cons {g : Vars} {st : Nat → Vars} {r : Raw} {rs : List Raw} {out : List Comp} :
    resolveAll g st (r :: rs) = .ok out ↔
      ∃ c cs, resolveComp g st r = .ok c ∧ resolveAll g st rs = .ok cs ∧ out = c :: cs := by
  simp only [resolveAll]
  cases resolveComp g st r <;> cases resolveAll g st rs <;> simp [eq_comm]

private theorem resolveAll_at {g : Vars} {st : Nat → Vars} (pre : List Raw) {r : Raw} {post : List Raw}
    {out : List Comp} (h : resolveAll g st (pre ++ r :: post) = .ok out) :
    ∃ c, resolveComp g st r = .ok c ∧ out[pre.length]? = some c := by
  induction pre generalizing out with
  | nil =>
    obtain ⟨c, cs, hc, _, rfl⟩ := resolveAll_cons.mp h
    exact ⟨c, hc, rfl⟩
  | cons x pre ih =>
    obtain ⟨_, cs, _, hcs, rfl⟩ := resolveAll_cons.mp h
    exact ih hcs

/-- **The count (and the aggregate flag) a component ends up with does not depend on its siblings.**
Whatever components are processed before and after `r` — with whatever variables of their own — and in
whatever position `r` is processed, the resolution loop records for `r` the value `resolveComp g st r`,
which is a function of the global scope, the scope of `r`'s stage and `r`'s own variables only
(`resolveIn`). -/
theorem count_independent_of_siblings (g : Vars) (st : Nat → Vars) (r : Raw)
    (pre post pre' post' : List Raw) (out out' : List Comp)
    (h : resolveAll g st (pre ++ r :: post) = .ok out)
    (h' : resolveAll g st (pre' ++ r :: post') = .ok out') :
    ∃ c, resolveComp g st r = .ok c ∧ out[pre.length]? = some c ∧ out'[pre'.length]? = some c := by
  obtain ⟨c, hc, h1⟩ := resolveAll_at pre h
  obtain ⟨c', hc', h2⟩ := resolveAll_at pre' h'
  cases hc.symm.trans hc'
  exact ⟨c, hc, h1, h2⟩

/-- **Every processing order gives the same resolved components**: permuting the components handed to the
resolution loop permutes its result accordingly. -/
theorem resolveAll_perm (g : Vars) (st : Nat → Vars) {wf wf' : List Raw} (hp : wf.Perm wf') :
    ∀ out, resolveAll g st wf = .ok out → ∃ out', resolveAll g st wf' = .ok out' ∧ out.Perm out' := by
  induction hp with
  | nil => intro out h; exact ⟨out, h, List.Perm.refl _⟩
  | cons x _ ih =>
    intro out h
    obtain ⟨c, cs, hc, hcs, rfl⟩ := resolveAll_cons.mp h
    obtain ⟨cs', h', hp'⟩ := ih cs hcs
    exact ⟨c :: cs', resolveAll_cons.mpr ⟨c, cs', hc, h', rfl⟩, hp'.cons c⟩
  | swap x y l =>
    intro out h
    obtain ⟨c, cs, hc, hcs, rfl⟩ := resolveAll_cons.mp h
    obtain ⟨c2, cs2, hc2, hcs2, rfl⟩ := resolveAll_cons.mp hcs
    exact ⟨c2 :: c :: cs2, resolveAll_cons.mpr ⟨c2, _, hc2, resolveAll_cons.mpr ⟨c, cs2, hc, hcs2, rfl⟩, rfl⟩,
      List.Perm.swap c2 c cs2⟩
  | trans _ _ ih1 ih2 =>
    intro out h
    obtain ⟨o1, h1, p1⟩ := ih1 out h
    obtain ⟨o2, h2, p2⟩ := ih2 o1 h1
    exact ⟨o2, h2, p1.trans p2⟩

/-- `apply_replicate` on a raw document is the expansion (`expand`, all theorems above) of the components
with their attributes resolved as `count_own_chain` / `aggregate_own_chain` say. -/
theorem expandRaw_ok (g : Vars) (st : Nat → Vars) (wf : List Raw) (out : List Comp)
    (h : expandRaw g st wf = .ok out) : ∃ cs, resolveAll g st wf = .ok cs ∧ expand cs = .ok out := by
  unfold expandRaw at h
  split at h
  · cases h
  · rename_i cs hcs
    split at h
    · cases h
    · rename_i o ho
      simp only [Except.ok.injEq] at h
      subst h
      exact ⟨cs, hcs, ho⟩

/-- `calibrate` defines `numberPoints: 1` for itself, `simulate` (same stage) asks for `%(numberPoints)s`
replicas and does not define it: the global value (4) -/
def rawCalibrate : Raw :=
  { stage := 0, name := "calibrate".toList, refs := [], vars := [("numberPoints".toList, "1".toList)],
    replicate := .absent, aggregate := .absent }
def rawSimulate : Raw :=
  { stage := 0, name := "simulate".toList, refs := [{ rA with name := "calibrate".toList }], vars := [],
    replicate := .var "numberPoints".toList, aggregate := .absent }
def rawCollect : Raw :=
  { stage := 0, name := "collect".toList, refs := [{ rA with name := "simulate".toList }],
    vars := [("doAgg".toList, "yes".toList)], replicate := .absent, aggregate := .var "doAgg".toList }
def gEx : Vars := [("numberPoints".toList, "4".toList), ("doAgg".toList, "no".toList)]

example : (expandRaw gEx (fun _ => []) [rawCalibrate, rawSimulate, rawCollect]).toOption.map
      (·.map fun o => (String.ofList o.name, o.replica, o.refs.map fun r => String.ofList (render r))) =
    some [("calibrate", none, []), ("simulate0", some 0, ["calibrate:ref"]), ("simulate1", some 1, ["calibrate:ref"]),
          ("simulate2", some 2, ["calibrate:ref"]), ("simulate3", some 3, ["calibrate:ref"]),
          ("collect", none, ["stage0.simulate0:ref", "stage0.simulate1:ref", "stage0.simulate2:ref",
                             "stage0.simulate3:ref"])] := by decide +kernel

/-- the stage scope overrides the global one, the component's own scope overrides both -/
example : (resolveAll gEx (stageVars [(0, [("numberPoints".toList, "2".toList)])])
      [rawSimulate, { rawSimulate with vars := [("numberPoints".toList, "3".toList)] }, { rawSimulate with stage := 1 }]
    ).toOption.map (·.map (·.repl)) = some [some 2, some 3, some 4] := by decide +kernel

/-- a variable that only a sibling defines is not visible -/
example : (match resolveAll [] (fun _ => []) [rawCalibrate, rawSimulate] with
    | .error .unresolved => true
    | _ => false) = true := by decide

/-! ## text level -/

/-- **Refinement text level → graph level for the `references` entries of a copy (`_partial`).**
For the repaired code: rewriting the rendered reference `r` of component `c` for copy `i` by the regular
expression substitution gives the rendering of the graph-level rewriting `rwRef`, provided the two
decidable side conditions hold:
* (`r` replicated) the first alternative that matches the whole string `render r` is `render r` itself,
  with the rendering of copy `i` as its target;
* (`r` not replicated) no spelling of a replicated reference of `c` matches, with its token boundaries,
  anywhere in `render r`.
What is missing for the full statement: deriving these two conditions from the shape of names alone
(non-empty names over `[A-Za-z0-9_-]`, no `:` in paths and methods, short spellings only for the owner's
stage).  They are evaluated by `decide +kernel` in the examples of `Props/C03.lean` and `Witness/C03.lean` shows
that the unrepaired algorithm violates the conclusion; the correspondence run compares the conclusion
itself on every generated workflow. -/
theorem text_refines_graph_partial (d : Done) (c : Comp) (i : Nat) (r : Ref) (hne : render r ≠ []) :
    (replicated d r = true →
      firstMatch (translation d c i) (render r) = some (render r, render (copyRef i r)) →
      replicaText d c i (render r) = render (rwRef d i r)) ∧
    (replicated d r = false →
      noMatch (translation d c i) none (render r) = true →
      replicaText d c i (render r) = render (rwRef d i r)) := by
  constructor
  · intro hrep hm
    have hk : (translation d c i).isEmpty = false := by
      cases hK : translation d c i with
      | nil => simp [hK, firstMatch] at hm
      | cons _ _ => rfl
    simp only [replicaText, hk, Bool.false_eq_true, if_false, rwRef, hrep, if_true]
    exact scan_whole _ _ _ hne hm
  · intro hrep hm
    simp only [replicaText, rwRef, hrep, Bool.false_eq_true, if_false]
    split
    · rfl
    · exact scan_noMatch _ _ _ hm

/-- a component without replicated references keeps every string -/
theorem replicaText_id_of_no_replicated (d : Done) (c : Comp) (i : Nat) (s : S)
    (h : c.refs.filter (replicated d) = []) : replicaText d c i s = s := by
  simp [replicaText, translation, h, sortKeys]

/-- the processed components `A` (2 replicas), `BA` seen by the consumer `C` of `wfEx` -/
def dEx : Done :=
  [({ stage := 0, name := "BA".toList, refs := [], repl := none, agg := false }, none),
   ({ stage := 0, name := "A".toList, refs := [], repl := some 2, agg := false }, some 2)]
def cEx : Comp := { stage := 0, name := "C".toList, refs := [rA, rBA], repl := none, agg := false }

/-- both side conditions of `text_refines_graph_partial` hold on the input that breaks the unrepaired code
(`A:ref` replicated, `BA:ref` not) … -/
example : replicated dEx rA = true ∧ replicated dEx rBA = false ∧
    firstMatch (translation dEx cEx 1) (render rA) = some (render rA, render (copyRef 1 rA)) ∧
    noMatch (translation dEx cEx 1) none (render rBA) = true := by decide +kernel

/-- … and the rewritten strings are the expected ones -/
example : (String.ofList (replicaText dEx cEx 1 (render rA)), String.ofList (replicaText dEx cEx 1 (render rBA)),
           String.ofList (replicaText dEx cEx 1 "-f A:ref/x.txt --in=BA:ref data/A:ref stage0.A:ref".toList)) =
    ("stage0.A1:ref", "BA:ref", "-f stage0.A1:ref/x.txt --in=BA:ref data/A:ref stage0.A1:ref") := by
  rw [Prod.mk.injEq, Prod.mk.injEq]
  refine ⟨ofList_eq ?_, ofList_eq ?_, ofList_eq ?_⟩
  · simp -index only [String.toList_ofList]
    decide +kernel
  · simp -index only [String.toList_ofList]
    decide +kernel
  · simp -index only [String.toList_ofList]
    decide +kernel

/-- the aggregator's strings: copies in index order, paths repeated, foreign tokens untouched -/
example : String.ofList (aggText dEx { cEx with agg := true } 2 "A:ref/x.txt BA:ref data/A:ref".toList) =
    "stage0.A0:ref/x.txt stage0.A1:ref/x.txt BA:ref data/A:ref" := by
  apply ofList_eq
  simp -index only [String.toList_ofList]
  decide +kernel

/-! ## the aggregator's text: the file path after an aggregated reference ends where the path ends -/

/-- `(?:/[\w.*+~@-]+)+` read at the head of `path ++ tail`, where `path` is `/seg/seg…` (segments = non-empty runs of
`[\w.*+~@-]`) and `tail` is empty or starts with a character that is neither `[\w.*+~@-]` nor `/`: exactly `path` is
matched, however long `tail` is and whatever it contains. -/
theorem aggregated_path_ends_where_the_path_ends (segs : List S) (hs : goodSegs segs) (tail : S)
    (ht : tail = [] ∨ ∃ c r, tail = c :: r ∧ endsPath c = true) :
    pathLen (pathOf segs ++ tail).length (pathOf segs ++ tail) = (pathOf segs).length :=
  pathLen_full segs hs tail ht

/-- the replacement of one aggregated reference followed by `path` and then by other text: the copies in the given
(index) order, each with exactly `path`; the number of characters consumed after the reference is the length of
`path` — nothing of `tail`. -/
theorem aggregated_path_expansion (reps : List S) (segs : List S) (hs : goodSegs segs) (tail : S)
    (ht : plainTail tail) :
    aggExpand reps (pathOf segs ++ tail) = (join [' '] (reps.map (· ++ pathOf segs)), (pathOf segs).length) :=
  aggExpand_stops reps segs hs tail ht

/-- for every string `k ++ path ++ tail` in which the aggregated reference `k` matches: the result is the copies
with `path`, followed by the result of scanning `tail` on its own (so a `)` `;` `|` `>` glued to the path stays
where the user wrote it, once). -/
theorem aggregated_reference_then_text (keys : List (S × List S)) (prev : Option Char) (k : S) (reps : List S)
    (segs : List S) (tail : S) (hk : k ≠ []) (hl : leftOk prev = true)
    (hm : firstMatchAgg keys (k ++ pathOf segs ++ tail) = some (k, reps))
    (hs : goodSegs segs) (ht : plainTail tail) :
    aggScan keys 0 prev (k ++ pathOf segs ++ tail) =
      join [' '] (reps.map (· ++ pathOf segs)) ++ aggScan keys 0 ((k ++ pathOf segs).getLast?) tail :=
  aggScan_reference_then_text keys prev k reps segs tail hk hl hm hs ht

/-- the hypotheses are satisfiable by a non-trivial input: `$(cat A:ref/out/e.csv); sort` -/
example : goodSegs ["out".toList, "e.csv".toList] ∧ plainTail "); sort".toList ∧
    firstMatchAgg [("A:ref".toList, ["stage0.A0:ref".toList, "stage0.A1:ref".toList])]
      ("A:ref".toList ++ pathOf ["out".toList, "e.csv".toList] ++ "); sort".toList) =
      some ("A:ref".toList, ["stage0.A0:ref".toList, "stage0.A1:ref".toList]) := by
  simp -index only [String.toList_ofList]
  exact ⟨by unfold goodSegs; decide +kernel, Or.inr ⟨')', _, rfl, by decide +kernel, by decide +kernel⟩,
    by decide +kernel⟩

/-- … and the whole command line of the aggregator is what the user wrote with the N copies in place -/
example : String.ofList (aggText dEx { cEx with agg := true } 2
      "$(cat A:ref/o/e.csv); ls A:ref| wc >BA:ref/o".toList) =
    "$(cat stage0.A0:ref/o/e.csv stage0.A1:ref/o/e.csv); ls stage0.A0:ref stage0.A1:ref| wc >BA:ref/o" := by
  apply ofList_eq
  simp -index only [String.toList_ofList]
  decide +kernel

/-! ## every copy knows its own replica index -/

theorem copyVars_replica (own : Vars) (i : Nat) :
    lookup (copyVars own i) replicaKey = some (natToDigits i) := by
  simp [lookup_copyVars]

theorem copyVars_other (own : Vars) (i : Nat) (k : S) (hk : k ≠ replicaKey) :
    lookup (copyVars own i) k = lookup own k := by
  rw [lookup_copyVars, if_neg hk]

/-- **Copy `i` sees `replica = i`**, whatever the component itself (`own`), its stage (`s`) or the global
scope (`g`) define for `replica`: the injected index wins over all of them. -/
theorem copy_knows_its_index (g s own : Vars) (i : Nat) :
    lookup (visible g s (copyVars own i)) replicaKey = some (natToDigits i) := by
  rw [visible_lookup, copyVars_replica]
  rfl

/-- every other variable is resolved for the copy as for the component -/
theorem copy_keeps_other_variables (g s own : Vars) (i : Nat) (k : S) (hk : k ≠ replicaKey) :
    lookup (visible g s (copyVars own i)) k = lookup (visible g s own) k := by
  simp [visible_lookup, copyVars_other own i k hk]

/-- Everything outside the replicated region (aggregators included) keeps its variables. -/
theorem pieceVars_outside (c : Comp) (own : Vars) (p : Option Nat)
    (h : c.agg = true ∨ p = none ∨ p = some 0) : pieceVars c own p = [own] := by
  rcases h with h | rfl | rfl <;> simp [pieceVars, *]

/-- the emitted component `o` with component-level variables `v` stems from component `c` with own
variables `own`: it is copy `i` (suffix `i`, `replica = i`) carrying `own` with `replica := i`, or the single
instance of `c` carrying `own` unchanged -/
def VarsOf (c : Comp) (own : Vars) (o : Comp) (v : Vars) : Prop :=
  o.stage = c.stage ∧
    ((∃ i, o.replica = some i ∧ o.name = c.name ++ natToDigits i ∧ v = copyVars own i) ∨
     (o.replica = c.replica ∧ o.name = c.name ∧ v = own))

private theorem piece_varsOf (d : Done) (c : Comp) (own : Vars) (p : Option Nat) :
    (pieceVars c own p).length = (piece d c p).length ∧
    ∀ q ∈ (piece d c p).zip (pieceVars c own p), VarsOf c own q.1 q.2 := by
  rw [piece_eq, pieceVars_eq, zip_pieceWith]
  refine ⟨length_pieceWith .., fun q hq => ?_⟩
  rcases (mem_pieceWith c p).mp hq with ⟨_, rfl⟩ | ⟨_, i, _, rfl⟩ | ⟨_, _, rfl⟩
  · exact ⟨rfl, .inr ⟨rfl, rfl, rfl⟩⟩
  · exact ⟨rfl, .inl ⟨i, rfl, rfl, rfl⟩⟩
  · exact ⟨rfl, .inr ⟨rfl, rfl, rfl⟩⟩

private theorem goVars_of_go : ∀ (rest : List (Comp × Vars)) (d0 : Done) (out0 : List Comp) (v0 : List Vars)
    (d' : Done) (out' : List Comp), go d0 out0 (rest.map (·.1)) = .ok (d', out') → v0.length = out0.length →
    ∃ vs, goVars d0 v0 rest = some vs ∧ vs.length = out'.length ∧
      ∀ q ∈ out'.zip vs, q ∈ out0.zip v0 ∨ ∃ cv ∈ rest, VarsOf cv.1 cv.2 q.1 q.2
  | [], d0, out0, v0, d', out', hg, hl => by
    cases hg
    exact ⟨v0, rfl, hl, fun q hq => .inl hq⟩
  | (c, own) :: rest, d0, out0, v0, d', out', hg, hl => by
    obtain ⟨_, p, hp, hg⟩ := go_cons_ok.mp hg
    obtain ⟨hlen, hpv⟩ := piece_varsOf d0 c own p
    obtain ⟨vs, h1, h2, h3⟩ := goVars_of_go rest _ _ (v0 ++ pieceVars c own p) _ _ hg (by simp [hl, hlen])
    refine ⟨vs, by simp only [goVars, hp, h1], h2, fun q hq => ?_⟩
    rcases h3 q hq with h | ⟨cv, hcv, h⟩
    · rw [List.zip_append hl.symm] at h
      exact (List.mem_append.mp h).imp id fun h => ⟨(c, own), List.mem_cons_self .., hpv q h⟩
    · exact .inr ⟨cv, List.mem_cons_of_mem _ hcv, h⟩

/-- **The variables of the expansion.**  The pass that emits the component-level variables (`goVars`)
succeeds whenever the expansion (`go`) does, emits one variable scope per emitted component, and every
emitted component `o` with scope `v` stems (`VarsOf`) from a component of the workflow. -/
theorem expand_vars (cs : List (Comp × Vars)) (d : Done) (out : List Comp)
    (h : go [] [] (cs.map (·.1)) = .ok (d, out)) :
    ∃ vs, goVars [] [] cs = some vs ∧ vs.length = out.length ∧
      ∀ q ∈ out.zip vs, ∃ cv ∈ cs, VarsOf cv.1 cv.2 q.1 q.2 := by
  obtain ⟨vs, h1, h2, h3⟩ := goVars_of_go cs [] [] [] d out h rfl
  exact ⟨vs, h1, h2, fun q hq => (h3 q hq).resolve_left (by simp)⟩

/-- **Each copy knows its own replica index**, stated on the expansion: for a workflow whose components
are not themselves copies, every emitted copy with index `i` resolves `replica` to `i` — whatever its own
variables, the variables `s` of its stage and the global variables `g` say about `replica` — and every
emitted component that is not a copy carries exactly the variables of the component it stems from. -/
theorem expanded_copy_knows_its_index (cs : List (Comp × Vars)) (d : Done) (out : List Comp)
    (h : go [] [] (cs.map (·.1)) = .ok (d, out)) (hin : ∀ cv ∈ cs, cv.1.replica = none) :
    ∃ vs, goVars [] [] cs = some vs ∧ vs.length = out.length ∧
      ∀ q ∈ out.zip vs,
        (∀ i, q.1.replica = some i → ∀ g s, lookup (visible g s q.2) replicaKey = some (natToDigits i)) ∧
        (q.1.replica = none → ∃ cv ∈ cs, q.1.stage = cv.1.stage ∧ q.1.name = cv.1.name ∧ q.2 = cv.2) := by
  obtain ⟨vs, h1, h2, h3⟩ := expand_vars cs d out h
  refine ⟨vs, h1, h2, fun q hq => ?_⟩
  obtain ⟨cv, hcv, hst, ⟨j, hj, _, hv⟩ | ⟨hr, hn, hv⟩⟩ := h3 q hq
  · refine ⟨fun i hi g s => ?_, fun hnone => ?_⟩
    · cases hj.symm.trans hi
      rw [hv]
      exact copy_knows_its_index g s cv.2 j
    · cases hj.symm.trans hnone
  · refine ⟨fun i hi => ?_, fun _ => ⟨cv, hcv, hst, hn, hv⟩⟩
    cases (hin cv hcv).symm.trans (hr.symm.trans hi)

/-- `sample` asks for 2 replicas and defines `replica: 7` itself; the stage says `replica: 8`, the global
scope `replica: 9`: copy 0 sees 0, copy 1 sees 1; `n` is kept -/
example : ((goVars [] []
      [({ stage := 0, name := "sample".toList, refs := [], repl := some 2, agg := false },
        [("replica".toList, "7".toList), ("n".toList, "2".toList)])]).getD []).map
      (fun v => ((lookup (visible [("replica".toList, "9".toList)] [("replica".toList, "8".toList)] v) replicaKey).map
                  String.ofList,
                 (lookup v "n".toList).map String.ofList)) =
    [(some "0", some "2"), (some "1", some "2")] := by decide +kernel

/-! ## the configuration object: which document is replicated after a history of parametrisations -/

/-- the loaded document is never touched by a parametrisation -/
theorem run_orig (c : Conf) (h : List (UserVars × Bool)) : (run c h).orig = c.orig := by
  unfold run
  induction h generalizing c with
  | nil => rfl
  | cons s h ih =>
    simp only [List.foldl_cons]
    rw [ih]
    rfl

private theorem run_snoc (c : Conf) (h : List (UserVars × Bool)) (u : UserVars) (p : Bool) :
    run c (h ++ [(u, p)]) = construct c.orig u p := by
  have : run c (h ++ [(u, p)]) = construct (run c h).orig u p := by simp [run, construct, parametrize]
  rw [this, run_orig]

/-- **A re-parametrised configuration is the freshly constructed one**: after ANY history of
parametrisations (with any user variables, primitive or not) on one configuration object, parametrising
with user variables `u` leaves the object with the `_concrete` and `_unreplicated` documents that
constructing a new configuration of the loaded document with `u` gives. -/
theorem reparametrised_equals_fresh (d : Doc) (u0 : UserVars) (p0 : Bool) (h : List (UserVars × Bool))
    (u : UserVars) (p : Bool) :
    (run (construct d u0 p0) (h ++ [(u, p)])).concrete = (construct d u p).concrete ∧
    (run (construct d u0 p0) (h ++ [(u, p)])).unrepl = (construct d u p).unrepl := by
  rw [run_snoc]
  exact ⟨rfl, rfl⟩

/-- **What is replicated is the loaded document patched with the user variables of the current
parametrisation** — not those of an earlier one, not the package defaults. -/
theorem history_irrelevant (d : Doc) (u0 : UserVars) (p0 : Bool) (h : List (UserVars × Bool)) (u : UserVars) :
    (run (construct d u0 p0) (h ++ [(u, false)])).concrete =
      .replicated (expandRaw d.g (patchStage u d.st) d.wf) := by
  rw [run_snoc]
  rfl

/-- the scope chain of a component of stage `i` in the patched document: its own variables, then the user
variables for its stage, then the global user variables, then the variables the package gives the stage,
then the global variables of the package -/
theorem user_variable_chain (u : UserVars) (d : Doc) (i : Nat) (own : Vars) (k : S) :
    lookup (visible d.g (patchStage u d.st i) own) k =
      (lookup own k).or ((lookup (stageVars u.stages i) k).or ((lookup u.global k).or
        ((lookup (d.st i) k).or (lookup d.g k)))) := by
  simp only [visible, patchStage, override, lookup_append, Option.or_assoc]

/-- the package says `numberPoints: 4`; the configuration is loaded without user variables (primitive),
parametrised with `numberPoints: 1` and then with `numberPoints: 3`: three copies -/
example : (match (run (construct { g := gEx, st := fun _ => [], wf := [rawCalibrate, rawSimulate] } ⟨[], []⟩ true)
      [(⟨[("numberPoints".toList, "1".toList)], []⟩, false),
       (⟨[("numberPoints".toList, "3".toList)], []⟩, false)]).concrete with
    | .replicated (.ok out) => out.map fun o => String.ofList o.name
    | _ => []) = ["calibrate", "simulate0", "simulate1", "simulate2"] := by decide +kernel

/-! ## non-default platforms: platform scopes and the `override.<platform>` block -/

/-- **Scope chain on a platform**: a name visible to a component on platform `p` has the value the component
gives it (its own variables, `override.p.variables` included), else the value of `p`'s section of its stage,
else the one of `p`'s global section, else the one of the default section of its stage, else the default
global one. -/
theorem platform_chain (dg pg ds ps own : Vars) (k : S) :
    lookup (visible (platGlobal dg pg) (platStage ds ps pg) own) k =
      (lookup own k).or ((lookup ps k).or ((lookup pg k).or ((lookup ds k).or (lookup dg k)))) := by
  simp only [visible, platGlobal, platStage, override, lookup_append, Option.or_assoc,
    lookup_filter_key fun n => (lookup pg n).isNone]
  cases lookup pg k <;> rfl

/-- on a platform for which a component has no override block the component is handed over as it is -/
theorem layerRaw_none (r : Raw) : layerRaw r none = r := rfl

/-- the variables `apply_replicate` sees for a component with an override block: the block's over its own -/
theorem layerRaw_vars (r : Raw) (o : Over) (k : S) :
    lookup (layerRaw r (some o)).vars k = (lookup o.vars k).or (lookup r.vars k) := by
  simp [layerRaw, lookup_override]

/-- layering commutes with ANY rewriting of the strings (`replace_strings` walks the component and the block
with the same function) -/
theorem layerT_map (f : S → S) (base over : TBlock) :
    layerT (base.map f) (over.map f) = (layerT base over).map f := by
  simp only [layerT, TBlock.map, override, List.map_append, Option.map_or]

private theorem readBack_rewritten (g : S → S) (base over : TBlock) :
    BlockEq (layerT ((layerT base over).map g) (over.map g)) ((layerT base over).map g) := by
  rw [layerT_map]
  exact (layerT_idem base over).map g

/-- **The override layer is rewritten consistently with the component.**  For a component whose effective
fields are its own fields with the block `over` layered on top (what `instance(platform)` produces): every
emitted component comes with exactly one kept block, and reading it back through the platform layer gives
exactly the emitted component fields — copy `i` keeps consuming copy `i`, an aggregator keeps its split list
of all copies, every variable (the injected `replica` included) resolves as in the component itself. -/
theorem override_block_consistent (d : Done) (c : Comp) (base over : TBlock) (p : Option Nat) :
    (pieceBase d c (layerT base over) p).length = (pieceOver d c over p).length ∧
    ∀ x ∈ (pieceBase d c (layerT base over) p).zip (pieceOver d c over p), BlockEq (readBack x) x.1 := by
  rw [pieceBase_eq, pieceOver_eq, zip_pieceWith]
  refine ⟨length_pieceWith .., fun x hx => ?_⟩
  rcases (mem_pieceWith c p).mp hx with ⟨_, rfl⟩ | ⟨_, i, _, rfl⟩ | ⟨_, _, rfl⟩
  · exact layerT_split (readBack_rewritten _ base over)
  · exact layerT_replica i (readBack_rewritten _ base over)
  · exact layerT_idem base over

/-- the same over the whole pass: in the replicated FlowIR of a platform every component reads back, through
its kept override block, as its own rewritten fields -/
theorem goBlocks_readback (cs : List (Comp × TBlock × TBlock)) :
    ∀ (d : Done) (out out' : List (TBlock × TBlock)),
      goBlocks d out (cs.map fun x => (x.1, layerT x.2.1 x.2.2, x.2.2)) = some out' →
      (∀ x ∈ out, BlockEq (readBack x) x.1) → ∀ x ∈ out', BlockEq (readBack x) x.1 := by
  induction cs with
  | nil =>
    intro d out out' h h0
    simp only [List.map_nil, goBlocks, Option.some.injEq] at h
    subst h
    exact h0
  | cons e cs ih =>
    intro d out out' h h0
    obtain ⟨c, base, over⟩ := e
    simp only [List.map_cons, goBlocks] at h
    split at h
    · rename_i p _
      refine ih _ _ _ h ?_
      intro x hx
      rcases List.mem_append.mp hx with hx | hx
      · exact h0 x hx
      · exact (override_block_consistent d c base over p).2 x hx
    · cases h

/-- **Copy `i` knows its index on every platform**: whatever `override.<platform>.variables` defines for
`replica`, what is read back for copy `i` is `i`. -/
theorem readback_copy_knows_its_index (g : S → S) (i : Nat) (base over : TBlock) :
    lookup (readBack (setReplica i ((layerT base over).map g), fixReplica i (over.map g))).vars replicaKey =
      some (natToDigits i) :=
  ((layerT_replica i (readBack_rewritten g base over)).2.2 replicaKey).trans (copyVars_replica _ i)

/-- the `references` and the command line of `pieceBase` are those of `pieceText` (the text level the
theorems above are about); `pieceBase` adds the rewriting of the variable VALUES -/
theorem pieceBase_text (d : Done) (c : Comp) (args : S) (vs : Vars) (p : Option Nat) :
    (pieceBase d c ⟨some (c.refs.map render), some args, vs⟩ p).map (fun b => (b.refs, b.args)) =
      (pieceText d c args p).map (fun t => (some t.refs, some t.args)) := by
  unfold pieceBase pieceText
  by_cases ha : c.agg = true
  · simp [ha, splitRefs, TBlock.map, List.flatMap_map]
  · by_cases hn : 0 < p.getD 0
    · simp [ha, hn, setReplica, TBlock.map, Function.comp_def]
    · simp [ha, hn]

/-- non-vacuity: on platform `hpc` the consumer restates its references (`A:ref BA:ref` instead of `A:ref`)
and defines `replica: 7` in its override block; copy 1 reads back `stage0.A1:ref`, `BA:ref` and `replica = 1` -/
example :
    let base : TBlock := ⟨some ["A:ref".toList], some "A:ref".toList, []⟩
    let over : TBlock := ⟨some ["A:ref".toList, "BA:ref".toList], none, [(replicaKey, "7".toList)]⟩
    ((pieceBase dEx cEx (layerT base over) (some 2)).zip (pieceOver dEx cEx over (some 2))).map
        (fun x => ((readBack x).refs.map (·.map String.ofList), (readBack x).args.map String.ofList,
                   (lookup (readBack x).vars replicaKey).map String.ofList)) =
      [(some ["stage0.A0:ref", "BA:ref"], some "stage0.A0:ref", some "0"),
       (some ["stage0.A1:ref", "BA:ref"], some "stage0.A1:ref", some "1")] := by decide +kernel

example : lookup (visible (platGlobal [("n".toList, "2".toList)] [("n".toList, "3".toList)])
    (platStage [("n".toList, "5".toList)] [] [("n".toList, "3".toList)]) []) "n".toList = some "3".toList := by decide +kernel

end St4sd.C03
