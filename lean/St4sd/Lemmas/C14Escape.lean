import St4sd.Model.StatusFile
/-! Lemmas for C14: the shapes of an escaped character (`escapeChar_cases`), and un-escaping one gives the character back. -/
namespace St4sd.StatusFile

theorem ofCode_toNat (c : Char) : ofCode c.toNat = some c := by
  unfold ofCode
  have h : c.toNat.isValidChar := c.valid
  simp only [h, dite_true]
  rfl

theorem hexVal_hexDigit : ∀ d, d < 16 → hexVal (hexDigit d) = some d := by decide +kernel

theorem unesc_hex (k : Nat) (acc n : Nat) (rest : List Char) :
    unesc (.hex k acc) (toHex (k + 1) n ++ rest) =
      match ofCode (acc * 16 ^ (k + 1) + n % 16 ^ (k + 1)) with
      | none => none
      | some ch => (unesc .normal rest).map (ch :: ·) := by
  have hd : ∀ j, hexVal (hexDigit (n / 16 ^ j % 16)) = some (n / 16 ^ j % 16) :=
    fun j => hexVal_hexDigit _ (Nat.mod_lt _ (by decide))
  induction k generalizing acc with
  | zero =>
    rw [toHex, List.cons_append, unesc, hd]
    simp only [toHex, List.nil_append, Nat.pow_zero, Nat.div_one, Nat.zero_add, Nat.pow_one]
    cases ofCode (acc * 16 + n % 16) <;> rfl
  | succ k ih =>
    rw [toHex, List.cons_append, unesc, hd]
    dsimp only
    rw [ih]
    -- the digit read joins the accumulator: `16^(k+2) = 16 * 16^(k+1)` and `n % 16^(k+2) = n % 16^(k+1) + 16^(k+1) * (n / 16^(k+1) % 16)`
    rw [Nat.mod_pow_succ (b := 16) (k := k + 1), Nat.pow_succ 16 (k + 1), Nat.add_mul, Nat.mul_assoc,
      Nat.mul_comm 16, Nat.mul_comm (n / 16 ^ (k + 1) % 16), Nat.add_assoc, Nat.add_comm (16 ^ (k + 1) * _)]

theorem escapeChar_cases (c : Char) :
    (escapeChar c = [c] ∧ c ≠ '\\' ∧ c ≠ '\n') ∨
    (c, escapeChar c) ∈ [('\\', ['\\', '\\']), ('\t', ['\\', 't']), ('\n', ['\\', 'n']), ('\r', ['\\', 'r'])] ∨
    ∃ l k, (l, k) ∈ [('x', 1), ('u', 3), ('U', 7)] ∧ c.toNat < 16 ^ (k + 1) ∧
      escapeChar c = '\\' :: l :: toHex (k + 1) c.toNat := by
  by_cases h1 : c = '\\'
  · subst h1; exact .inr (.inl (by decide))
  by_cases h2 : c = '\t'
  · subst h2; exact .inr (.inl (by decide))
  by_cases h3 : c = '\n'
  · subst h3; exact .inr (.inl (by decide))
  by_cases h4 : c = '\r'
  · subst h4; exact .inr (.inl (by decide))
  have hvalid : c.toNat < 16 ^ 8 := by
    have hv : c.toNat.isValidChar := c.valid
    unfold Nat.isValidChar at hv
    omega
  rw [escapeChar, if_neg h1, if_neg h2, if_neg h3, if_neg h4]
  by_cases h5 : c.toNat < 32
  · rw [if_pos h5]
    exact .inr (.inr ⟨'x', 1, by simp, by omega, rfl⟩)
  by_cases h6 : c.toNat < 127
  · rw [if_neg h5, if_pos h6]
    exact .inl ⟨rfl, h1, h3⟩
  by_cases h7 : c.toNat < 256
  · rw [if_neg h5, if_neg h6, if_pos h7]
    exact .inr (.inr ⟨'x', 1, by simp, by omega, rfl⟩)
  by_cases h8 : c.toNat < 65536
  · rw [if_neg h5, if_neg h6, if_neg h7, if_pos h8]
    exact .inr (.inr ⟨'u', 3, by simp, by omega, rfl⟩)
  · rw [if_neg h5, if_neg h6, if_neg h7, if_neg h8]
    exact .inr (.inr ⟨'U', 7, by simp, hvalid, rfl⟩)

theorem unesc_escapeChar (c : Char) (rest : List Char) :
    unesc .normal (escapeChar c ++ rest) = (unesc .normal rest).map (c :: ·) := by
  rcases escapeChar_cases c with ⟨e, h1, _⟩ | h | ⟨l, k, hlk, hlt, e⟩
  · rw [e]
    simp [unesc, h1]
  · simp only [List.mem_cons, Prod.mk.injEq, List.not_mem_nil, or_false] at h
    rcases h with ⟨rfl, e⟩ | ⟨rfl, e⟩ | ⟨rfl, e⟩ | ⟨rfl, e⟩ <;> rw [e] <;> simp [unesc]
  · have hx : unesc .normal ('\\' :: l :: toHex (k + 1) c.toNat ++ rest)
        = unesc (.hex k 0) (toHex (k + 1) c.toNat ++ rest) := by
      simp only [List.mem_cons, Prod.mk.injEq, List.not_mem_nil, or_false] at hlk
      rcases hlk with ⟨rfl, rfl⟩ | ⟨rfl, rfl⟩ | ⟨rfl, rfl⟩ <;> simp [unesc]
    rw [e, hx, unesc_hex, Nat.zero_mul, Nat.zero_add, Nat.mod_eq_of_lt hlt, ofCode_toNat]

end St4sd.StatusFile
