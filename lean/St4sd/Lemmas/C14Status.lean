import St4sd.Lemmas.C14Escape
/-! Lemmas for C14 about the status file: lines, `strip()` on printable ASCII, keys, and the escaped text being one line. -/
namespace St4sd.StatusFile

def NoNL (s : List Char) : Prop := ∀ c ∈ s, c ≠ '\n'

theorem splitLines_line (l rest : List Char) (h : NoNL l) :
    splitLines (l ++ '\n' :: rest) = l :: splitLines rest := by
  induction l with
  | nil => simp [splitLines]
  | cons c l ih =>
    have hc : c ≠ '\n' := h c (by simp)
    have hl : NoNL l := fun d hd => h d (by simp [hd])
    simp only [List.cons_append, splitLines, hc, if_false, ih hl]

theorem pyIsSpace_printable (c : Char) (h1 : 33 ≤ c.toNat) (h2 : c.toNat ≤ 126) : pyIsSpace c = false := by
  simp only [pyIsSpace, Bool.or_eq_false_iff, Bool.and_eq_false_iff, decide_eq_false_iff_not, beq_eq_false_iff_ne]
  omega

theorem pyStrip_none (s : List Char) (h : ∀ c ∈ s, pyIsSpace c = false) : pyStrip s = s := by
  have hd : ∀ l : List Char, (∀ c ∈ l, pyIsSpace c = false) → l.dropWhile pyIsSpace = l := by
    intro l hl
    cases l with
    | nil => rfl
    | cons c l => simp [List.dropWhile, hl c (by simp)]
  rw [pyStrip, hd s h, hd _ (fun c hc => h c (List.mem_reverse.mp hc)), List.reverse_reverse]

/-- the characters of a status key: lower-case letters, digits, `-` -/
theorem keyClean_mem {k : List Char} (h : keyClean k = true) {c : Char} (hc : c ∈ k) :
    (97 ≤ c.toNat ∧ c.toNat ≤ 122) ∨ (48 ≤ c.toNat ∧ c.toNat ≤ 57) ∨ c.toNat = 45 := by
  simpa [or_assoc] using List.all_eq_true.mp h c hc

theorem key_facts (k : List Char) (h : keyClean k = true) :
    lowerAscii (pyStrip k) = k ∧ '=' ∉ k ∧ NoNL k := by
  refine ⟨?_, ?_, ?_⟩
  · rw [pyStrip_none k fun c hc => pyIsSpace_printable c (by have := keyClean_mem h hc; omega)
      (by have := keyClean_mem h hc; omega)]
    refine (List.map_congr_left fun c hc => if_neg ?_).trans (List.map_id k)
    have := keyClean_mem h hc
    simp only [Bool.and_eq_true, decide_eq_true_eq]
    omega
  · intro hc
    have := keyClean_mem h hc
    simp at this
  · intro c hc e
    have := keyClean_mem h hc
    simp [e] at this

/-! the escaped text never contains a newline -/

theorem hexDigit_ne_nl : ∀ d, d < 16 → hexDigit d ≠ '\n' := by decide

theorem toHex_noNL (k n : Nat) : NoNL (toHex k n) := by
  induction k with
  | zero => intro c hc; simp [toHex] at hc
  | succ k ih =>
    intro c hc
    simp only [toHex, List.mem_cons] at hc
    rcases hc with rfl | hc
    · exact hexDigit_ne_nl _ (Nat.mod_lt _ (by decide))
    · exact ih c hc

theorem escapeChar_noNL (c : Char) : NoNL (escapeChar c) := by
  rcases escapeChar_cases c with ⟨e, _, h3⟩ | h | ⟨l, k, hlk, _, e⟩
  · rw [e]
    intro d hd
    rwa [List.mem_singleton.mp hd]
  · simp only [List.mem_cons, Prod.mk.injEq, List.not_mem_nil, or_false] at h
    rcases h with ⟨_, e⟩ | ⟨_, e⟩ | ⟨_, e⟩ | ⟨_, e⟩ <;> rw [e] <;> simp [NoNL]
  · rw [e]
    intro d hd
    simp only [List.mem_cons, Prod.mk.injEq, List.not_mem_nil, or_false] at hd hlk
    rcases hd with rfl | rfl | hd
    · decide
    · rcases hlk with ⟨rfl, _⟩ | ⟨rfl, _⟩ | ⟨rfl, _⟩ <;> decide
    · exact toHex_noNL _ _ d hd

end St4sd.StatusFile
