import St4sd.Model.Str
/-!
Laws of the shared string model `St4sd.Str` that several properties rely on: `int(str(n)) = n`, what
`split(c, 1)` returns, `lexLt` as a strict total order, `strip` on a text without blanks; and how the test vectors
hand string literals to the kernel.
-/
namespace St4sd.Str

/-! ## decimal digits -/

theorem digit_toNat : ∀ d < 10, (Char.ofNat (48 + d)).toNat - 48 = d := by decide

theorem digit_isDigit : ∀ d < 10, isDigit (Char.ofNat (48 + d)) = true := by decide

theorem natToDigitsAux_all (fuel n : Nat) (acc : S) (h : ∀ c ∈ acc, isDigit c = true) :
    ∀ c ∈ natToDigitsAux fuel n acc, isDigit c = true := by
  induction fuel generalizing n acc with
  | zero => exact h
  | succ fuel ih =>
    have h' : ∀ c ∈ Char.ofNat (48 + n % 10) :: acc, isDigit c = true := by
      intro c hc
      rcases List.mem_cons.mp hc with rfl | hc
      · exact digit_isDigit _ (Nat.mod_lt _ (by decide))
      · exact h c hc
    unfold natToDigitsAux
    split
    · exact h'
    · exact ih _ _ h'

theorem natToDigitsAux_ne_nil (fuel n : Nat) (acc : S) (h : 0 < fuel ∨ acc ≠ []) :
    natToDigitsAux fuel n acc ≠ [] := by
  induction fuel generalizing n acc with
  | zero => exact h.resolve_left (Nat.lt_irrefl 0)
  | succ fuel ih =>
    unfold natToDigitsAux
    split
    · exact List.cons_ne_nil _ _
    · exact ih _ _ (Or.inr (List.cons_ne_nil _ _))

/-- Reading the digits back: with enough fuel the accumulator is read as if `n` stood in front of it. -/
theorem natToDigitsAux_foldl (fuel n : Nat) (acc : S) (h : n < fuel) :
    (natToDigitsAux fuel n acc).foldl (fun a c => a * 10 + (c.toNat - 48)) 0 =
      acc.foldl (fun a c => a * 10 + (c.toNat - 48)) n := by
  induction fuel generalizing n acc with
  | zero => omega
  | succ fuel ih =>
    have hd := digit_toNat (n % 10) (Nat.mod_lt _ (by decide))
    unfold natToDigitsAux
    split
    · rw [List.foldl_cons, hd]; congr 1; omega
    · rw [ih _ _ (by omega), List.foldl_cons, hd]; congr 1; omega

theorem natToDigits_all (n : Nat) : ∀ c ∈ natToDigits n, isDigit c = true :=
  natToDigitsAux_all _ _ _ (by simp)

theorem natToDigits_ne_nil (n : Nat) : natToDigits n ≠ [] :=
  natToDigitsAux_ne_nil _ _ _ (Or.inl (Nat.succ_pos n))

/-- `int(str(n)) = n` -/
theorem digitsToNat_natToDigits (n : Nat) : digitsToNat? (natToDigits n) = some n := by
  have h1 : (natToDigits n).all isDigit = true := List.all_eq_true.mpr (natToDigits_all n)
  have h2 : (natToDigits n).isEmpty = false := by simpa using natToDigits_ne_nil n
  simp only [digitsToNat?, h1, h2, Bool.not_true, Bool.or_self, Bool.false_eq_true, if_false]
  exact congrArg some (natToDigitsAux_foldl (n + 1) n [] (Nat.lt_succ_self n))

/-! ## `split(c, 1)` -/

theorem splitFirst_append (c : Char) (a b : S) (h : c ∉ a) : splitFirst c (a ++ c :: b) = some (a, b) := by
  induction a with
  | nil => simp [splitFirst]
  | cons d t ih =>
    have hd : (d == c) = false := by simpa using fun e : d = c => h (by simp [e])
    simp [splitFirst, hd, ih fun e => h (by simp [e])]

theorem splitFirst_some {c : Char} {s a b : S} (h : splitFirst c s = some (a, b)) :
    s = a ++ c :: b ∧ c ∉ a := by
  induction s generalizing a b with
  | nil => simp [splitFirst] at h
  | cons d t ih =>
    unfold splitFirst at h
    split at h
    · next hd => simp_all
    · next hd =>
      split at h
      · cases h
      · next a' b' hs =>
        obtain ⟨rfl, rfl⟩ : d :: a' = a ∧ b' = b := by simpa using h
        obtain ⟨rfl, h2⟩ := ih hs
        exact ⟨rfl, by simpa [h2] using fun e : c = d => hd (by simp [e])⟩

theorem splitFirst_eq_some_iff (c : Char) (s a b : S) :
    splitFirst c s = some (a, b) ↔ s = a ++ c :: b ∧ c ∉ a :=
  ⟨splitFirst_some, fun ⟨e, h⟩ => e ▸ splitFirst_append c a b h⟩

theorem splitFirst_none_iff (c : Char) (s : S) : splitFirst c s = none ↔ c ∉ s := by
  induction s with
  | nil => simp [splitFirst]
  | cons d t ih =>
    unfold splitFirst
    by_cases hd : d = c
    · simp [hd]
    · have hd' : (d == c) = false := by simpa using hd
      simp only [hd', Bool.false_eq_true, if_false, List.mem_cons, not_or, ← ih]
      cases splitFirst c t <;> simp [Ne.symm hd]

/-! ## `lexLt` is a strict total order -/

theorem lexLt_irrefl : ∀ a : S, lexLt a a = false
  | [] => rfl
  | c :: s => by simp [lexLt, Char.lt_irrefl, lexLt_irrefl s]

theorem lexLt_asymm : ∀ a b : S, lexLt a b = true → lexLt b a = false
  | [], [] => by simp [lexLt]
  | [], _ :: _ => by simp [lexLt]
  | _ :: _, [] => by simp [lexLt]
  | a :: s, b :: t => by
    simp only [lexLt, Bool.or_eq_true, decide_eq_true_eq, Bool.and_eq_true, beq_iff_eq,
      Bool.or_eq_false_iff, decide_eq_false_iff_not, Bool.and_eq_false_imp]
    intro h
    rcases h with h | ⟨h1, h2⟩
    · exact ⟨Char.lt_asymm h, fun e => by subst e; exact absurd h (Char.lt_irrefl _)⟩
    · subst h1; exact ⟨Char.lt_irrefl _, fun _ => lexLt_asymm s t h2⟩

theorem lexLt_trans : ∀ a b c : S, lexLt a b = true → lexLt b c = true → lexLt a c = true
  | [], [], _ => by simp [lexLt]
  | [], _ :: _, [] => by simp [lexLt]
  | [], _ :: _, _ :: _ => by simp [lexLt]
  | _ :: _, [], _ => by simp [lexLt]
  | _ :: _, _ :: _, [] => by simp [lexLt]
  | a :: s, b :: t, c :: u => by
    simp only [lexLt, Bool.or_eq_true, decide_eq_true_eq, Bool.and_eq_true, beq_iff_eq]
    intro h1 h2
    rcases h1 with h1 | ⟨e1, h1⟩ <;> rcases h2 with h2 | ⟨e2, h2⟩
    · exact Or.inl (Char.lt_trans h1 h2)
    · subst e2; exact Or.inl h1
    · subst e1; exact Or.inl h2
    · subst e1; subst e2; exact Or.inr ⟨rfl, lexLt_trans s t u h1 h2⟩

theorem lexLt_trichotomy : ∀ a b : S, lexLt a b = false → lexLt b a = false → a = b
  | [], [] => by simp
  | [], _ :: _ => by simp [lexLt]
  | _ :: _, [] => by simp [lexLt]
  | a :: s, b :: t => by
    simp only [lexLt, Bool.or_eq_false_iff, decide_eq_false_iff_not, Bool.and_eq_false_imp, beq_iff_eq]
    intro ⟨h1, h2⟩ ⟨h3, h4⟩
    have e : a = b := Char.le_antisymm (Char.not_lt.mp h3) (Char.not_lt.mp h1)
    subst e
    rw [lexLt_trichotomy s t (h2 rfl) (h4 rfl)]

/-! `¬ b < a` as `a ≤ b`: the order the models sort by (`Layer.leS`, `Hash.lexLe`) -/

theorem not_lexLt_total (a b : S) : (!lexLt b a) = true ∨ (!lexLt a b) = true := by
  cases h : lexLt b a with
  | false => exact .inl rfl
  | true => exact .inr (by rw [lexLt_asymm b a h]; rfl)

theorem not_lexLt_antisymm {a b : S} (h1 : (!lexLt b a) = true) (h2 : (!lexLt a b) = true) : a = b :=
  lexLt_trichotomy a b (by simpa using h2) (by simpa using h1)

theorem not_lexLt_trans {a b c : S} (h1 : (!lexLt b a) = true) (h2 : (!lexLt c b) = true) : (!lexLt c a) = true := by
  simp only [Bool.not_eq_eq_eq_not, Bool.not_true] at *
  cases hca : lexLt c a with
  | false => rfl
  | true =>
    cases hbc : lexLt b c with
    | true => exact (lexLt_trans b c a hbc hca).symm.trans h1
    | false =>
      cases lexLt_trichotomy b c hbc h2
      exact hca.symm.trans h1

/-! ## `strip` -/

theorem strip_id (s : S) (h : ∀ c ∈ s, isSpace c = false) : strip s = s := by
  have hd : ∀ t : S, (∀ c ∈ t, isSpace c = false) → t.dropWhile isSpace = t := fun t ht => by
    cases t with
    | nil => rfl
    | cons c t => simp [List.dropWhile, ht c List.mem_cons_self]
  simp [strip, lstrip, rstrip, hd s h, hd s.reverse (by simpa using h)]

theorem digit_not_space (c : Char) (h : isDigit c = true) : isSpace c = false := by
  cases hs : isSpace c with
  | false => rfl
  | true =>
    simp only [isSpace, Bool.or_eq_true, beq_iff_eq] at hs
    rcases hs with ((((h1 | h1) | h1) | h1) | h1) | h1 <;> subst h1 <;> revert h <;> decide +kernel

theorem strip_digits (s : S) (h : ∀ c ∈ s, isDigit c = true) : strip s = s :=
  strip_id s fun c hc => digit_not_space c (h c hc)

/-! ## string literals -/

/-- For the test vectors: to the kernel a literal is `String.ofList [c₁, …]`, so `simp -index only [String.toList_ofList]`
rewrites every `"…".toList` to its list of characters (`-index`: the discrimination tree does not match a literal against
`String.ofList _`), whereas evaluating `"…".toList` or comparing `String`s runs the UTF-8 coder, quadratic in the
length.  A goal `String.ofList l = "…"` goes the same way through this lemma. -/
theorem ofList_eq {l : S} {s : String} (h : l = s.toList) : String.ofList l = s := by
  rw [h, String.ofList_toList]

end St4sd.Str
