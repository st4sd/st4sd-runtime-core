import St4sd.Model.HashExe
import St4sd.Lemmas.C16Multi
import St4sd.Lemmas.C16Cache
/-!
# C16 — Memoization hashes identify equivalent work and nothing else

Property theorems about `St4sd.Hash` (model of `_compute_memoization_info` / `_memoization_info_to_hash`).
`md5` is a parameter everywhere; `Function.Injective md5` is a hypothesis where it is needed.
How the info is put together (`entryOf`, `fileEntries`, `mkInfo` taken apart) is in `Lemmas/C16Info.lean`, the decoding of
the serialised buffer in `C16Decode`, the files as a multiset in `C16Multi`, the file-system layer in `C16Fs`, sessions
and the cache in `C16Cache`.
-/
namespace St4sd.C16
open St4sd.Str St4sd.Hash

/-! ### names, location, time -/

/-- The component is known to the blueprint table: under its own name with its own executable, or — for a
replica `<b><replica index>` that is not itself an unreplicated component — through its blueprint `b`. -/
inductive Registered (bps : Blueprints) (c : Comp) : Prop
  | own : lookupBp bps (c.stage, c.name) = some c.exe → Registered bps c
  | replica (b : S) (r : Nat) : lookupBp bps (c.stage, c.name) = none → c.replica = some r →
      c.name = b ++ natToDigits r → lookupBp bps (c.stage, b) = some c.exe → Registered bps c

/-- With the repaired lookup the executable that enters the hash is the component's own. -/
theorem blueprint_lookup_own (bps : Blueprints) (c : Comp) (h : Registered bps c) :
    lookupBp bps (c.stage, blueprintName bps c) = some c.exe := by
  cases h with
  | own h => simp [blueprintName, h]
  | replica b r hn hr hname hb =>
    simp only [blueprintName, hn, hr, Option.isSome_none, Bool.false_eq_true, if_false]
    simp [hname, hb]

theorem mkInfo_eq_infoCore (md5 : S → S) (fuzzy : Bool) (bps : Blueprints) (ph : Nat → Option S) (c : Comp)
    (h : Registered bps c) :
    mkInfo md5 fuzzy bps ph c = infoCore md5 fuzzy ph (imageOf c.backend) c.exe c.args c.refs := by
  simp [mkInfo, blueprint_lookup_own bps c h]

/-- **Location, names, time.**  Two components — anywhere, under any component name, stage index, instance
location and modification time, in any two experiments (blueprint tables) — that are declared with the same
executable, arguments, references (spellings + what they point to) and backend get the same strong and the
same fuzzy hash (given the same producer hashes). -/
theorem hash_ignores_location_names_time (md5 : S → S) (fuzzy : Bool) (bps₁ bps₂ : Blueprints)
    (hs : List (Option S)) (c₁ c₂ : Comp) (h₁ : Registered bps₁ c₁) (h₂ : Registered bps₂ c₂)
    (hexe : c₁.exe = c₂.exe) (hargs : c₁.args = c₂.args) (hrefs : c₁.refs = c₂.refs)
    (hb : c₁.backend = c₂.backend) :
    hashOne md5 fuzzy bps₁ hs c₁ = hashOne md5 fuzzy bps₂ hs c₂ := by
  simp [hashOne, mkInfo_eq_infoCore _ _ _ _ _ h₁, mkInfo_eq_infoCore _ _ _ _ _ h₂, hexe, hargs, hrefs, hb]

/-- … in particular moving / renaming / re-timing one component changes nothing. -/
theorem hash_ignores_location_names_time' (md5 : S → S) (fuzzy : Bool) (bps : Blueprints)
    (hs : List (Option S)) (c : Comp) (loc : S) (t : Nat) :
    hashOne md5 fuzzy bps hs { c with location := loc, mtime := t } = hashOne md5 fuzzy bps hs c := rfl

/-- non-vacuity: a replica `calc21` of blueprint `calc2` and an unreplicated `step7` are both `Registered` -/
example : Registered [((0, "calc2".toList), "/bin/ls".toList)]
    { name := "calc21".toList, stage := 0, location := [], mtime := 0, replica := some 1, exe := "/bin/ls".toList,
      args := [], refs := [], backend := .loc } :=
  .replica "calc2".toList 1 (by decide +kernel) rfl (by decide +kernel) (by decide +kernel)

example : Registered [((1, "step7".toList), "/bin/cat".toList)]
    { name := "step7".toList, stage := 1, location := [], mtime := 0, replica := none, exe := "/bin/cat".toList,
      args := [], refs := [], backend := .loc } :=
  .own (by decide +kernel)

/-! ### missing inputs -/

/-- a reference whose file is not there -/
def _root_.St4sd.Hash.Ref.Missing (r : Ref) : Prop := r.target = .file none ∨ ∃ p, r.target = .prodFile p none

private theorem hashOne_none_of_fail {md5 : S → S} {fuzzy : Bool} {bps : Blueprints} {hs : List (Option S)}
    {c : Comp} {r : Ref} (hr : r ∈ c.refs) (h : entryOf md5 fuzzy (getH hs) r = .fail) :
    hashOne md5 fuzzy bps hs c = none := by
  refine hashOne_eq_none md5 fuzzy bps fun i hi => ?_
  obtain ⟨_, E, _, _, hE, _⟩ := (mkInfo_eq_some md5 fuzzy _ bps).mp hi
  rw [(fileEntries_eq_none md5 fuzzy _).mpr ⟨r, mem_sortRefs.mpr hr, h⟩] at hE
  cases hE

/-- **No hash while a referenced input is missing** (strong and fuzzy, whatever the blueprint table, the
producer hashes, and the rest of the component). -/
theorem no_hash_when_input_missing (md5 : S → S) (fuzzy : Bool) (bps : Blueprints) (hs : List (Option S))
    (c : Comp) (r : Ref) (hr : r ∈ c.refs) (h : r.Missing) : hashOne md5 fuzzy bps hs c = none := by
  refine hashOne_none_of_fail hr ?_
  rcases h with h | ⟨p, h⟩ <;> simp only [entryOf, h]

/-- non-vacuity of `Missing`, and a component with all inputs present does get a hash -/
example : Ref.Missing ⟨"input/a.txt:ref".toList, "input/a.txt:ref".toList, "ref".toList, [], .file none⟩ :=
  .inl rfl

example : (hashOne (fun x => 'h' :: x) false [((0, "c".toList), "/bin/ls".toList)] []
    { name := "c".toList, stage := 0, location := [], mtime := 0, replica := none, exe := "/bin/ls".toList,
      args := "-l input/a.txt:ref".toList,
      refs := [⟨"input/a.txt:ref".toList, "input/a.txt:ref".toList, "ref".toList, [], .file (some "AAA".toList)⟩],
      backend := .loc }).isSome = true := by
  simp -index only [String.toList_ofList]
  decide +kernel

/-! ### fuzzy hashes and produced contents -/

/-- replace the contents of every *produced* file that exists by `f contents` -/
def _root_.St4sd.Hash.Ref.withProduced (f : S → S) (r : Ref) : Ref :=
  match r.target with
  | .prodFile p (some c) => { r with target := .prodFile p (some (f c)) }
  | _ => r

def _root_.St4sd.Hash.Comp.withProduced (f : S → S) (c : Comp) : Comp := { c with refs := c.refs.map (Ref.withProduced f) }

private theorem withProduced_same (md5 : S → S) (ph : Nat → Option S) (f : S → S) (r : Ref) :
    SameFor md5 true ph (r.withProduced f) r := by
  obtain ⟨a, rl, m, fr, (_ | c) | _ | ⟨p, _ | c⟩ | p⟩ := r <;> exact ⟨rfl, rfl, rfl, rfl, rfl⟩

theorem mkInfo_fuzzy_withProduced (md5 : S → S) (bps : Blueprints) (ph : Nat → Option S) (f : S → S) (c : Comp) :
    mkInfo md5 true bps ph (c.withProduced f) = mkInfo md5 true bps ph c := by
  show (match lookupBp bps (c.stage, blueprintName bps c) with
    | none => none
    | some exe => infoCore md5 true ph (imageOf c.backend) exe c.args (c.refs.map (Ref.withProduced f))) = _
  simp only [infoCore_map md5 true ph _ (withProduced_same md5 ph f)]
  rfl

private theorem hashesAux_withProduced (md5 : S → S) (bps : Blueprints) (f : S → S) (cs : List Comp)
    (acc : List (Option S)) :
    hashesAux md5 true bps (cs.map (Comp.withProduced f)) acc = hashesAux md5 true bps cs acc := by
  induction cs generalizing acc with
  | nil => rfl
  | cons c cs ih => simp [hashesAux, hashOne, mkInfo_fuzzy_withProduced, ih]

/-- **The fuzzy hash ignores the contents of files produced by other components**: rewriting the contents of
every produced file (that exists) in every component of the experiment leaves every fuzzy hash unchanged —
by recursion over the whole DAG. -/
theorem fuzzy_ignores_produced_contents (md5 : S → S) (bps : Blueprints) (f : S → S) (cs : List Comp) :
    hashes md5 true bps (cs.map (Comp.withProduced f)) = hashes md5 true bps cs :=
  hashesAux_withProduced md5 bps f cs []

private def exConsumer : Comp :=
  { name := "c".toList, stage := 0, location := [], mtime := 0, replica := none, exe := "/bin/cat".toList,
    args := "p/o:ref".toList,
    refs := [⟨"stage0.p/o:ref".toList, "p/o:ref".toList, "ref".toList, "o".toList, .prodFile 0 (some "X".toList)⟩],
    backend := .loc }
private def exBps : Blueprints := [((0, "c".toList), "/bin/cat".toList)]

/-- non-vacuity: the same rewrite does change the *strong* hash of a consumer (with an injective `md5`) -/
example : hashOne (fun x => 'h' :: x) false exBps [some "ff".toList] (exConsumer.withProduced (fun x => 'Y' :: x))
    ≠ hashOne (fun x => 'h' :: x) false exBps [some "ff".toList] exConsumer := by
  unfold exBps exConsumer
  simp -index only [String.toList_ofList]
  decide +kernel

/-! ### the fuzzy hash tracks the producers -/

/-- **The fuzzy info changes when the fuzzy hash of a producer changes — partial**: if the component consumes a
file of producer `p` (any method) and the two assignments of producer hashes differ at `p`, the lists of file
entries that are hashed differ.  Partial: (a) stated on the hashed data, not yet on the digest — the step to
the digest is `same_hash_iff_same_work_partial` (hypothesis `SepFree`) together with `files_decodable`;
(b) a producer consumed *only* through a copy/link of its working directory is not tracked by the code at
all: `Witness.C16.fuzzy_does_not_track_directory_copy` (known finding). -/
theorem fuzzy_tracks_producer_partial (md5 : S → S) (bps : Blueprints) (ph ph' : Nat → Option S) (c : Comp)
    (r : Ref) (hr : r ∈ c.refs) (p : Nat) (content h h' : S) (ht : r.target = .prodFile p (some content))
    (hp : ph p = some h) (hp' : ph' p = some h') (hne : h ≠ h') (i i' : Info)
    (hi : mkInfo md5 true bps ph c = some i) (hi' : mkInfo md5 true bps ph' c = some i') :
    i.files ≠ i'.files := by
  obtain ⟨_, E, _, _, hE, _, rfl⟩ := (mkInfo_eq_some md5 true ph bps).mp hi
  obtain ⟨_, E', _, _, hE', _, rfl⟩ := (mkInfo_eq_some md5 true ph' bps).mp hi'
  obtain ⟨hnf, rfl⟩ := fileEntries_eq_some md5 true ph hE
  obtain ⟨hnf', rfl⟩ := fileEntries_eq_some md5 true ph' hE'
  show List.map es _ ≠ List.map es _
  rw [List.map_filterMap, List.map_filterMap]
  refine filterMap_ne _ _ (fun x hx => ?_) (mem_sortRefs.mpr hr) ?_
  · rw [Option.isSome_map, Option.isSome_map, entry?_isSome md5 true ph (hnf x hx),
      entry?_isSome md5 true ph' (hnf' x hx)]
  · simp only [entryOf, ht, hp, hp', if_true, EntryRes.entry?, Option.map_some, es, ne_eq, Option.some.injEq,
      List.append_assoc]
    exact fun e => hne (List.append_cancel_right (List.append_cancel_left e))

/-- one step of the chain, on digests, for the consumer of a single produced file (no sorting involved):
different producer hashes give different consumer hashes -/
example : hashOne (fun x => 'h' :: x) true exBps [some "aa".toList] exConsumer
    ≠ hashOne (fun x => 'h' :: x) true exBps [some "bb".toList] exConsumer := by
  unfold exBps exConsumer
  simp -index only [String.toList_ofList]
  decide +kernel

/-! ### same hash ⇔ same work -/

/-- **Hypothesis of the partial theorem** (decidable): no key word of the serialisation occurs *early* in the
value that precedes it — `commandarguments` in the image part, `executable` in the arguments (after the
references have been replaced), `files` in the executable.  ("Early" = inside the value or overlapping its
end, see `NoEarly`; `executable` overlaps itself by its first/last letter.)  Without it the full statement is
false of the code: `Witness.C16`. -/
def SepFree (i : Info) : Prop :=
  NoEarly (kCommand ++ kArguments) (serBackend i.image) ∧ NoEarly kExecutable i.args ∧ NoEarly kFiles i.exe

instance (i : Info) : Decidable (SepFree i) := by unfold SepFree; infer_instance

/-- what the property calls "the same work", on the computed infos: same container image, same arguments after
each reference has been replaced by the hash of what it refers to, same executable, and the same
`hash:method` entries of the consumed files irrespective of their order (as one sorted buffer). -/
def SameWork (i₁ i₂ : Info) : Prop :=
  i₁.image = i₂.image ∧ i₁.args = i₂.args ∧ i₁.exe = i₂.exe ∧
    concat (sortStr i₁.files) = concat (sortStr i₂.files)

instance (i₁ i₂ : Info) : Decidable (SameWork i₁ i₂) := by unfold SameWork; infer_instance

private theorem serBackend_inj (a b : Option S) (h : serBackend a = serBackend b) : a = b := by
  cases a <;> cases b <;> simp_all [serBackend, kImage]

private theorem serialize_shape (i : Info) :
    serialize i = kBackend ++ (serBackend i.image ++ (kCommand ++ kArguments) ++
      (i.args ++ kExecutable ++ (i.exe ++ kFiles ++ concat (sortStr i.files)))) := by
  simp [serialize, List.append_assoc]

/-- the separator-less buffer determines the info up to the order of the file entries — under `SepFree` -/
theorem serialize_eq_iff_partial (i₁ i₂ : Info) (h₁ : SepFree i₁) (h₂ : SepFree i₂) :
    serialize i₁ = serialize i₂ ↔ SameWork i₁ i₂ := by
  obtain ⟨img₁, args₁, exe₁⟩ := h₁
  obtain ⟨img₂, args₂, exe₂⟩ := h₂
  constructor
  · intro e
    rw [serialize_shape, serialize_shape] at e
    obtain ⟨hb, e⟩ := append_key_inj _ _ _ _ _ img₁ img₂ (List.append_cancel_left e)
    obtain ⟨ha, e⟩ := append_key_inj _ _ _ _ _ args₁ args₂ e
    obtain ⟨he, hf⟩ := append_key_inj _ _ _ _ _ exe₁ exe₂ e
    exact ⟨serBackend_inj _ _ hb, ha, he, hf⟩
  · rintro ⟨h1, h2, h3, h4⟩
    simp [serialize, h1, h2, h3, h4]

/-- **Same strong (or fuzzy) hash exactly when same work — partial**: for two components whose infos exist and
are `SepFree`, with an injective `md5`.  Partial because (a) `SepFree` excludes the inputs on which the
separator-less serialisation collides (known finding, `Witness.C16.collision_*`), (b) the file entries are
compared as one sorted buffer (`files_decodable` upgrades this to equality of the sorted entry lists when the
entries have the shape the code produces). -/
theorem same_hash_iff_same_work_partial (md5 : S → S) (hinj : Function.Injective md5) (fuzzy : Bool)
    (bps₁ bps₂ : Blueprints) (hs₁ hs₂ : List (Option S)) (c₁ c₂ : Comp) (i₁ i₂ : Info)
    (hi₁ : mkInfo md5 fuzzy bps₁ (getH hs₁) c₁ = some i₁) (hi₂ : mkInfo md5 fuzzy bps₂ (getH hs₂) c₂ = some i₂)
    (h₁ : SepFree i₁) (h₂ : SepFree i₂) :
    hashOne md5 fuzzy bps₁ hs₁ c₁ = hashOne md5 fuzzy bps₂ hs₂ c₂ ↔ SameWork i₁ i₂ := by
  simp only [hashOne, hi₁, hi₂, Option.map_some, Option.some.injEq, hashInfo]
  rw [← serialize_eq_iff_partial i₁ i₂ h₁ h₂]
  exact ⟨fun h => hinj h, fun h => congrArg md5 h⟩

/-- … and a component without hash never shares one. -/
theorem no_hash_never_equal (md5 : S → S) (fuzzy : Bool) (bps₁ bps₂ : Blueprints) (hs₁ hs₂ : List (Option S))
    (c₁ c₂ : Comp) (h : hashOne md5 fuzzy bps₁ hs₁ c₁ = none) (i₂ : Info)
    (hi₂ : mkInfo md5 fuzzy bps₂ (getH hs₂) c₂ = some i₂) :
    hashOne md5 fuzzy bps₁ hs₁ c₁ ≠ hashOne md5 fuzzy bps₂ hs₂ c₂ := by
  rw [h]
  simp [hashOne, hi₂]

/-- **Same work means the same consumed files through the same methods**: when the file entries have the
shape the code produces (`goodEntry`: `<digest or fuzzy#digest#file>:<method>`), equality of the sorted
buffers (last clause of `SameWork`) is equality of the sorted lists of `hash:method` entries. -/
theorem same_work_same_entries (i₁ i₂ : Info) (g₁ : ∀ e ∈ i₁.files, goodEntry e = true)
    (g₂ : ∀ e ∈ i₂.files, goodEntry e = true) (h : SameWork i₁ i₂) : sortStr i₁.files = sortStr i₂.files :=
  files_decodable _ _ (fun e he => g₁ e ((perm_sortStr _).mem_iff.mp he))
    (fun e he => g₂ e ((perm_sortStr _).mem_iff.mp he)) h.2.2.2

example : goodEntry "e1faffb3e614e6c2fba74296962386b7:copyout".toList = true := by
  simp -index only [String.toList_ofList]
  decide +kernel
example : goodEntry "fuzzy#498ec47df68c49c2109df5e3de567899#out.txt:ref".toList = true := by
  simp -index only [String.toList_ofList]
  decide +kernel
example : goodEntry "no-method".toList = false := by decide +kernel

/-- non-vacuity: a typical info is `SepFree`; the colliding ones of the witness are not -/
example : SepFree ⟨some "foo/bar:1".toList, "-l file:0a1b:ref x=producer:ff:ref".toList, "/bin/ls".toList,
    ["0a1b:ref".toList]⟩ := by
  simp -index only [String.toList_ofList]
  decide +kernel
example : ¬ SepFree ⟨none, "aexecutableb".toList, "c".toList, []⟩ := by decide +kernel
example : ¬ SepFree ⟨none, "xexecutabl".toList, "E".toList, []⟩ := by decide +kernel

/-- a different executable, argument text, image, or file entry is different work (so, by the theorem, a
different hash) -/
example : ¬ SameWork ⟨none, "-l".toList, "/bin/ls".toList, []⟩ ⟨none, "-l".toList, "/bin/cat".toList, []⟩ := by
  decide +kernel
example : ¬ SameWork ⟨some "a:1".toList, [], "x".toList, []⟩ ⟨some "a:2".toList, [], "x".toList, []⟩ := by decide +kernel
example : ¬ SameWork ⟨none, [], "x".toList, ["0a:copy".toList]⟩ ⟨none, [], "x".toList, ["0a:link".toList]⟩ := by
  decide +kernel
example : SameWork ⟨none, [], "x".toList, ["0a:copy".toList, "ff:ref".toList]⟩
    ⟨none, [], "x".toList, ["ff:ref".toList, "0a:copy".toList]⟩ := by decide +kernel

/-! ### histories: the hash is a function of the *current* contents of the file system

`Model/HashFs.lean`: references name paths, the hash is computed on the file system as it is at that moment
(`hashesFs`), the file system evolves by `Op`s (rewrite in place / replace / touch / remove / rename / re-create
the experiment object).  The model has no state but the file system; the theorems below say that — of the file
system — only `view` (what exists at the referenced paths, and the contents of the files) matters: no
modification time, inode, length-and-time signature or earlier content can influence a hash, so an
implementation that reuses a digest computed for an earlier content of a path is outside the model (the
harness compares every observation of a history with `observeHistory`).  Every theorem of the section about an
operation is `hash_function_of_current_contents` with what the operation does to `view` (`Lemmas/C16Fs.lean`). -/

/-- two file systems show the same thing (nothing / a directory / a file with the same contents) at every path
a component of `cs` refers to -/
def AgreeOn (cs : List SComp) (fs₁ fs₂ : Fs) : Prop :=
  ∀ c ∈ cs, ∀ r ∈ c.refs, view fs₁ r.loc.path = view fs₂ r.loc.path

/-- **The hash is a function of the current contents.**  Strong and fuzzy hashes of every component of the
graph are the same on any two file systems that agree — in existence, kind and file contents — on the
referenced paths; modification times, inodes and everything else are not read. -/
theorem hash_function_of_current_contents (md5 : S → S) (fuzzy : Bool) (bps : Blueprints) (cs : List SComp)
    (fs₁ fs₂ : Fs) (h : AgreeOn cs fs₁ fs₂) :
    hashesFs md5 fuzzy bps fs₁ cs = hashesFs md5 fuzzy bps fs₂ cs := by
  unfold hashesFs
  rw [List.map_congr_left (fun c hc => resolve_comp_congr fs₁ fs₂ c (h c hc))]

/-- **Stale state cannot matter.**  Whatever two histories did before (from whatever initial file systems):
if the file systems they end in agree on the referenced paths, the hashes computed then are equal. -/
theorem hash_ignores_history (md5 : S → S) (fuzzy : Bool) (bps : Blueprints) (cs : List SComp) (fs₁ fs₂ : Fs)
    (ops₁ ops₂ : List Op) (h : AgreeOn cs (run fs₁ ops₁) (run fs₂ ops₂)) :
    hashesFs md5 fuzzy bps (run fs₁ ops₁) cs = hashesFs md5 fuzzy bps (run fs₂ ops₂) cs :=
  hash_function_of_current_contents md5 fuzzy bps cs _ _ h

private theorem states_getLast (fs : Fs) (ops : List Op) : (states fs ops).getLast? = some (run fs ops) := by
  induction ops generalizing fs with
  | nil => rfl
  | cons op ops ih =>
    have hne : states (step fs op) ops ≠ [] := by cases ops <;> simp [states]
    simp only [states, run, List.foldl_cons]
    rw [List.getLast?_cons_of_ne_nil hne]
    exact ih (step fs op)

/-- the last observation of a history is the hash of the final file system (`observeHistory` is what the
harness compares with the real hashes after every step) -/
theorem observeHistory_last (md5 : S → S) (fuzzy : Bool) (bps : Blueprints) (cs : List SComp) (fs : Fs)
    (ops : List Op) :
    (observeHistory md5 fuzzy bps cs fs ops).getLast? = some (hashesFs md5 fuzzy bps (run fs ops) cs) := by
  simp [observeHistory, List.getLast?_map, states_getLast]

/-- changing only the modification time of a file changes no hash -/
theorem hash_ignores_touch (md5 : S → S) (fuzzy : Bool) (bps : Blueprints) (cs : List SComp) (fs : Fs) (p : S)
    (t : Nat) : hashesFs md5 fuzzy bps (step fs (.touch p t)) cs = hashesFs md5 fuzzy bps fs cs :=
  hash_function_of_current_contents md5 fuzzy bps cs _ _ (fun _ _ _ _ => view_touch fs p t _)

/-- re-creating the experiment object (or resetting the cached hashes) changes no hash -/
theorem hash_ignores_reload (md5 : S → S) (fuzzy : Bool) (bps : Blueprints) (cs : List SComp) (fs : Fs) :
    hashesFs md5 fuzzy bps (step fs .reload) cs = hashesFs md5 fuzzy bps fs cs := rfl

/-- **hash after update**: after `c` has been written to `p` the hashes are those of a file system that holds
`c` at `p` — whatever was at `p` before (other contents of the same or another length, nothing), whatever the
modification times and inodes before and after. -/
theorem hash_after_update (md5 : S → S) (fuzzy : Bool) (bps : Blueprints) (cs : List SComp) (fs fs' : Fs)
    (p c : S) (t i t' i' : Nat) (h : ∀ q, q ≠ p → view fs q = view fs' q) :
    hashesFs md5 fuzzy bps (step fs (.write p c t i)) cs = hashesFs md5 fuzzy bps (step fs' (.write p c t' i')) cs := by
  apply hash_function_of_current_contents
  intro _ _ r _
  rw [view_write, view_write]
  by_cases hq : r.loc.path = p
  · simp [hq]
  · simp [hq, h _ hq]

/-- writing other contents and then the original contents back (at any times) restores every hash -/
theorem hash_after_write_back (md5 : S → S) (fuzzy : Bool) (bps : Blueprints) (cs : List SComp) (fs : Fs)
    (p x y : S) (t i t' i' : Nat) (hx : view fs p = some (some x)) :
    hashesFs md5 fuzzy bps (step (step fs (.write p y t i)) (.write p x t' i')) cs = hashesFs md5 fuzzy bps fs cs := by
  apply hash_function_of_current_contents
  intro _ _ r _
  rw [view_write, view_write]
  by_cases hq : r.loc.path = p
  · simp [hq, hx]
  · simp [hq]

/-- renaming a file is removing it and writing its contents at the new path (time and inode are free) -/
theorem hash_after_rename (md5 : S → S) (fuzzy : Bool) (bps : Blueprints) (cs : List SComp) (fs : Fs)
    (a b c : S) (t i t' i' : Nat) (ha : lookupFs fs a = some (.file c t i)) (hab : a ≠ b) :
    hashesFs md5 fuzzy bps (step fs (.rename a b)) cs =
      hashesFs md5 fuzzy bps (step (step fs (.remove a)) (.write b c t' i')) cs := by
  apply hash_function_of_current_contents
  intro _ _ r _
  rw [view_rename fs a b c t i ha hab, view_write]
  by_cases hq : r.loc.path = b
  · simp [hq]
  · simp only [hq, if_false, step, view_remove]

/-- **frame**: an operation on paths no component refers to changes no hash -/
theorem hash_unaffected_by_unreferenced_paths (md5 : S → S) (fuzzy : Bool) (bps : Blueprints) (cs : List SComp)
    (fs : Fs) (op : Op) (h : ∀ c ∈ cs, ∀ r ∈ c.refs, r.loc.path ∉ op.paths) :
    hashesFs md5 fuzzy bps (step fs op) cs = hashesFs md5 fuzzy bps fs cs :=
  hash_function_of_current_contents md5 fuzzy bps cs _ _ (fun c hc r hr => view_step_other fs op _ (h c hc r hr))

/-! ### the consumed files are a multiset: how many files, not only which contents

`files` holds one `hash:method` entry per consumed file; equal entries (different files with the same contents
consumed through the same method) are repeated, and the serialisation sorts the list, so the hash is a function
of the **multiset** of entries.  (`Hash.hashOneSet`, the variant that builds a set, is refuted in `Witness.C16`.) -/

/-- **`SameWork` is about the multiset of consumed files**: for entries of the shape the code produces, the last
clause of `SameWork` says that the two lists of `hash:method` entries are permutations of each other — the same
entries, each the same number of times. -/
theorem same_work_iff_multiset (i₁ i₂ : Info) (g₁ : ∀ e ∈ i₁.files, goodEntry e = true)
    (g₂ : ∀ e ∈ i₂.files, goodEntry e = true) :
    SameWork i₁ i₂ ↔ i₁.image = i₂.image ∧ i₁.args = i₂.args ∧ i₁.exe = i₂.exe ∧ i₁.files.Perm i₂.files := by
  constructor
  · intro h
    have ⟨a, b, c, _⟩ := h
    exact ⟨a, b, c, (sortStr_eq_iff_perm _ _).mp (same_work_same_entries i₁ i₂ g₁ g₂ h)⟩
  · rintro ⟨a, b, c, d⟩
    exact ⟨a, b, c, by rw [(sortStr_eq_iff_perm _ _).mpr d]⟩

/-- **Same hash exactly when the same multiset of consumed files (and image, arguments, executable) — partial**
(`SepFree`, well-shaped entries: as `same_hash_iff_same_work_partial`). -/
theorem same_hash_iff_same_multiset_partial (md5 : S → S) (hinj : Function.Injective md5) (fuzzy : Bool)
    (bps₁ bps₂ : Blueprints) (hs₁ hs₂ : List (Option S)) (c₁ c₂ : Comp) (i₁ i₂ : Info)
    (hi₁ : mkInfo md5 fuzzy bps₁ (getH hs₁) c₁ = some i₁) (hi₂ : mkInfo md5 fuzzy bps₂ (getH hs₂) c₂ = some i₂)
    (h₁ : SepFree i₁) (h₂ : SepFree i₂) (g₁ : ∀ e ∈ i₁.files, goodEntry e = true)
    (g₂ : ∀ e ∈ i₂.files, goodEntry e = true) :
    hashOne md5 fuzzy bps₁ hs₁ c₁ = hashOne md5 fuzzy bps₂ hs₂ c₂ ↔
      i₁.image = i₂.image ∧ i₁.args = i₂.args ∧ i₁.exe = i₂.exe ∧ i₁.files.Perm i₂.files := by
  rw [same_hash_iff_same_work_partial md5 hinj fuzzy bps₁ bps₂ hs₁ hs₂ c₁ c₂ i₁ i₂ hi₁ hi₂ h₁ h₂]
  exact same_work_iff_multiset i₁ i₂ g₁ g₂

/-- **One entry per consumed file**: `files` has exactly as many entries as the component has references to
files that are there (directories contribute none; a missing file means no info at all) — whatever the contents,
equal or not. -/
theorem files_one_entry_per_consumed_file (md5 : S → S) (fuzzy : Bool) (bps : Blueprints) (ph : Nat → Option S)
    (c : Comp) (i : Info) (hi : mkInfo md5 fuzzy bps ph c = some i) :
    i.files.length = c.refs.countP Ref.isFile := by
  obtain ⟨_, E, _, _, hE, _, rfl⟩ := (mkInfo_eq_some md5 fuzzy ph bps).mp hi
  rw [List.length_map, fileEntries_length md5 fuzzy ph hE, (sortRefs_perm c.refs).countP_eq]

/-- **`files` is the multiset of the entries of the references**: the text `k` occurs in `files` as often as there
are references that contribute it (in whatever order the references are declared). -/
theorem files_multiset_of_references (md5 : S → S) (fuzzy : Bool) (bps : Blueprints) (ph : Nat → Option S)
    (c : Comp) (i : Info) (hi : mkInfo md5 fuzzy bps ph c = some i) (k : S) :
    i.files.count k = (c.refs.map (fun r => contrib k (entryOf md5 fuzzy ph r))).sum := by
  obtain ⟨_, E, _, _, hE, _, rfl⟩ := (mkInfo_eq_some md5 fuzzy ph bps).mp hi
  rw [count_fileEntries md5 fuzzy ph k _ E hE]
  exact ((sortRefs_perm c.refs).map _).sum_nat

/-- **A different number of consumed files is different work — partial**: two components that consume a
different number of files never get the same hash, even if all the files have the same contents and are consumed
through the same method (k copies of a default configuration against k+1).  Partial as
`same_hash_iff_same_work_partial` (`SepFree`, well-shaped entries). -/
theorem different_number_of_files_different_hash_partial (md5 : S → S) (hinj : Function.Injective md5)
    (fuzzy : Bool) (bps₁ bps₂ : Blueprints) (hs₁ hs₂ : List (Option S)) (c₁ c₂ : Comp) (i₁ i₂ : Info)
    (hi₁ : mkInfo md5 fuzzy bps₁ (getH hs₁) c₁ = some i₁) (hi₂ : mkInfo md5 fuzzy bps₂ (getH hs₂) c₂ = some i₂)
    (h₁ : SepFree i₁) (h₂ : SepFree i₂) (g₁ : ∀ e ∈ i₁.files, goodEntry e = true)
    (g₂ : ∀ e ∈ i₂.files, goodEntry e = true)
    (hn : c₁.refs.countP Ref.isFile ≠ c₂.refs.countP Ref.isFile) :
    hashOne md5 fuzzy bps₁ hs₁ c₁ ≠ hashOne md5 fuzzy bps₂ hs₂ c₂ := by
  intro e
  obtain ⟨-, -, -, p⟩ := (same_hash_iff_same_multiset_partial md5 hinj fuzzy bps₁ bps₂ hs₁ hs₂ c₁ c₂ i₁ i₂ hi₁ hi₂
    h₁ h₂ g₁ g₂).mp e
  have hl := p.length_eq
  rw [files_one_entry_per_consumed_file md5 fuzzy bps₁ _ c₁ i₁ hi₁,
    files_one_entry_per_consumed_file md5 fuzzy bps₂ _ c₂ i₂ hi₂] at hl
  exact hn hl

/-- … and so is a different number of files with one particular content and method: if the entry `k` occurs a
different number of times, the hashes differ (`[X, X, Y]` against `[X, Y, Y]`). -/
theorem different_multiplicity_different_hash_partial (md5 : S → S) (hinj : Function.Injective md5)
    (fuzzy : Bool) (bps₁ bps₂ : Blueprints) (hs₁ hs₂ : List (Option S)) (c₁ c₂ : Comp) (i₁ i₂ : Info)
    (hi₁ : mkInfo md5 fuzzy bps₁ (getH hs₁) c₁ = some i₁) (hi₂ : mkInfo md5 fuzzy bps₂ (getH hs₂) c₂ = some i₂)
    (h₁ : SepFree i₁) (h₂ : SepFree i₂) (g₁ : ∀ e ∈ i₁.files, goodEntry e = true)
    (g₂ : ∀ e ∈ i₂.files, goodEntry e = true) (k : S) (hn : i₁.files.count k ≠ i₂.files.count k) :
    hashOne md5 fuzzy bps₁ hs₁ c₁ ≠ hashOne md5 fuzzy bps₂ hs₂ c₂ := by
  intro e
  obtain ⟨-, -, -, p⟩ := (same_hash_iff_same_multiset_partial md5 hinj fuzzy bps₁ bps₂ hs₁ hs₂ c₁ c₂ i₁ i₂ hi₁ hi₂
    h₁ h₂ g₁ g₂).mp e
  exact hn (p.count_eq k)

/-- the set-based variant forgets the multiplicity for **every** info: an entry that is already there adds nothing -/
theorem set_based_files_lose_multiplicity (e : S) (l : List S) (h : e ∈ l) : dedupStr (e :: l) = dedupStr l := by
  simp [dedupStr, h]

/-- two copies of a configuration are not one copy; the order of the entries does not matter -/
example : ¬ SameWork ⟨none, [], "x".toList, ["0a:copy".toList, "0a:copy".toList]⟩
    ⟨none, [], "x".toList, ["0a:copy".toList]⟩ := by decide +kernel
example : ¬ SameWork ⟨none, [], "x".toList, ["0a:copy".toList, "0a:copy".toList, "ff:copy".toList]⟩
    ⟨none, [], "x".toList, ["0a:copy".toList, "ff:copy".toList, "ff:copy".toList]⟩ := by decide +kernel
example : SameWork ⟨none, [], "x".toList, ["0a:copy".toList, "ff:copy".toList, "0a:copy".toList]⟩
    ⟨none, [], "x".toList, ["ff:copy".toList, "0a:copy".toList, "0a:copy".toList]⟩ := by decide +kernel

private def exCfg (name : String) : Ref :=
  ⟨("data/" ++ name ++ ":copy").toList, ("data/" ++ name ++ ":copy").toList, "copy".toList, [],
    .file (some "AAA".toList)⟩
private def exMerge (refs : List Ref) : Comp :=
  { name := "c".toList, stage := 0, location := [], mtime := 0, replica := none, exe := "/bin/cat".toList,
    args := "-n".toList, refs := refs, backend := .loc }

/-- non-vacuity of `different_number_of_files_different_hash_partial`: `first.cfg` and `second.cfg` with the same
contents, both copied, against `first.cfg` alone (concrete injective stand-in for md5) -/
example : hashOne (fun x => 'h' :: x) false exBps [] (exMerge [exCfg "first.cfg", exCfg "second.cfg"]) ≠
    hashOne (fun x => 'h' :: x) false exBps [] (exMerge [exCfg "first.cfg"]) := by
  let i₁ : Info := ⟨none, "-n".toList, "/bin/cat".toList, ["hAAA:copy".toList, "hAAA:copy".toList]⟩
  let i₂ : Info := ⟨none, "-n".toList, "/bin/cat".toList, ["hAAA:copy".toList]⟩
  -- what is settled by evaluation, in one evaluation
  obtain ⟨hi₁, hi₂, h₁, h₂, g₁, g₂, hn⟩ :
      mkInfo (fun x => 'h' :: x) false exBps (getH []) (exMerge [exCfg "first.cfg", exCfg "second.cfg"]) = some i₁ ∧
      mkInfo (fun x => 'h' :: x) false exBps (getH []) (exMerge [exCfg "first.cfg"]) = some i₂ ∧
      SepFree i₁ ∧ SepFree i₂ ∧ (∀ e ∈ i₁.files, goodEntry e = true) ∧ (∀ e ∈ i₂.files, goodEntry e = true) ∧
      (exMerge [exCfg "first.cfg", exCfg "second.cfg"]).refs.countP Ref.isFile ≠
        (exMerge [exCfg "first.cfg"]).refs.countP Ref.isFile := by
    unfold exMerge exCfg exBps
    simp -index only [String.toList_append, String.toList_ofList]
    decide +kernel
  exact different_number_of_files_different_hash_partial (fun x => 'h' :: x) (fun a b h => by simpa using h) false
    exBps exBps [] [] _ _ i₁ i₂ hi₁ hi₂ h₁ h₂ g₁ g₂ hn

/-! ### the hash follows the contents -/

/-- **The file entries follow the contents.**  A component consumes the file at the location of `r` through a
reference that reads contents (`Sensitive`: any file for the strong hash, a file not produced by a component
of the graph for the fuzzy hash).  Between two file systems that hold different contents `x ≠ y` there and
agree at the other paths the component refers to, the entry `md5 x:method` occurs strictly less often in the
hashed `files` — whatever the lengths of `x` and `y`, the times and inodes, and (strong hash) whatever happened
to the hashes of the producers. -/
theorem files_change_after_update (md5 : S → S) (hinj : Function.Injective md5) (fuzzy : Bool) (bps : Blueprints)
    (ph ph' : Nat → Option S) (hph : fuzzy = true → ph = ph') (c : SComp) (fs fs' : Fs) (r : SRef)
    (hr : r ∈ c.refs) (x y : S) (hx : view fs r.loc.path = some (some x)) (hy : view fs' r.loc.path = some (some y))
    (hxy : x ≠ y) (hcx : ':' ∉ md5 x) (hcy : ':' ∉ md5 y) (hs : Sensitive fuzzy r)
    (hag : ∀ r' ∈ c.refs, r'.loc.path ≠ r.loc.path → view fs r'.loc.path = view fs' r'.loc.path)
    (i i' : Info) (hi : mkInfo md5 fuzzy bps ph (c.resolve fs) = some i)
    (hi' : mkInfo md5 fuzzy bps ph' (c.resolve fs') = some i') :
    i'.files.count (md5 x ++ ':' :: r.method) < i.files.count (md5 x ++ ':' :: r.method) := by
  have hph' (a : Ref) : entryOf md5 fuzzy ph' a = entryOf md5 fuzzy ph a :=
    entryOf_congr_ph md5 fuzzy ph' ph a fun hf _ _ _ => by rw [hph hf]
  obtain ⟨_, E, _, _, hE, _⟩ := (mkInfo_eq_some md5 fuzzy ph bps).mp hi
  have hnf := (fileEntries_eq_some md5 fuzzy ph hE).1 (r.resolve fs)
    (mem_sortRefs.mpr (List.mem_map.mpr ⟨r, hr, rfl⟩))
  rw [files_multiset_of_references md5 fuzzy bps ph _ i hi, files_multiset_of_references md5 fuzzy bps ph' _ i' hi']
  simp only [SComp.resolve, List.map_map, Function.comp_def, hph']
  refine sum_map_lt c.refs _ _ (fun a ha => ?_) r hr ?_
  · exact contrib_le md5 fuzzy ph hinj fs fs' x y r.method hcx hcy hxy a r.loc.path hx hy (hag a ha)
  · rw [contrib_changed md5 fuzzy ph hinj fs' x y r.method hcx hcy hxy r hy hs,
      contrib_read md5 fuzzy ph fs r x hx hs hnf]
    exact Nat.one_pos

/-- **Different contents, different hash — partial.**  In the situation of `files_change_after_update` the
strong (fuzzy) hashes computed on the two file systems differ — in particular after a file has been rewritten
in place with other bytes of the same length within the same second.  Partial for the reasons of
`same_hash_iff_same_work_partial`: the two infos are `SepFree` and their file entries have the shape the code
produces (both decidable; known finding C16-serialisation-no-separators otherwise). -/
theorem hash_changes_after_update_partial (md5 : S → S) (hinj : Function.Injective md5) (fuzzy : Bool)
    (bps : Blueprints) (hs₁ hs₂ : List (Option S)) (hph : fuzzy = true → hs₁ = hs₂) (c : SComp) (fs fs' : Fs)
    (r : SRef) (hr : r ∈ c.refs) (x y : S) (hx : view fs r.loc.path = some (some x))
    (hy : view fs' r.loc.path = some (some y)) (hxy : x ≠ y) (hcx : ':' ∉ md5 x) (hcy : ':' ∉ md5 y)
    (hs : Sensitive fuzzy r)
    (hag : ∀ r' ∈ c.refs, r'.loc.path ≠ r.loc.path → view fs r'.loc.path = view fs' r'.loc.path)
    (i i' : Info) (hi : mkInfo md5 fuzzy bps (getH hs₁) (c.resolve fs) = some i)
    (hi' : mkInfo md5 fuzzy bps (getH hs₂) (c.resolve fs') = some i') (h₁ : SepFree i) (h₂ : SepFree i')
    (g₁ : ∀ e ∈ i.files, goodEntry e = true) (g₂ : ∀ e ∈ i'.files, goodEntry e = true) :
    hashOne md5 fuzzy bps hs₁ (c.resolve fs) ≠ hashOne md5 fuzzy bps hs₂ (c.resolve fs') := by
  have hlt := files_change_after_update md5 hinj fuzzy bps (getH hs₁) (getH hs₂) (fun h => by rw [hph h]) c fs fs'
    r hr x y hx hy hxy hcx hcy hs hag i i' hi hi'
  exact different_multiplicity_different_hash_partial md5 hinj fuzzy bps bps hs₁ hs₂ _ _ i i' hi hi' h₁ h₂ g₁ g₂ _
    (Nat.ne_of_gt hlt)

private def exInput : SRef :=
  ⟨"input/a.txt:ref".toList, "input/a.txt:ref".toList, "ref".toList, [], .direct "/i/input/a.txt".toList⟩
private def exSComp : SComp :=
  { name := "c".toList, stage := 0, location := [], mtime := 0, replica := none, exe := "/bin/cat".toList,
    args := "-n input/a.txt:ref".toList, refs := [exInput], backend := .loc }
private def exFs : Fs := [("/i/input/a.txt".toList, .file "AAA".toList 1700000000 42)]

/-- non-vacuity of `hash_function_of_current_contents`: another time and inode, same contents -/
example : AgreeOn [exSComp] exFs [("/i/input/a.txt".toList, .file "AAA".toList 5 7)] := by
  intro c hc r hr
  simp only [List.mem_singleton] at hc; subst hc
  simp only [exSComp, List.mem_singleton] at hr; subst hr
  decide +kernel

/-- the class of the seeded cache defect, in the model: the input is rewritten in place with other bytes of the
same length, same modification time, same inode — the strong and the fuzzy hash both change, and writing the
old bytes back (at another time) restores them -/
example :
    let o := observeHistory (fun x => 'h' :: x) false exBps [exSComp] exFs
      [.write "/i/input/a.txt".toList "BBB".toList 1700000000 42, .reload,
       .write "/i/input/a.txt".toList "AAA".toList 1800000000 43]
    o[0]? ≠ o[1]? ∧ o[1]? = o[2]? ∧ o[0]? = o[3]? ∧ (o[0]?.bind (·[0]?)).isSome = true := by
  unfold exBps exSComp exInput exFs
  simp -index only [String.toList_ofList]
  decide +kernel

/-- the hypotheses of `hash_changes_after_update_partial` are satisfiable (concrete injective stand-in for md5) -/
example : hashOne (fun x => 'h' :: x) false exBps [] (exSComp.resolve exFs) ≠
    hashOne (fun x => 'h' :: x) false exBps []
      (exSComp.resolve (step exFs (.write "/i/input/a.txt".toList "BBB".toList 1700000000 42))) := by
  let fs' := step exFs (.write "/i/input/a.txt".toList "BBB".toList 1700000000 42)
  let i : Info := ⟨none, "-n file:hAAA:ref".toList, "/bin/cat".toList, ["hAAA:ref".toList]⟩
  let i' : Info := ⟨none, "-n file:hBBB:ref".toList, "/bin/cat".toList, ["hBBB:ref".toList]⟩
  -- what is settled by evaluation, in one evaluation
  obtain ⟨hx, hy, hxy, hcx, hcy, hi, hi', h₁, h₂, g₁, g₂⟩ :
      view exFs exInput.loc.path = some (some "AAA".toList) ∧ view fs' exInput.loc.path = some (some "BBB".toList) ∧
      "AAA".toList ≠ "BBB".toList ∧ ':' ∉ 'h' :: "AAA".toList ∧ ':' ∉ 'h' :: "BBB".toList ∧
      mkInfo (fun x => 'h' :: x) false exBps (getH []) (exSComp.resolve exFs) = some i ∧
      mkInfo (fun x => 'h' :: x) false exBps (getH []) (exSComp.resolve fs') = some i' ∧ SepFree i ∧ SepFree i' ∧
      (∀ e ∈ i.files, goodEntry e = true) ∧ ∀ e ∈ i'.files, goodEntry e = true := by
    unfold exSComp exInput exFs exBps
    simp -index only [String.toList_ofList]
    decide +kernel
  exact hash_changes_after_update_partial (fun x => 'h' :: x) (fun a b h => by simpa using h) false exBps [] []
    (fun h => by cases h) exSComp exFs fs' exInput (by simp [exSComp]) "AAA".toList "BBB".toList hx hy hxy hcx hcy
    (.inl rfl)
    (fun r' hr' hne => by simp only [exSComp, List.mem_singleton] at hr'; subst hr'; exact absurd rfl hne)
    i i' hi hi' h₁ h₂ g₁ g₂

/-! ### a reference is one consumption

`info_files` is keyed by the absolute reference: `Comp.distinctRefs` (`hashesD` is what the harness compares the
real hashes with).  Every theorem above holds for every component, in particular for `c.distinctRefs`. -/

theorem distinctRefs_nodup (c : Comp) : (c.distinctRefs.refs.map (·.abs)).Nodup := dedupAbs_nodup c.refs

/-- references with pairwise different spellings: every one of them counts -/
theorem distinctRefs_of_nodup (c : Comp) (h : (c.refs.map (·.abs)).Nodup) : c.distinctRefs = c := by
  simp [Comp.distinctRefs, dedupAbs_id c.refs h]

/-- **Stating a reference once more is not more work**: a further reference with the absolute spelling of one
that is already there (the same reference twice, or the relative and the absolute spelling of a reference to a
producer) changes neither hash. -/
theorem restated_reference_same_hash (md5 : S → S) (fuzzy : Bool) (bps : Blueprints) (hs : List (Option S))
    (c : Comp) (r : Ref) (h : ∃ r' ∈ c.refs, r'.abs = r.abs) :
    hashOne md5 fuzzy bps hs ({ c with refs := r :: c.refs } : Comp).distinctRefs =
      hashOne md5 fuzzy bps hs c.distinctRefs := by
  simp only [Comp.distinctRefs, dedupAbs_cons, if_pos h]

/-- no hash while a referenced input is missing, with repeated references (every occurrence of the spelling
sees the same file system) -/
theorem no_hash_when_input_missing_distinct (md5 : S → S) (fuzzy : Bool) (bps : Blueprints)
    (hs : List (Option S)) (c : Comp) (r : Ref) (hr : r ∈ c.refs)
    (h : ∀ r' ∈ c.refs, r'.abs = r.abs → r'.Missing) : hashOne md5 fuzzy bps hs c.distinctRefs = none := by
  obtain ⟨r', hr', he⟩ := dedupAbs_covers r c.refs hr
  exact no_hash_when_input_missing md5 fuzzy bps hs c.distinctRefs r' hr'
    (h r' (mem_dedupAbs r' c.refs hr') he)

private theorem distinctRefs_withProduced (f : S → S) (c : Comp) :
    (c.withProduced f).distinctRefs = c.distinctRefs.withProduced f := by
  have habs (r : Ref) : (r.withProduced f).abs = r.abs := by unfold Ref.withProduced; split <;> rfl
  simp [Comp.distinctRefs, Comp.withProduced, dedupAbs_map (Ref.withProduced f) habs]

/-- `fuzzy_ignores_produced_contents` for the hashes the harness observes -/
theorem fuzzy_ignores_produced_contents_distinct (md5 : S → S) (bps : Blueprints) (f : S → S) (cs : List Comp) :
    hashesD md5 true bps (cs.map (Comp.withProduced f)) = hashesD md5 true bps cs := by
  unfold hashesD
  rw [← fuzzy_ignores_produced_contents md5 bps f (cs.map Comp.distinctRefs)]
  simp [List.map_map, Function.comp_def, distinctRefs_withProduced]

/-- non-vacuity: `data/first.cfg:copy` stated twice is hashed as stated once, and differently from two files -/
example : hashOne (fun x => 'h' :: x) false exBps [] (exMerge [exCfg "first.cfg", exCfg "first.cfg"]).distinctRefs =
    hashOne (fun x => 'h' :: x) false exBps [] (exMerge [exCfg "first.cfg"]).distinctRefs ∧
    hashOne (fun x => 'h' :: x) false exBps [] (exMerge [exCfg "first.cfg", exCfg "second.cfg"]).distinctRefs ≠
    hashOne (fun x => 'h' :: x) false exBps [] (exMerge [exCfg "first.cfg"]).distinctRefs := by
  unfold exMerge exCfg exBps
  simp -index only [String.toList_append, String.toList_ofList]
  decide +kernel

/-! ### chains of producers: no hash down the chain from a missing input

"No hash is produced while a referenced input is missing … for every chain of producers": the hash of a
component *stands on* the hash of a producer when it names the producer's working directory in its arguments
(the reference is replaced by `producer:<hash>`), and — for the fuzzy hash — when it consumes a file of the
producer (`fuzzy#<fuzzy hash of the producer>#<file>`).  A component whose producer has no hash then has no
hash either, by induction along any chain. -/

/-- the hash (`fuzzy`: the fuzzy hash) of `c` stands on the hash of producer `p` through reference `r` -/
inductive StandsOn (fuzzy : Bool) (c : Comp) (r : Ref) (p : Nat) : Prop
  /-- the working directory of `p`, named in the arguments (no other reference with the same absolute
  spelling points to a file) -/
  | dir : r.target = .prodDir p → ((tokens c.args).contains r.abs = true ∨ (tokens c.args).contains r.rel = true) →
      (∀ r' ∈ c.refs, r'.abs = r.abs → r'.target = .prodDir p) → StandsOn fuzzy c r p
  /-- a file of `p` that is there, fuzzy hash -/
  | file (content : S) : fuzzy = true → r.target = .prodFile p (some content) → StandsOn fuzzy c r p

/-- **No hash without the producer's hash**: a component whose hash stands on the hash of a producer that has
none has no hash (strong: working directory of the producer named in the arguments; fuzzy: also any file of
the producer). -/
theorem no_hash_when_producer_has_no_hash (md5 : S → S) (fuzzy : Bool) (bps : Blueprints) (hs : List (Option S))
    (c : Comp) (r : Ref) (p : Nat) (hr : r ∈ c.refs) (hst : StandsOn fuzzy c r p) (hp : getH hs p = none) :
    hashOne md5 fuzzy bps hs c = none := by
  cases hst with
  | file content hf ht =>
    subst hf
    exact hashOne_none_of_fail hr (by simp only [entryOf, ht, hp, if_true])
  | dir ht htok hsame =>
    refine hashOne_eq_none md5 fuzzy bps fun i hi => ?_
    obtain ⟨_, E, _, _, hE, ha, _⟩ := (mkInfo_eq_some md5 fuzzy _ bps).mp hi
    -- no file entry carries the spelling of `r`: it would come from a reference to a file with that spelling
    have hfind : E.find? (fun e => e.abs == r.abs) = none := by
      rw [(fileEntries_eq_some md5 fuzzy _ hE).2, List.find?_eq_none]
      intro e he heq
      obtain ⟨r', hr', hent⟩ := List.mem_filterMap.mp he
      rcases entryOf_cases md5 fuzzy (getH hs) r' with hf | ⟨hsk, _⟩ | ⟨_, hen, hfile⟩
      · simp [hf, EntryRes.entry?] at hent
      · simp [hsk, EntryRes.entry?] at hent
      · rw [hen] at hent
        obtain rfl := Option.some.inj hent
        simp [Ref.isFile, hsame r' (mem_sortRefs.mp hr') (by simpa using heq)] at hfile
    have hrep : replacementOf fuzzy E (getH hs) r = none := by
      simp only [replacementOf, hfind, ht, Target.producer?, hp]
    rw [replaceRefs_fail fuzzy _ _ E (mem_sortRefs.mpr hr) htok hrep] at ha
    cases ha

/-- a component cannot have a (strong / fuzzy) hash: a file it consumes is missing, or its hash stands on the
hash of a producer that cannot have one — along a chain of producers of any length -/
inductive Unhashable (fuzzy : Bool) (cs : List Comp) : Nat → Prop
  | missing (k : Nat) (c : Comp) (r : Ref) : cs[k]? = some c → r ∈ c.refs → r.Missing → Unhashable fuzzy cs k
  | chain (k p : Nat) (c : Comp) (r : Ref) : cs[k]? = some c → r ∈ c.refs → StandsOn fuzzy c r p →
      Unhashable fuzzy cs p → Unhashable fuzzy cs k

/-- **No hash down the chain** (every chain of producers): in the hashes of a whole graph, every component
that is `Unhashable` — a missing input anywhere up a chain of hash-carrying references — has no hash. -/
theorem no_hash_down_the_chain (md5 : S → S) (fuzzy : Bool) (bps : Blueprints) (cs : List Comp) (k : Nat)
    (h : Unhashable fuzzy cs k) : (hashes md5 fuzzy bps cs)[k]? = some none := by
  induction h with
  | missing k c r hk hr hm =>
    rw [hashes_at md5 fuzzy bps cs k c hk, no_hash_when_input_missing md5 fuzzy bps _ c r hr hm]
  | chain k p c r hk hr hst _ ih =>
    rw [hashes_at md5 fuzzy bps cs k c hk]
    congr 1
    apply no_hash_when_producer_has_no_hash md5 fuzzy bps _ c r p hr hst
    rw [getH_take]
    split
    · simp [getH_eq, ih]
    · rfl

private def exGen : Comp :=
  { name := "gen".toList, stage := 0, location := [], mtime := 0, replica := none, exe := "/bin/echo".toList,
    args := "hello".toList, refs := [], backend := .loc }
private def exMiddle (content : Option S) : Comp :=
  { name := "middle".toList, stage := 0, location := [], mtime := 0, replica := none, exe := "/bin/cat".toList,
    args := "gen/out.txt:ref".toList,
    refs := [⟨"stage0.gen/out.txt:ref".toList, "gen/out.txt:ref".toList, "ref".toList, "out.txt".toList,
              .prodFile 0 content⟩], backend := .loc }
private def exLast : Comp :=
  { name := "consumer".toList, stage := 0, location := [], mtime := 0, replica := none, exe := "/bin/ls".toList,
    args := "-l stage0.middle:ref".toList,
    refs := [⟨"stage0.middle:ref".toList, "middle:ref".toList, "ref".toList, [], .prodDir 1⟩], backend := .loc }
private def exChainBps : Blueprints :=
  [((0, "gen".toList), "/bin/echo".toList), ((0, "middle".toList), "/bin/cat".toList),
   ((0, "consumer".toList), "/bin/ls".toList)]

/-- non-vacuity: `consumer → directory of middle → file of gen`; with the file of `gen` missing the consumer is
`Unhashable` (and has no hash), with the file there all three have a hash -/
example : Unhashable false [exGen, exMiddle none, exLast] 2 :=
  have named : (tokens exLast.args).contains "stage0.middle:ref".toList = true := by
    unfold exLast
    simp -index only [String.toList_ofList]
    decide +kernel
  .chain 2 1 exLast _ rfl (List.mem_cons_self ..)
    (.dir rfl (.inl named) fun r' hr' _ => by rw [List.mem_singleton.mp hr'])
    (.missing 1 (exMiddle none) _ rfl (List.mem_cons_self ..) (.inr ⟨0, rfl⟩))

example : (hashes (fun x => 'h' :: x) false exChainBps [exGen, exMiddle none, exLast]).map Option.isSome =
    [true, false, false] := by
  unfold exChainBps exGen exMiddle exLast
  simp -index only [String.toList_ofList]
  decide +kernel

example : (hashes (fun x => 'h' :: x) false exChainBps [exGen, exMiddle (some "AAA".toList), exLast]).map
    Option.isSome = [true, true, true] := by
  unfold exChainBps exGen exMiddle exLast
  simp -index only [String.toList_ofList]
  decide +kernel

/-! ### the producer cone, and sessions that remember hashes (`Model/HashCache.lean`)

`ComponentSpecification` remembers the first hash it could compute.  The theorems below say when that is
harmless — for every session (any interleaving of file changes, evaluations, resets and reads):

* the hash of a component depends only on the files the components of its **producer cone** refer to;
* a session is `Disciplined` when no file changes under the producer cone of a hash that is remembered at that
  moment (the real Controller: a hash is asked for only after every producer up the chain has finished);
* in a disciplined session every remembered hash — so every hash that is read — is the hash of the contents
  **at that moment** (`session_hashes_are_current`, `session_reads_are_current`);
* `Witness.C16.early_request_freezes_stale_hash`: without the discipline (the hash of a waiting consumer is asked
  for while a producer is half-way through writing its output) the remembered hash is not that of the final
  contents. -/

/-- the hashes at the positions of a producer-closed set `K` are the same on two file systems that agree on
the paths the components of `K` refer to — whatever happens to every other path (the outputs that components
outside the cone are still writing) -/
theorem hash_depends_only_on_producer_cone (md5 : S → S) (fuzzy : Bool) (bps : Blueprints) (cs : List SComp)
    (fs₁ fs₂ : Fs) (K : Nat → Prop)
    (hclosed : ∀ k, K k → ∀ c, cs[k]? = some c → ∀ r ∈ c.refs, ∀ p, r.loc.producer? = some p → K p)
    (hagree : ∀ k, K k → ∀ c, cs[k]? = some c → ∀ r ∈ c.refs, view fs₁ r.loc.path = view fs₂ r.loc.path) :
    ∀ k, K k → (hashesFs md5 fuzzy bps fs₁ cs)[k]? = (hashesFs md5 fuzzy bps fs₂ cs)[k]? := by
  unfold hashesFs
  apply hashes_congr_on md5 fuzzy bps _ _ K (by simp)
  intro k hk
  simp only [List.getElem?_map]
  cases hc : cs[k]? with
  | none => simp
  | some c =>
    have heq : c.resolve fs₁ = c.resolve fs₂ := resolve_comp_congr fs₁ fs₂ c (hagree k hk c hc)
    refine ⟨by simp [heq], ?_⟩
    intro c' hc' r' hr' p hp
    simp only [Option.map_some, Option.some.injEq] at hc'
    subst hc'
    obtain ⟨r, hr, rfl⟩ := List.mem_map.mp hr'
    exact hclosed k hk c hc r hr p (resolve_producer fs₁ r ▸ hp)

/-- every remembered hash is the hash of the current contents -/
def Fresh (md5 : S → S) (bps : Blueprints) (cs : List SComp) (s : Session) : Prop :=
  ∀ fuzzy j h, getH (s.cache fuzzy) j = some h → getH (hashesFs md5 fuzzy bps s.fs cs) j = some h

/-- producers come before their consumers -/
def WellOrdered (cs : List SComp) : Prop :=
  ∀ (j : Nat) (c : SComp), cs[j]? = some c → ∀ r ∈ c.refs, ∀ p, r.loc.producer? = some p → p < j

/-- the file system may change by `op` now: some producer-closed set of components contains every component
with a remembered hash, and `op` touches no path a component of the set refers to -/
def FsOk (cs : List SComp) (s : Session) (op : Op) : Prop :=
  ∃ K : Nat → Prop,
    (∀ k, K k → ∀ c, cs[k]? = some c → ∀ r ∈ c.refs, ∀ p, r.loc.producer? = some p → K p) ∧
    (∀ fuzzy j h, getH (s.cache fuzzy) j = some h → K j) ∧
    (∀ k, K k → ∀ c, cs[k]? = some c → ∀ r ∈ c.refs, r.loc.path ∉ op.paths)

/-- the discipline: every change of the file system is `FsOk` at its moment (evaluations, reads and resets are
free) -/
def Disciplined (md5 : S → S) (bps : Blueprints) (cs : List SComp) : Session → List SOp → Prop
  | _, [] => True
  | s, e :: rest =>
    (match e with
      | .fs op => FsOk cs s op
      | _ => True) ∧ Disciplined md5 bps cs (stepS md5 bps cs s e) rest

private theorem cache_setCache (s : Session) (f f' : Bool) (c : List (Option S)) :
    (s.setCache f c).cache f' = if f' = f then c else s.cache f' := by
  cases f <;> cases f' <;> simp [Session.setCache, Session.cache]

private theorem fs_setCache (s : Session) (f : Bool) (c : List (Option S)) : (s.setCache f c).fs = s.fs := by
  cases f <;> simp [Session.setCache]

/-- evaluating a hash — of any component, at any moment, whatever is remembered for its producers — keeps
every remembered hash current: a hash that can be computed from the remembered hashes of the producers is the
hash the whole graph gives (`hashOne_mono`) -/
theorem compute_preserves_fresh (md5 : S → S) (bps : Blueprints) (cs : List SComp) (s : Session)
    (hwo : WellOrdered cs) (hf : Fresh md5 bps cs s) (fuzzy : Bool) (j : Nat) :
    Fresh md5 bps cs (stepS md5 bps cs s (.compute fuzzy j)) := by
  intro f' k h hg
  simp only [stepS, cache_setCache, fs_setCache] at hg ⊢
  split at hg
  · rename_i hff
    subst hff
    rcases getH_computeAt hg with hold | ⟨c, hc, hv⟩
    · exact hf _ k h hold
    · rw [getH_hashesFs_at md5 f' bps cs s.fs k c hc]
      refine hashOne_mono md5 f' bps _ _ _ h (fun r' hr' p hp h' hh' => ?_) hv
      obtain ⟨r, hr, rfl⟩ := List.mem_map.mp hr'
      rw [getH_take, if_pos (hwo k c hc r hr p (resolve_producer s.fs r ▸ hp))]
      exact hf _ p h' hh'
  · exact hf _ k h hg

theorem reset_preserves_fresh (md5 : S → S) (bps : Blueprints) (cs : List SComp) (s : Session)
    (hf : Fresh md5 bps cs s) (j : Nat) : Fresh md5 bps cs (stepS md5 bps cs s (.reset j)) := by
  intro f' k h hg
  refine hf f' k h ?_
  cases f' <;> exact (getH_set _ j k none h hg).resolve_left fun h => nomatch h.2

/-- a change of the file system outside the producer cones of the remembered hashes keeps them current -/
theorem fsop_preserves_fresh (md5 : S → S) (bps : Blueprints) (cs : List SComp) (s : Session)
    (hf : Fresh md5 bps cs s) (op : Op) (hok : FsOk cs s op) :
    Fresh md5 bps cs (stepS md5 bps cs s (.fs op)) := by
  obtain ⟨K, hclosed, hcached, hframe⟩ := hok
  intro f' k h hg
  show getH (hashesFs md5 f' bps (step s.fs op) cs) k = some h
  unfold getH
  rw [hash_depends_only_on_producer_cone md5 f' bps cs (step s.fs op) s.fs K hclosed
    (fun k hk c hc r hr => view_step_other s.fs op _ (hframe k hk c hc r hr)) k (hcached f' k h hg)]
  exact hf f' k h hg

/-- after `memoization_reset()` of every component (or on a new experiment object) nothing is remembered: the
next evaluations are those of the current files, whatever happened before -/
theorem new_session_is_fresh (md5 : S → S) (bps : Blueprints) (cs : List SComp) (fs : Fs) (n : Nat) :
    Fresh md5 bps cs (Session.new fs n) := by
  intro f k h' hg
  cases f <;> simp [Session.new, Session.cache, getH_eq, List.getElem?_replicate] at hg <;>
    (split at hg <;> simp at hg)

/-- **Remembered hashes stay current.**  In every disciplined session — any interleaving of file changes,
evaluations of the hash of any component in any order, resets and reads — that starts with current hashes (for
instance with nothing remembered), every remembered hash is, at the end, the hash of the contents at the end. -/
theorem session_hashes_are_current (md5 : S → S) (bps : Blueprints) (cs : List SComp) (hwo : WellOrdered cs)
    (s : Session) (evs : List SOp) (hf : Fresh md5 bps cs s) (hd : Disciplined md5 bps cs s evs) :
    Fresh md5 bps cs (runS md5 bps cs s evs) := by
  induction evs generalizing s with
  | nil => exact hf
  | cons e rest ih =>
    obtain ⟨he, hrest⟩ := hd
    simp only [runS, List.foldl_cons]
    apply ih _ _ hrest
    cases e with
    | fs op => exact fsop_preserves_fresh md5 bps cs s hf op he
    | compute fuzzy j => exact compute_preserves_fresh md5 bps cs s hwo hf fuzzy j
    | reset j => exact reset_preserves_fresh md5 bps cs s hf j
    | get fuzzy j => exact hf

private theorem disciplined_prefix (md5 : S → S) (bps : Blueprints) (cs : List SComp) (s : Session)
    (pre post : List SOp) (h : Disciplined md5 bps cs s (pre ++ post)) : Disciplined md5 bps cs s pre := by
  induction pre generalizing s with
  | nil => trivial
  | cons e rest ih => exact ⟨h.1, ih _ h.2⟩

private theorem runS_append (md5 : S → S) (bps : Blueprints) (cs : List SComp) (s : Session) (a b : List SOp) :
    runS md5 bps cs s (a ++ b) = runS md5 bps cs (runS md5 bps cs s a) b := by
  simp [runS, List.foldl_append]

/-- **Every hash that is read is the hash of the contents at that moment**: in a disciplined session that
starts with nothing remembered, whatever an evaluation leaves in the cache and whatever a reader gets
(`answerOf`), at any point of the session, is the hash `hashesFs` gives on the file system of that moment. -/
theorem session_reads_are_current (md5 : S → S) (bps : Blueprints) (cs : List SComp) (hwo : WellOrdered cs)
    (fs : Fs) (pre post : List SOp) (fuzzy : Bool) (j : Nat) (h : S) (e : SOp)
    (he : e = .get fuzzy j ∨ e = .compute fuzzy j)
    (hd : Disciplined md5 bps cs (Session.new fs cs.length) (pre ++ e :: post))
    (ha : answerOf (runS md5 bps cs (Session.new fs cs.length) (pre ++ [e])) e = some h) :
    getH (hashesFs md5 fuzzy bps (runS md5 bps cs (Session.new fs cs.length) (pre ++ [e])).fs cs) j = some h := by
  have hd' : Disciplined md5 bps cs (Session.new fs cs.length) (pre ++ [e]) := by
    have : pre ++ e :: post = (pre ++ [e]) ++ post := by simp
    exact disciplined_prefix md5 bps cs _ _ post (this ▸ hd)
  have hfr := session_hashes_are_current md5 bps cs hwo _ _ (new_session_is_fresh md5 bps cs fs _) hd'
  rcases he with rfl | rfl <;> exact hfr fuzzy j h (by simpa [answerOf] using ha)

/-! #### the checker the driver runs on recorded sessions is sound -/

private theorem touched_eq_paths (op : Op) : op.touched = op.paths := by cases op <;> rfl

/-- the checks run over the components at a list of positions -/
private theorem of_all_comps {cs : List SComp} {K : List Nat} {P : Nat → SComp → Bool}
    (h : (K.all fun k => match cs[k]? with | some c => P k c | none => true) = true) :
    ∀ k ∈ K, ∀ c, cs[k]? = some c → P k c = true := by
  intro k hk c hc
  simpa [hc] using List.all_eq_true.mp h k hk

private theorem closedB_sound (cs : List SComp) (K : List Nat) (h : closedB cs K = true) :
    ∀ k, k ∈ K → ∀ c, cs[k]? = some c → ∀ r ∈ c.refs, ∀ p, r.loc.producer? = some p → p ∈ K := by
  intro k hk c hc r hr p hp
  simpa using List.all_eq_true.mp (of_all_comps h k hk c hc) p (mem_producersOf c r p hr hp)

private theorem frameB_sound (cs : List SComp) (K : List Nat) (op : Op) (h : frameB cs K op = true) :
    ∀ k, k ∈ K → ∀ c, cs[k]? = some c → ∀ r ∈ c.refs, r.loc.path ∉ op.paths := by
  intro k hk c hc r hr
  simpa [touched_eq_paths] using List.all_eq_true.mp (of_all_comps h k hk c hc) r hr

theorem fsOkB_sound (cs : List SComp) (s : Session) (op : Op) (h : fsOkB cs s op = true) : FsOk cs s op := by
  simp only [fsOkB, Bool.and_eq_true, List.all_eq_true] at h
  obtain ⟨⟨hc, hcl⟩, hfr⟩ := h
  refine ⟨fun k => k ∈ coneOf cs cs.length (cachedIdx s.strong ++ cachedIdx s.fuzzy), closedB_sound cs _ hcl, ?_,
    frameB_sound cs _ op hfr⟩
  intro fuzzy j h' hg
  have hmem : j ∈ cachedIdx s.strong ++ cachedIdx s.fuzzy := by
    cases fuzzy
    · exact List.mem_append_left _ (mem_cachedIdx _ j h' (by simpa [Session.cache] using hg))
    · exact List.mem_append_right _ (mem_cachedIdx _ j h' (by simpa [Session.cache] using hg))
  simpa using hc j hmem

/-- a session the checker accepts is `Disciplined` -/
theorem disciplinedB_sound (md5 : S → S) (bps : Blueprints) (cs : List SComp) (s : Session) (evs : List SOp)
    (h : disciplinedB md5 bps cs s evs = true) : Disciplined md5 bps cs s evs := by
  induction evs generalizing s with
  | nil => trivial
  | cons e rest ih =>
    simp only [disciplinedB, Bool.and_eq_true] at h
    refine ⟨?_, ih _ h.2⟩
    cases e with
    | fs op => exact fsOkB_sound cs s op h.1
    | _ => trivial

theorem wellOrderedB_sound (cs : List SComp) (h : wellOrderedB cs = true) : WellOrdered cs := by
  intro j c hc r hr p hp
  have hj : j ∈ List.range cs.length := List.mem_range.mpr (List.getElem?_eq_some_iff.mp hc).1
  simpa using List.all_eq_true.mp (of_all_comps h j hj c hc) p (mem_producersOf c r p hr hp)

/-- … so for a recorded session that the driver reports as disciplined and well ordered, every hash that was
read is the hash of the contents at that moment -/
theorem checked_session_reads_are_current (md5 : S → S) (bps : Blueprints) (cs : List SComp) (fs : Fs)
    (evs : List SOp) (hwo : wellOrderedB cs = true)
    (hd : disciplinedB md5 bps cs (Session.new fs cs.length) evs = true) :
    Fresh md5 bps cs (runS md5 bps cs (Session.new fs cs.length) evs) :=
  session_hashes_are_current md5 bps cs (wellOrderedB_sound cs hwo) _ evs
    (new_session_is_fresh md5 bps cs fs cs.length) (disciplinedB_sound md5 bps cs _ evs hd)

private def exProducer : SComp :=
  { name := "gen".toList, stage := 0, location := [], mtime := 0, replica := none, exe := "/bin/echo".toList,
    args := "hello".toList, refs := [], backend := .loc }
private def exWaiting : SComp :=
  { name := "use".toList, stage := 0, location := [], mtime := 0, replica := none, exe := "/bin/cat".toList,
    args := "gen/out.txt:ref".toList,
    refs := [⟨"stage0.gen/out.txt:ref".toList, "gen/out.txt:ref".toList, "ref".toList, "out.txt".toList,
              .produced 0 "/i/gen/out.txt".toList⟩], backend := .loc }
private def exSessionBps : Blueprints := [((0, "gen".toList), "/bin/echo".toList), ((0, "use".toList), "/bin/cat".toList)]
/-- the hash of the producer is remembered, the producer writes its output in two pieces, then the hash of the
consumer is evaluated and read -/
private def exSession : List SOp :=
  [.compute false 0, .fs (.write "/i/gen/out.txt".toList "par".toList 1 1), .get false 1,
   .fs (.write "/i/gen/out.txt".toList "partial".toList 2 1), .compute false 1, .compute true 0, .compute true 1, .get false 1]

/-- non-vacuity: a session with remembered hashes *and* file changes that is `Disciplined` and `WellOrdered`;
the hash that is read at its end exists -/
example : Disciplined (fun x => 'h' :: x) exSessionBps [exProducer, exWaiting] (Session.new [] 2) exSession :=
  disciplinedB_sound _ _ _ _ _ (by decide +kernel)

example : WellOrdered [exProducer, exWaiting] := wellOrderedB_sound _ (by decide)

example : (answers (fun x => 'h' :: x) exSessionBps [exProducer, exWaiting] (Session.new [] 2) exSession).map
    Option.isSome = [true, false, false, false, true, true, true, true] := by
  unfold exSessionBps exProducer exWaiting exSession
  simp -index only [String.toList_ofList]
  decide +kernel

/-! ### the source of the executable: the author's specification, not the validated live configuration

`Experiment.validateExperiment(checkExecutables=True)` (what `elaunch` runs before anything executes) rewrites the
executables of the live configuration into resolved absolute paths — paths that may lie inside the instance.
`Model/HashExe.lean` has both sources (`Conf.unrep`, `Conf.live`), the rewrite (`Conf.validate`, whatever the
operating system answers: `Probe`) and histories of file changes and validations (`cstates`). -/

/-- validation rewrites the live configuration only -/
theorem validation_keeps_specification (base : S) (probes : List Probe) (c : Conf) :
    (c.validate base probes).unrep = c.unrep := rfl

/-- **Validation.**  The strong and the fuzzy hash of every node are the same before and after
`validateExperiment(checkExecutables=True)`: wherever the instance lives (`base`) and whatever the look-ups answer. -/
theorem hash_ignores_validation (md5 : S → S) (fuzzy : Bool) (c : Conf) (base : S) (probes : List Probe)
    (cs : List Comp) :
    hashesC md5 fuzzy (c.validate base probes) cs = hashesC md5 fuzzy c cs := rfl

/-- **Relocation.**  The same specification instantiated (and validated, or not) at two places — two instance
locations, two sets of answers of the operating system, any two live configurations — gives the same hashes. -/
theorem hash_ignores_relocation_of_validated_instance (md5 : S → S) (fuzzy : Bool) (unrep : Blueprints)
    (live₁ live₂ : Live) (base₁ base₂ : S) (probes₁ probes₂ : List Probe) (cs : List Comp) :
    hashesC md5 fuzzy ((Conf.mk unrep live₁).validate base₁ probes₁) cs =
      hashesC md5 fuzzy ((Conf.mk unrep live₂).validate base₂ probes₂) cs :=
  (hash_ignores_validation md5 fuzzy _ base₁ probes₁ cs).trans (hash_ignores_validation md5 fuzzy _ base₂ probes₂ cs).symm

/-- **Replica against non-replica (and replicas among themselves), validated or not.**  Two nodes of any two
validated experiments that are declared with the same executable (a replica: through its blueprint), arguments,
references and backend get the same hash: a replica and a non-replicated component that do the same work, two
replicas of one component, the same component in two instances. -/
theorem same_work_same_hash_after_validation (md5 : S → S) (fuzzy : Bool) (c₁ c₂ : Conf) (base₁ base₂ : S)
    (probes₁ probes₂ : List Probe) (hs : List (Option S)) (x₁ x₂ : Comp)
    (h₁ : Registered c₁.unrep x₁) (h₂ : Registered c₂.unrep x₂)
    (hexe : x₁.exe = x₂.exe) (hargs : x₁.args = x₂.args) (hrefs : x₁.refs = x₂.refs)
    (hb : x₁.backend = x₂.backend) :
    hashOneC md5 fuzzy (c₁.validate base₁ probes₁) hs x₁ = hashOneC md5 fuzzy (c₂.validate base₂ probes₂) hs x₂ :=
  hash_ignores_location_names_time md5 fuzzy c₁.unrep c₂.unrep hs x₁ x₂ h₁ h₂ hexe hargs hrefs hb

/-- a validation step of a history changes no hash -/
theorem hash_ignores_validation_step (md5 : S → S) (fuzzy : Bool) (unrep : Blueprints) (cs : List SComp)
    (s : CState) (base : S) (probes : List Probe) :
    hashesCFs md5 fuzzy unrep (cstep s (.validate base probes)) cs = hashesCFs md5 fuzzy unrep s cs := rfl

/-- the files after a history with validations are the files after its file operations -/
theorem crun_fs (s : CState) (ops : List COp) : (crun s ops).fs = run s.fs (fsOps ops) := by
  induction ops generalizing s with
  | nil => rfl
  | cons op ops ih =>
    cases op with
    | fs o => simpa [crun, run, fsOps, cstep] using ih (cstep s (.fs o))
    | validate b ps => simpa [crun, run, fsOps, cstep] using ih (cstep s (.validate b ps))

/-- **Histories with validations.**  After any history of file changes and validations (at any moments, with any
answers of the operating system) the hashes are those of the history with the validations left out — so every
theorem about `hashesFs` / `observeHistory` above holds with validations anywhere in between. -/
theorem hash_history_ignores_validations (md5 : S → S) (fuzzy : Bool) (unrep : Blueprints) (cs : List SComp)
    (s : CState) (ops : List COp) :
    hashesCFs md5 fuzzy unrep (crun s ops) cs = hashesFs md5 fuzzy unrep (run s.fs (fsOps ops)) cs := by
  simp [hashesCFs, crun_fs]

/-- what validation writes is what was there, or a real path that can be executed -/
theorem checkExe_unchanged_or_executable (base : S) (p : Probe) (e : S) :
    checkExe base p e = e ∨ p.ok.contains (checkExe base p e) = true := by
  unfold checkExe
  generalize (if pathless e then p.which else some (preCheck base e)) = found
  cases found with
  | none => exact .inl rfl
  | some f =>
    simp only [checkFound]
    split
    · rename_i h
      simp only [Bool.and_eq_true] at h
      exact .inr h.1
    · exact .inl rfl

private def exProbeTool : Probe :=
  { which := some "/i1/bin/tool.sh".toList, real := [], ok := ["/i1/bin/tool.sh".toList] }
private def exProbeLs : Probe :=
  { which := none, real := [("/bin/ls".toList, "/usr/bin/ls".toList)], ok := ["/usr/bin/ls".toList] }
private def exConf : Conf :=
  { unrep := [((0, "single".toList), "tool.sh".toList), ((0, "ls".toList), "/bin/ls".toList)],
    live := [((0, "single".toList), "tool.sh".toList), ((0, "ls".toList), "/bin/ls".toList)] }

/-- non-vacuity: a validation that rewrites a pathless executable into the instance and an absolute one through a
link; an executable that cannot be found stays; a relative one that resolves to itself stays -/
example : (exConf.validate "/i1".toList [exProbeTool, exProbeLs]).live =
    [((0, "single".toList), "/i1/bin/tool.sh".toList), ((0, "ls".toList), "/usr/bin/ls".toList)] := by
  unfold exConf exProbeTool exProbeLs
  simp -index only [String.toList_ofList]
  decide +kernel

example : checkExe "/i1".toList ⟨none, [], []⟩ "sander".toList = "sander".toList := by decide +kernel

example : checkExe "/i1".toList ⟨none, [], ["/i1/bin/tool.sh".toList]⟩ "bin/tool.sh".toList = "bin/tool.sh".toList := by
  decide +kernel

example : fsOps [.validate "/i1".toList [exProbeTool], .fs (.remove "/i1/input/a".toList), .validate [] []] =
    [.remove "/i1/input/a".toList] := by decide +kernel

/-! ### the order in which the references are substituted in the arguments

The spelling of a reference may be, at word boundaries, the tail of the spelling of another one (`prod/out.txt:ref`
inside `x-prod/out.txt:ref`: `-` is a word boundary).  The substitutions are made one after the other, so the longer
spelling has to go first: afterwards nothing of it is left for the shorter one to rewrite.  `sortRefs` is that order,
for every list of references. -/

/-- the order of the references by decreasing length of the (absolute) spelling -/
def LongestFirst (l : List Ref) : Prop := l.Pairwise (fun a b => b.abs.length ≤ a.abs.length)

/-- **References are substituted longest spelling first**, whatever the references are called and in whatever order
the component states them: in `sortRefs refs` (the order of both loops of `_compute_memoization_info`) no reference
comes before a reference with a longer spelling. -/
theorem references_substituted_longest_first (refs : List Ref) : LongestFirst (sortRefs refs) := by
  have ins (x : Ref) (l : List Ref) (h : LongestFirst l) : LongestFirst (insertLen x l) := by
    unfold LongestFirst at h ⊢
    induction l with
    | nil => simp [insertLen]
    | cons y ys ih =>
      obtain ⟨hy, hys⟩ := List.pairwise_cons.mp h
      simp only [insertLen]
      split
      · rename_i hle
        refine List.pairwise_cons.mpr ⟨fun b hb => ?_, h⟩
        rcases List.mem_cons.mp hb with rfl | hb
        · exact hle
        · exact Nat.le_trans (hy b hb) hle
      · refine List.pairwise_cons.mpr ⟨fun b hb => ?_, ih hys⟩
        rcases List.mem_cons.mp ((insertLen_perm x ys).mem_iff.mp hb) with rfl | hb
        · omega
        · exact hy b hb
  induction refs with
  | nil => exact .nil
  | cons x xs ih => exact ins x _ ih

/-- … in particular a reference never follows a reference whose spelling is strictly shorter: the order is never
`… short … long …` (as it is, for `stage0.prod/f:ref` and `stage0.x-prod/f:ref`, in the order of the names). -/
theorem shorter_spelling_never_first (refs l1 l2 l3 : List Ref) (short long : Ref)
    (h : sortRefs refs = l1 ++ short :: (l2 ++ long :: l3)) : long.abs.length ≤ short.abs.length := by
  have hp := references_substituted_longest_first refs
  unfold LongestFirst at hp
  rw [h] at hp
  have h2 := (List.pairwise_append.mp hp).2.1
  exact (List.pairwise_cons.mp h2).1 long (by simp)

private theorem isPrefixOf_longer (pat l : S) (h : l.length < pat.length) : pat.isPrefixOf l = false := by
  cases hp : pat.isPrefixOf l with
  | false => rfl
  | true =>
    have := (List.isPrefixOf_iff_prefix.mp hp).length_le
    omega

private theorem subWordAux_shorter_text (pat rep : S) :
    ∀ (s : S) (prev : Option Char), s.length < pat.length → subWordAux pat rep 0 prev s = s := by
  intro s
  induction s with
  | nil => intro prev _; simp [subWordAux]
  | cons c s ih =>
    intro prev h
    have hp := isPrefixOf_longer pat (c :: s) h
    simp only [subWordAux, hp, Bool.false_and, Bool.false_eq_true, if_false]
    rw [ih (some c) (by simp at h; omega)]

/-- the substitution of a spelling leaves every text alone that is shorter than the spelling: a reference can only
be rewritten by the substitution of a reference that is at most as long — with `references_substituted_longest_first`:
only by its own substitution, or by one that comes later. -/
theorem subWord_of_shorter_text (pat rep s : S) (h : s.length < pat.length) : subWord pat rep s = s := by
  unfold subWord
  split
  · rfl
  · exact subWordAux_shorter_text pat rep s none h

example : LongestFirst (sortRefs
    [⟨"stage0.prod/f:ref".toList, "prod/f:ref".toList, "ref".toList, "f".toList, .prodFile 0 (some [])⟩,
     ⟨"stage0.x-prod/f:ref".toList, "x-prod/f:ref".toList, "ref".toList, "f".toList, .prodFile 1 (some [])⟩])
    ∧ ((sortRefs
    [⟨"stage0.prod/f:ref".toList, "prod/f:ref".toList, "ref".toList, "f".toList, .prodFile 0 (some [])⟩,
     ⟨"stage0.x-prod/f:ref".toList, "x-prod/f:ref".toList, "ref".toList, "f".toList, .prodFile 1 (some [])⟩]).map
      (·.rel)) = ["x-prod/f:ref".toList, "prod/f:ref".toList] :=
  ⟨references_substituted_longest_first _, by simp -index only [String.toList_ofList]; decide +kernel⟩

end St4sd.C16
