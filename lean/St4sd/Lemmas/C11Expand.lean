import St4sd.Model.Validate
/-!
# C11 — the edges of the graph, and the expansion (`expandDoc`) of a document by replication

Every edge of the graph the cycle check runs on comes from a declared reference and ends in a component.  The expanded
graph projects onto that (blueprint) graph: every expanded component comes from one blueprint component (`bpList`), and
— when the `replicate` counts are consistent (`replOk`) and every reference is a component of the document — every
reference of an expanded component is the identifier of an expanded component whose blueprint is a reference of the
blueprint of the consumer (`ref_projects`).
-/
namespace St4sd.C11
open St4sd.Validate

theorem mem_ids_of_mem {d : Doc} {c : Comp} (hc : c ∈ d.comps) : c.id ∈ ids d :=
  List.mem_map_of_mem hc

theorem mem_compEdges {d : Doc} {e : Id × Id} :
    e ∈ compEdges d ↔ ∃ c ∈ d.comps, ∃ r ∈ c.refs, r ∈ ids d ∧ (r, c.id) = e := by
  simp only [compEdges, List.mem_flatMap, List.mem_map, List.mem_filter, List.contains_eq_mem, decide_eq_true_eq,
    and_assoc]

theorem mem_placeholderEdges {d : Doc} {e : Id × Id} (h : e ∈ placeholderEdges d) :
    ∃ c ∈ d.comps, ∃ r ∈ c.refs, r ∉ ids d ∧ e.2 = c.id := by
  obtain ⟨c, hc, hm⟩ := List.mem_flatMap.mp h
  obtain ⟨r, hr, he⟩ := List.mem_filterMap.mp hm
  split at he
  · cases he
  · rename_i hn
    obtain ⟨s, _, rfl⟩ := Option.map_eq_some_iff.mp he
    exact ⟨c, hc, r, hr, by simpa using hn, rfl⟩

theorem edge_target_mem {d : Doc} {e : Id × Id} (h : e ∈ edges d) : e.2 ∈ ids d := by
  rcases List.mem_append.mp h with h | h
  · obtain ⟨c, hc, _, _, _, rfl⟩ := mem_compEdges.mp h
    exact mem_ids_of_mem hc
  · obtain ⟨c, hc, _, _, _, he⟩ := mem_placeholderEdges h
    exact he ▸ mem_ids_of_mem hc

/-- (expanded identifier, blueprint identifier) for every expanded component, in document order -/
def bpList (d : Doc) : List (Id × Id) :=
  d.comps.flatMap (fun c => (expandComp d c).map (fun c' => (c'.id, c.id)))

/-- the blueprint of an expanded identifier (the identifier itself when it is unknown) -/
def bpOf (l : List (Id × Id)) (x : Id) : Id :=
  match l.find? (fun p => p.1 == x) with
  | some p => p.2
  | none => x

theorem ids_expandDoc (d : Doc) : ids (expandDoc d) = (bpList d).map Prod.fst := by
  unfold ids expandDoc bpList
  simp only [List.map_flatMap, List.map_map]
  rfl

theorem find_of_nodup (l : List (Id × Id)) (h : (l.map Prod.fst).Nodup) {x b : Id} (hm : (x, b) ∈ l) :
    l.find? (fun p => p.1 == x) = some (x, b) := by
  induction l with
  | nil => cases hm
  | cons p rest ih =>
    rw [List.map_cons, List.nodup_cons] at h
    rcases List.mem_cons.mp hm with rfl | hm'
    · simp
    · have hne : ¬ p.1 = x := fun e => h.1 (e ▸ List.mem_map_of_mem (f := Prod.fst) hm')
      rw [List.find?_cons_of_neg (by simpa using hne)]
      exact ih h.2 hm'

theorem bpOf_of_mem {d : Doc} (h : (ids (expandDoc d)).Nodup) {x b : Id} (hm : (x, b) ∈ bpList d) :
    bpOf (bpList d) x = b := by
  rw [ids_expandDoc] at h
  unfold bpOf
  rw [find_of_nodup _ h hm]

theorem mem_bpList {d : Doc} {c c' : Comp} (hc : c ∈ d.comps) (hc' : c' ∈ expandComp d c) :
    (c'.id, c.id) ∈ bpList d := by
  unfold bpList
  rw [List.mem_flatMap]
  exact ⟨c, hc, List.mem_map.mpr ⟨c', hc', rfl⟩⟩

theorem rewrites_iff {d : Doc} {r : Id} : rewrites d r = true ↔ r ∈ ids d ∧ isAgg d r = false ∧ 0 < cnt d r := by
  simp [rewrites, and_assoc]

theorem mem_expandComp {d : Doc} {c c' : Comp} (h : c' ∈ expandComp d c) :
    (rewrites d c.id = true ∧ ∃ k, k < cnt d c.id ∧ c'.id = (c.stage, replName c.name k) ∧
        c'.refs = c.refs.map (replicaRef d k)) ∨
    (rewrites d c.id = false ∧ c'.id = c.id ∧ c'.refs = c.refs.flatMap (aggRefs d (cnt d c.id))) ∨
    (rewrites d c.id = false ∧ isAgg d c.id = false ∧ c' = c) := by
  unfold expandComp at h
  split at h
  · rename_i hr
    obtain ⟨k, hk, rfl⟩ := List.mem_map.mp h
    exact .inl ⟨hr, k, List.mem_range.mp hk, rfl, rfl⟩
  · rename_i hr
    have hr' : rewrites d c.id = false := by simpa using hr
    split at h
    · cases List.mem_singleton.mp h
      exact .inr (.inl ⟨hr', rfl, rfl⟩)
    · rename_i ha
      exact .inr (.inr ⟨hr', by simpa using ha, List.mem_singleton.mp h⟩)

theorem replicaRef_in_bpList {d : Doc} {r : Id} (hid : r ∈ ids d) {k : Nat}
    (hk : rewrites d r = true → k < cnt d r) : (replicaRef d k r, r) ∈ bpList d := by
  obtain ⟨cr, hcr, rfl⟩ := List.mem_map.mp hid
  -- replica `k` of a replicated blueprint; the blueprint itself (aggregating or not) otherwise
  have : ∃ c' ∈ expandComp d cr, c'.id = replicaRef d k cr.id := by
    unfold replicaRef expandComp
    split
    · rename_i hr
      exact ⟨_, List.mem_map.mpr ⟨k, List.mem_range.mpr (hk hr), rfl⟩, rfl⟩
    · split <;> exact ⟨_, List.mem_singleton.mpr rfl, rfl⟩
  obtain ⟨c', hc', hid'⟩ := this
  exact hid' ▸ mem_bpList hcr hc'

theorem mem_aggRefs {d : Doc} {n : Nat} {r x : Id} (h : x ∈ aggRefs d n r) :
    ∃ k, (rewrites d r = true → k < n) ∧ x = replicaRef d k r := by
  unfold aggRefs at h
  unfold replicaRef
  split at h
  · rename_i hr
    obtain ⟨k, hk, rfl⟩ := List.mem_map.mp h
    exact ⟨k, fun _ => List.mem_range.mp hk, by rw [if_pos hr]⟩
  · rename_i hr
    exact ⟨0, fun h => absurd h hr, by rw [if_neg hr]; exact List.mem_singleton.mp h⟩

theorem cnt_eq_of_rewrites {d : Doc} {c : Comp} (hok : replOk d c = true) {r : Id} (hr : r ∈ c.refs)
    (hw : rewrites d r = true) : cnt d c.id = cnt d r := by
  obtain ⟨h1, h2, h3⟩ := rewrites_iff.mp hw
  have hf : r ∈ feeders d c := List.mem_filter.mpr ⟨hr, by simp [h1, h2]⟩
  have := List.all_eq_true.mp hok r hf
  simp only [Bool.or_eq_true, beq_iff_eq] at this
  omega

theorem ref_projects {d : Doc} {c c' : Comp} (hc : c ∈ d.comps) (hc' : c' ∈ expandComp d c)
    (hok : replOk d c = true) (href : ∀ r ∈ c.refs, r ∈ ids d) {x : Id} (hx : x ∈ c'.refs) :
    ∃ r ∈ c.refs, (x, r) ∈ bpList d := by
  rcases mem_expandComp hc' with ⟨_, k, hk, _, hrefs⟩ | ⟨_, _, hrefs⟩ | ⟨hw, ha, rfl⟩
  · rw [hrefs, List.mem_map] at hx
    obtain ⟨r, hr, rfl⟩ := hx
    exact ⟨r, hr, replicaRef_in_bpList (href r hr) fun hwr => cnt_eq_of_rewrites hok hr hwr ▸ hk⟩
  · rw [hrefs, List.mem_flatMap] at hx
    obtain ⟨r, hr, hx⟩ := hx
    obtain ⟨k, hk, rfl⟩ := mem_aggRefs hx
    exact ⟨r, hr, replicaRef_in_bpList (href r hr) fun hwr => cnt_eq_of_rewrites hok hr hwr ▸ hk hwr⟩
  · refine ⟨x, hx, ?_⟩
    -- a plain, non-aggregating consumer of a replicated producer would be replicated itself
    have hwr : rewrites d x = false := by
      apply Bool.eq_false_iff.mpr
      intro hwr
      have heq := cnt_eq_of_rewrites hok hx hwr
      obtain ⟨_, _, hpos⟩ := rewrites_iff.mp hwr
      exact Bool.eq_false_iff.mp hw (rewrites_iff.mpr ⟨mem_ids_of_mem hc, ha, by omega⟩)
    simpa [replicaRef, hwr] using replicaRef_in_bpList (k := 0) (href x hx) (by simp [hwr])

end St4sd.C11
