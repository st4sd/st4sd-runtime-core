import St4sd.Model.DslLoad
import St4sd.Model.ReplVars
import St4sd.Model.C15Stages
/-!
Witnesses for C15.

`loadVarsOld content order` is conf.py 283/484 before the repair: `variable_files = list(set(variable_files))`
layers the files in whatever order the *set* of path strings is enumerated, i.e. in some permutation of the
distinct paths that depends on the string hash seed of the process.  For two files that define the same
variable there is a permutation for which the result differs from layering in the order given — the harness
replays exactly this input (`a.yaml: {global: {v: from-a}}`, `b.yaml: {global: {v: from-b}}`, order `[a, b]`)
on the real code under several `PYTHONHASHSEED` values.
-/
namespace St4sd.C15.Witness
open St4sd.Assoc St4sd.Layer

def fileA : Vars := [((none, "v".toList), "from-a".toList)]
def fileB : Vars := [((none, "v".toList), "from-b".toList)]
def content (i : Nat) : Vars := if i = 0 then fileA else fileB

/-- the order given is `[a, b]`: the repaired loader lets `b` win … -/
theorem repaired_last_wins : dget (loadVars content [0, 1]) (none, "v".toList) = some "from-b".toList := by decide +kernel

/-- … the old loader may enumerate the set `{a, b}` as `[b, a]` (a permutation of the distinct paths): `a` wins. -/
theorem old_order_changes_result :
    ∃ order : List Nat, order.Perm [0, 1] ∧
      dget (loadVarsOld content order) (none, "v".toList) ≠ dget (loadVars content [0, 1]) (none, "v".toList) :=
  ⟨[1, 0], List.Perm.swap 0 1 [], by decide +kernel⟩

/-- two enumerations of the same set of paths give different variables: the old loader is not a function of
its arguments -/
theorem old_depends_on_enumeration :
    dget (loadVarsOld content [0, 1]) (none, "v".toList) ≠ dget (loadVarsOld content [1, 0]) (none, "v".toList) := by
  decide +kernel

/-- a de-duplication that keeps the *first* occurrence (`list(dict.fromkeys(paths))`) would not be the same as
layering every given path in order when a path is given twice (`[a, b, a]`: `a` must win); keeping the last
occurrence is (`Props.C15.dedup_transparent`). -/
theorem keep_first_is_not_transparent :
    dget (layerMany ((dedupKeepFirst [0, 1, 0]).map content)) (none, "v".toList)
      ≠ dget (layerMany ([0, 1, 0].map content)) (none, "v".toList) := by decide +kernel

/-! DSL 2.0: `hash_environment` must read the environment as a mapping.  With the identity built in the insertion
order of the entries (`hashEnvUnsorted`, no `sorted`) the same two components get one environment or two,
depending on the order in which the second wrote the same two variables. -/
section Dsl
open St4sd.DslLoad

def envAB : Env := [("ALPHA".toList, some "1".toList), ("BETA".toList, some "/opt/tool/bin".toList)]
def envBA : Env := [("BETA".toList, some "/opt/tool/bin".toList), ("ALPHA".toList, some "1".toList)]

theorem envBA_is_envAB_reordered : envAB.Perm envBA := List.Perm.swap _ _ _

theorem unsorted_identity_depends_on_key_order :
    assignEnvsWith hashEnvUnsorted [] [.dict envAB, .dict envAB] = [.env 0, .env 0] ∧
    assignEnvsWith hashEnvUnsorted [] [.dict envAB, .dict envBA] = [.env 0, .env 1] := by
  unfold envAB envBA
  simp -index only [String.toList_ofList]
  decide +kernel

/-- the code as it is (sorted keys) gives one environment in both cases -/
theorem sorted_identity_does_not :
    assignEnvs [] [.dict envAB, .dict envAB] = [.env 0, .env 0] ∧
    assignEnvs [] [.dict envAB, .dict envBA] = [.env 0, .env 0] := by
  unfold envAB envBA
  simp -index only [String.toList_ofList]
  decide +kernel

end Dsl

/-! ## a resolution loop with a scope shared between the components (NOT the code)

`St4sd.Repl.resolveAll` (the code) starts every iteration from fresh copies of the global and stage scopes.  A
loop that layered global + stage once and merged the variables of every visited component INTO that shared
scope would resolve `replicate: %(N)s` of `sweep` with the private `N` of whichever sibling was visited before
it: the result depends on the order in which a set enumerates the components, i.e. on the hash seed.  The
harness loads such packages (`minimal-shadow`, generator `gen_shadow_package`) in processes with different
PYTHONHASHSEED and drives `FlowIR.apply_replicate` with explicit orders. -/
namespace ReplShared
open St4sd.Repl

/-- the leaking loop: `scope` accumulates the variables of the visited components -/
def resolveShared (scope : St4sd.Repl.Vars) : List Raw → List (Option Nat)
  | [] => []
  | r :: rs =>
    let vis := override scope r.vars
    (match countIn vis r.replicate with
      | .ok n => n
      | .error _ => none) :: resolveShared vis rs

def tune : Raw := { stage := 0, name := "tune".toList, refs := [], vars := [("N".toList, "3".toList)],
                    replicate := .absent, aggregate := .absent }
def sweep : Raw := { stage := 0, name := "sweep".toList, refs := [], vars := [], replicate := .var "N".toList,
                     aggregate := .absent }

theorem shared_scope_depends_on_visiting_order :
    resolveShared [("N".toList, "2".toList)] [sweep, tune] = [some 2, none] ∧
    resolveShared [("N".toList, "2".toList)] [tune, sweep] = [none, some 3] := by decide +kernel

end ReplShared

/-! A stage discovery that chose the flavour through the glob pattern alone (`stage*.conf` also matches
`stage<N>.instance.conf`; NOT the code) would load the package flavour or the instance flavour of a launched
directory depending on the order in which the file system lists the two files. -/
section StagePattern
open St4sd.C15Stages

theorem pattern_only_depends_on_listing_order :
    discoverPatternOnly false [⟨0, false, "stage0.conf"⟩, ⟨0, true, "stage0.instance.conf"⟩] 0
      = some "stage0.instance.conf" ∧
    discoverPatternOnly false [⟨0, true, "stage0.instance.conf"⟩, ⟨0, false, "stage0.conf"⟩] 0
      = some "stage0.conf" := by decide +kernel
end StagePattern

end St4sd.C15.Witness
