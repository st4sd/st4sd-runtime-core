import St4sd.Model.RepeatDir
/-! Working directories of producers (C13, clause 1): what was staged in is input, never output. -/
namespace St4sd.RepeatDir

theorem drun_append : ∀ (a b : List DOp) (d : Dir), drun d (a ++ b) = drun (drun d a) b
  | [], _, _ => rfl
  | _ :: os, b, _ => drun_append os b _

theorem mem_add (d : Dir) (f g : File) : g ∈ (d.add f).files ↔ g = f ∨ g ∈ d.files := by
  grind [Dir.add]

theorem add_inputs (d : Dir) (f : File) : (d.add f).inputs = d.inputs := by
  unfold Dir.add; split <;> rfl

theorem drun_inputs : ∀ (ops : List DOp) (d : Dir), DOp.updateInputs ∉ ops → (drun d ops).inputs = d.inputs
  | [], _, _ => rfl
  | o :: os, d, h => by
    rw [drun, drun_inputs os _ (mt (List.mem_cons_of_mem _) h)]
    cases o with
    | updateInputs => exact absurd List.mem_cons_self h
    | _ => exact add_inputs d _

theorem drun_stage_inputs : ∀ (fs : List File) (d : Dir), (drun d (fs.map .stage)).inputs = d.inputs :=
  fun _ d => drun_inputs _ d (by simp)

theorem drun_write_inputs (fs : List File) (d : Dir) : (drun d (writes fs)).inputs = d.inputs :=
  drun_inputs _ d (by simp [writes])

theorem drun_write_files : ∀ (fs : List File) (d : Dir) (g : File),
    g ∈ (drun d (writes fs)).files ↔ g ∈ fs ∨ g ∈ d.files
  | [], _, _ => by simp [writes, drun]
  | f :: r, d, g => by
    rw [writes, List.map_cons, drun, dstep, ← writes, drun_write_files r, mem_add]
    grind

theorem output_updateInputs (d : Dir) : (dstep d .updateInputs).output = [] := by
  simp [dstep, Dir.output, List.filter_eq_nil_iff]

theorem mem_output (d : Dir) (g : File) : g ∈ d.output ↔ g ∈ d.files ∧ g ∉ d.inputs := by
  simp [Dir.output, List.mem_filter]

theorem drun_single (d : Dir) (o : DOp) : drun d [o] = dstep d o := rfl

theorem stageIn_eq (direct comp : List File) (d : Dir) :
    stageIn direct comp [] d = dstep (drun (drun d (direct.map .stage)) (comp.map .stage)) .updateInputs := by
  simp only [stageIn, stageInOps, List.map_nil, List.append_nil, drun_append, drun_single]

theorem stageIn_inputs (direct comp : List File) (d : Dir) :
    (stageIn direct comp [] d).inputs = (stageIn direct comp [] d).files := by
  rw [stageIn_eq]; rfl

end St4sd.RepeatDir
