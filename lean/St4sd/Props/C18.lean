import St4sd.Lemmas.C18Keys
import St4sd.Lemmas.C18StagersLocal
/-!
# C18 — Staging and deployment never write outside their target directory

Property theorems about the model `St4sd.Confine` (`Model/Confine.lean`); the invariants (`Safe`, `Good`,
`DGood`) and the lemmas that carry them through each operation are in `Lemmas/C18Confine.lean`, those for keys as
text in `Lemmas/C18Keys.lean`, those for two stagers in `Lemmas/C18StagersLocal.lean`.

Reading guide: locations are reversed component lists, `dest <:+ p` says "`p` is `dest` or lies below it".
`st.log` is the list of every physical location an operation created or modified (following symbolic links
and hard links the way the kernel does), `Frame dest fs0 fs` says that no location outside `dest` differs
between `fs0` and `fs`.
-/
namespace St4sd.C18
open St4sd.Confine St4sd.Str

/-- **extract_confined** (full statement, repaired check).  For *every* archive (any member names, any link
targets, any order) and every initial state in which the working directory holds no escaping link
(`Safe`: links under `dest` are relative without `..`, no file under `dest` is a hard link to the outside —
true of a freshly created working directory), staging by extraction
* creates or modifies only locations under `dest`,
* leaves every location outside `dest` exactly as it was, and
* re-establishes `Safe` (so the statement composes over any number of extract stagings),
whether the archive is accepted, rejected, or extraction stops with an error half-way.

**Hypothesis gap (known finding `C18-extract-through-staged-link`).**  `Safe` is not a formality: `Job.stageIn`
stages all references of a component into the same working directory, and a reference staged with `:link`
(`stageLink`) leaves an absolute link there.  That state is not `Safe`
(`Witness.C18.linked_state_not_safe`), and an archive extracted afterwards with a member `<link name>/evil`
is accepted by the repaired check and written through the link, outside `dest`
(`Witness.C18.link_then_extract_escapes`, also via a descending archive link:
`link_then_extract_escapes_via_descending_member_link`).  The theorem therefore covers working directories that
hold only what copy staging and earlier (checked) extractions put there — `copy_confined` and the third conjunct
keep `Safe` — not directories that also hold link-staged inputs.  The harness generates exactly those states
(real `StageReference(…:link)` before the archive) and reports the escapes under the slug
`extract-writes-through-staged-link`. -/
theorem extract_confined (dest : Path) (fs : Fs) (ms : List Member) (hs : Safe dest fs) :
    (∀ p ∈ (stageExtractFixed dest ⟨fs, []⟩ ms).1.log, dest <:+ p) ∧
    (∀ q, ¬ dest <:+ q → (stageExtractFixed dest ⟨fs, []⟩ ms).1.fs.get q = fs.get q) ∧
    Safe dest (stageExtractFixed dest ⟨fs, []⟩ ms).1.fs :=
  have hg := stageExtractFixed_good (good_init hs) ms
  ⟨hg.log, hg.frame, hg.safe⟩

/-- the same over a whole history of extract stagings into the same working directory -/
theorem extract_sequence_confined (dest : Path) (fs0 : Fs) :
    ∀ (archives : List (List Member)) (st : St), Good dest fs0 st →
      Good dest fs0 (archives.foldl (fun st ms => (stageExtractFixed dest st ms).1) st) :=
  fun archives _ hg => List.foldlRecOn archives _ hg fun _ h ms _ => stageExtractFixed_good h ms

/-- offending archives are rejected before anything is touched: a rejected archive leaves state and log as
they were and reports `rejected` (the code raises `tarfile.ReadError`, reported as
`DataReferenceCouldNotStageError`) -/
theorem rejected_touches_nothing (dest : Path) (st : St) (ms : List Member) (h : checkFixed dest ms = false) :
    stageExtractFixed dest st ms = (st, some Err.rejected) :=
  if_neg (h ▸ Bool.false_ne_true)

private theorem memberOk_eq_and (dest : Path) (m : Member) :
    memberOk dest m = (prefixOk dest m.name && allNames (below dest m.name) && linkTargetDescending m) := by
  cases m <;> simp [memberOk, Member.name, linkTargetDescending]

private theorem checkFixed_false {dest : Path} {ms : List Member} {m : Member} (hm : m ∈ ms)
    (h : memberOk dest m = false) : checkFixed dest ms = false :=
  List.all_eq_false.mpr ⟨m, hm, by simp [h]⟩

/-- a member whose name has a `..` component below `dest` makes the archive offending -/
theorem parent_segment_rejected (dest : Path) (ms : List Member) (m : Member) (hm : m ∈ ms)
    (h : allNames (below dest m.name) = false) : checkFixed dest ms = false :=
  checkFixed_false hm (by simp [memberOk_eq_and, h])

/-- an absolute member name that does not lie under `dest` makes the archive offending -/
theorem absolute_outside_rejected (dest : Path) (ms : List Member) (m : Member) (hm : m ∈ ms)
    (h : prefixOk dest m.name = false) : checkFixed dest ms = false :=
  checkFixed_false hm (by simp [memberOk_eq_and, h])

/-- a symlink or hardlink member whose target is absolute or has a `..` component makes the archive offending -/
theorem escaping_link_rejected (dest : Path) (ms : List Member) (n t : RawPath)
    (hm : Member.sym n t ∈ ms ∨ Member.hard n t ∈ ms) (h : descending t = false) : checkFixed dest ms = false :=
  hm.elim (checkFixed_false · (by simp [memberOk, h])) (checkFixed_false · (by simp [memberOk, h]))

/-- **link targets are judged by their text, never by normalisation.**  The repaired check is *exactly* the
textual-normalisation check (`checkNormpath`: link target relative and, after `os.path.normpath` against the
directory holding the link, still under `dest`) together with "no link target has a `..` component or is
absolute" — for every archive.  So the two checks differ precisely on archives with a link member whose target
has a `..` component that normalises away; `Witness.C18.normpath_link_rule_unsound_*` show that on those the
textual rule lets chains of links (members placed through earlier link members) out of `dest`. -/
theorem checkFixed_eq_normpath_and_descending (dest : Path) (ms : List Member) :
    checkFixed dest ms = (checkNormpath dest ms && ms.all linkTargetDescending) := by
  unfold checkFixed checkNormpath
  induction ms with
  | nil => rfl
  | cons m r ih =>
    simp only [List.all_cons, ih, memberOk_eq dest m]
    cases memberOkNormpath dest m <;> cases linkTargetDescending m <;> simp

/-- everything the repaired check accepts, the textual-normalisation check accepts as well (the relaxation is
a relaxation), … -/
theorem checkFixed_imp_checkNormpath (dest : Path) (ms : List Member) (h : checkFixed dest ms = true) :
    checkNormpath dest ms = true := by
  rw [checkFixed_eq_normpath_and_descending] at h
  exact (Bool.and_eq_true_iff.mp h).1

/-- … and on archives whose link members all have descending targets (in particular archives without link
members) the two checks agree, so `extract_confined` transfers: extraction guarded by the textual rule is
confined **provided** no link target has a `..` component — for chains of any depth, links placed through
earlier links, hard links to earlier links included. -/
theorem normpath_confined_when_targets_descend (dest : Path) (fs : Fs) (ms : List Member) (hs : Safe dest fs)
    (hd : ms.all linkTargetDescending = true) :
    (∀ p ∈ (stageExtractNormpath dest ⟨fs, []⟩ ms).1.log, dest <:+ p) ∧
    (∀ q, ¬ dest <:+ q → (stageExtractNormpath dest ⟨fs, []⟩ ms).1.fs.get q = fs.get q) ∧
    Safe dest (stageExtractNormpath dest ⟨fs, []⟩ ms).1.fs := by
  have he : stageExtractNormpath dest ⟨fs, []⟩ ms = stageExtractFixed dest ⟨fs, []⟩ ms := by
    unfold stageExtractNormpath stageExtractFixed
    rw [checkFixed_eq_normpath_and_descending, hd, Bool.and_true]
  rw [he]
  exact extract_confined dest fs ms hs

/-- a link member placed *through* an earlier link member (its name continues the name of the earlier link)
with a `..` in its target makes the archive offending, however confined the target looks textually: the
second link of the chain `a/s -> ..`, `a/s/esc -> ..` is refused although `normpath("a/s/..") = "a"` -/
theorem through_link_member_rejected (dest : Path) (pre post : List Member) (n : RawPath) (through : List Seg)
    (t1 t2 : RawPath) (h : allNames t2.segs = false) :
    checkFixed dest (pre ++ [Member.sym n t1, Member.sym ⟨n.abs, n.segs ++ through⟩ t2] ++ post) = false :=
  escaping_link_rejected dest _ ⟨n.abs, n.segs ++ through⟩ t2
    (Or.inl (by simp)) (by simp [descending, h])

/-- Copy staging of a file or directory writes `dest/basename(ref)` (and
below it) only — in a `Safe` working directory also when that name already exists as a link. -/
theorem copy_confined (dest : Path) (fs0 : Fs) (st : St) (ref : S) (k : RefKind) (hg : Good dest fs0 st) :
    Good dest fs0 (stageCopy dest st ref k).1 := by
  unfold stageCopy
  split
  · next b _ =>
    cases k with
    | file => exact (writeFile_conf b hg (eqv_refl dest st) (List.suffix_refl dest)).good
    | dir => exact copyTree_good hg (List.suffix_refl dest) b
  · exact hg

/-- Link staging creates exactly one entry, `dest/basename(ref)`, or fails
without touching anything; nothing outside `dest` changes (no hypothesis on the state). -/
theorem link_confined (dest : Path) (st : St) (ref : S) :
    ((stageLink dest st ref).1 = st ∧ (stageLink dest st ref).2 = some Err.os) ∨
    (∃ b, (stageLink dest st ref).1.log = (b :: dest) :: st.log ∧ (stageLink dest st ref).2 = none ∧
      ∀ q, ¬ dest <:+ q → (stageLink dest st ref).1.fs.get q = st.fs.get q) := by
  unfold stageLink
  split
  · next b _ =>
    split
    · exact Or.inl ⟨rfl, rfl⟩
    · exact Or.inr ⟨b, rfl, rfl, frame_put (fun _ _ => rfl) (under_cons b (List.suffix_refl dest)) _⟩
  · exact Or.inl ⟨rfl, rfl⟩

/-- deployment alone (a package object built without `Manifest.validate`) is confined as well -/
theorem deploy_confined (target : Path) (fs : Fs) (es : List Entry) (confIsKey : Bool)
    (hanc : ∀ q, q <:+ target → q ≠ [] → fs.get q ≠ none)
    (hfiles : ∀ p ino, target <:+ p → fs.get p = some (Node.file ino) → target <:+ ino) :
    (∀ p ∈ (deploy true target ⟨fs, []⟩ es confIsKey).1.log, target <:+ p) ∧
    (∀ q, ¬ target <:+ q → (deploy true target ⟨fs, []⟩ es confIsKey).1.fs.get q = fs.get q) :=
  have hg := deploy_good (dgood_init hanc hfiles) es confIsKey
  ⟨hg.log, hg.frame⟩

/-- **manifest_confined** (full statement, repaired code).  For *every* manifest (any keys, nested or with
`..`, any mix of copy and link entries, any order) deployed into an instance directory `target` that exists
together with its ancestors (`hanc`) and holds no hard link to the outside (`hfiles`; true of a new instance
directory), loading + deployment creates or modifies only locations under `target` and leaves every other
location as it was — including the source folders that link entries point to. -/
theorem manifest_confined (target : Path) (fs : Fs) (es : List Entry) (confIsKey : Bool)
    (hanc : ∀ q, q <:+ target → q ≠ [] → fs.get q ≠ none)
    (hfiles : ∀ p ino, target <:+ p → fs.get p = some (Node.file ino) → target <:+ ino) :
    (∀ p ∈ (loadAndDeploy true target ⟨fs, []⟩ es confIsKey).1.log, target <:+ p) ∧
    (∀ q, ¬ target <:+ q → (loadAndDeploy true target ⟨fs, []⟩ es confIsKey).1.fs.get q = fs.get q) := by
  have hg := loadAndDeploy_good (dgood_init hanc hfiles) es confIsKey
  exact ⟨hg.log, hg.frame⟩

/-- a manifest with an absolute key or a key with a `..` component is refused at load, nothing is deployed -/
theorem manifest_offending_key_rejected (target : Path) (st : St) (es : List Entry) (k : Bool) (e : Entry)
    (he : e ∈ es) (h : descending e.key = false) :
    loadAndDeploy true target st es k = (st, some Err.rejected) := by
  have : validateFixed es = false := List.all_eq_false.mpr ⟨e, he, by simp [h]⟩
  simp [loadAndDeploy, this]

/-! ### the string test of the code is the component test of the model -/

private theorem isPrefixOf_name_sep (x y r1 r2 : S) (hx : '/' ∉ x) (hy : '/' ∉ y) :
    (x ++ '/' :: r1).isPrefixOf (y ++ '/' :: r2) = (x == y && r1.isPrefixOf r2) := by
  induction x generalizing y with
  | nil =>
    cases y with
    | nil => simp
    | cons d y' =>
      have : ¬ '/' = d := fun e => hy (e ▸ List.mem_cons_self)
      simp [List.isPrefixOf_cons_cons, this]
  | cons c x' ih =>
    have hc : ¬ c = '/' := fun e => hx (e ▸ List.mem_cons_self)
    cases y with
    | nil => simp [List.isPrefixOf_cons_cons, hc]
    | cons d y' =>
      simp only [List.cons_append, List.isPrefixOf_cons_cons,
        ih y' (fun h => hx (List.mem_cons_of_mem _ h)) (fun h => hy (List.mem_cons_of_mem _ h))]
      simp [Bool.and_assoc]

private theorem compsText_sep (l : List S) : compsText l ++ ['/'] = '/' :: l.flatMap (· ++ ['/']) := by
  induction l with
  | nil => rfl
  | cons x r ih => simp only [compsText, List.cons_append, List.append_assoc, ih, List.flatMap_cons, List.nil_append]

private theorem closed_isPrefixOf (a b : List S) (h : ∀ x ∈ a ++ b, '/' ∉ x) :
    (a.flatMap (· ++ ['/'])).isPrefixOf (b.flatMap (· ++ ['/'])) = a.isPrefixOf b := by
  induction a generalizing b with
  | nil => rfl
  | cons x a ih =>
    cases b with
    | nil => cases x <;> rfl
    | cons y b =>
      simp only [List.flatMap_cons, List.append_assoc, List.singleton_append]
      rw [isPrefixOf_name_sep x y _ _ (h x (by simp)) (h y (by simp)), ih b fun z hz => h z (by
        rcases List.mem_append.mp hz with hz | hz <;> simp [hz])]
      rfl

/-- **The string comparison the code performs is the comparison of the model**: for locations whose component
names contain no separator (every real path), "`realpath(dest) + '/'` is the common prefix of itself and
`realpath(p) + '/'`" holds exactly when `p` is `dest` or lies below it component-wise.  The appended separator
is what makes the character-wise test a component-wise one. -/
theorem underTextSep_eq_under (dest p : Path) (h : ∀ x ∈ dest ++ p, '/' ∉ x) :
    underTextSep dest p = under dest p := by
  unfold underTextSep under pathText
  rw [compsText_sep, compsText_sep, List.isPrefixOf_cons_cons, beq_self_eq_true, Bool.true_and,
    closed_isPrefixOf dest.reverse p.reverse fun x hx => h x (by
      rcases List.mem_append.mp hx with hx | hx <;> simp [List.mem_reverse.mp hx])]
  rfl

private theorem compsText_append (a b : List S) : compsText (a ++ b) = compsText a ++ compsText b := by
  induction a with
  | nil => rfl
  | cons x a' ih => simp [compsText, ih]

/-- without the separator the string test is only NECESSARY: everything under `dest` passes it … (what else
passes: `Witness.C18.string_prefix_accepts_sibling`) -/
theorem under_imp_underText (dest p : Path) (h : under dest p = true) : underText dest p = true := by
  unfold underText pathText
  obtain ⟨t, ht⟩ := under_iff.mp h
  rw [← ht, List.reverse_append, compsText_append]
  simp

/-- the parametrised deployment step with the component test is the repaired code -/
theorem deployOneWith_under (target : Path) (st : St) (e : Entry) :
    deployOneWith under target st e = deployOne true target st e :=
  rfl  -- with `guard = true` the two definitions are the same term up to `true && b = b`

theorem deployAllWith_under (target : Path) (es : List Entry) :
    ∀ st, deployAllWith under target st es = deployAll true target st es := by
  induction es with
  | nil => intro st; rfl
  | cons e es ih =>
    intro st
    simp only [deployAllWith, deployAll, deployOneWith_under]
    cases deployOne true target st e with
    | mk st1 r =>
      cases r with
      | none => exact ih st1
      | some x => rfl

/-! ### manifest keys as TEXT: alias spellings, destinations that already exist, histories of deployments

`Model/C18Keys.lean`: `shared`, `shared/`, `./shared`, `shared//`, `shared/.` are different dictionary keys and name
the same entry of the instance directory; an instance directory may be deployed into more than once, with a
manifest that changed in between (an entry switched from `:link` to `:copy`), and may hold links before the first
deployment.  None of this is a hypothesis below: the theorems quantify over all key texts, all lists of
deployments and all initial states in which the instance directory exists (with its ancestors) and holds no hard
link to the outside. -/

/-- **alias_manifest_confined**: loading + deployment of *every* manifest, keys taken as text (any spelling, any
two spellings of one entry, any order, copy and link entries), creates or modifies only locations under the
instance directory and leaves every other location as it was — in particular the directory an entry was linked
to earlier in the same manifest. -/
theorem alias_manifest_confined (target : Path) (fs : Fs) (es : List KEntry)
    (hanc : ∀ q, q <:+ target → q ≠ [] → fs.get q ≠ none)
    (hfiles : ∀ p ino, target <:+ p → fs.get p = some (Node.file ino) → target <:+ ino) :
    (∀ p ∈ (loadAndDeployK true target ⟨fs, []⟩ es).1.log, target <:+ p) ∧
    (∀ q, ¬ target <:+ q → (loadAndDeployK true target ⟨fs, []⟩ es).1.fs.get q = fs.get q) := by
  have hg := deployStep_good (dgood_init hanc hfiles) ⟨es, true⟩
  exact ⟨hg.log, hg.frame⟩

/-- **deploy_history_confined**: any number of deployments into the same instance directory, one after the
other, each with its own manifest (validated at load or not), each continuing from whatever the previous one
left (deployed, rejected, stopped half-way): everything created or modified over the whole history lies under
the instance directory, every other location is as it was before the first deployment.  No hypothesis on the
links the instance directory holds initially or acquires on the way. -/
theorem deploy_history_confined (target : Path) (fs : Fs) (ds : List Deployment)
    (hanc : ∀ q, q <:+ target → q ≠ [] → fs.get q ≠ none)
    (hfiles : ∀ p ino, target <:+ p → fs.get p = some (Node.file ino) → target <:+ ino) :
    (∀ p ∈ (deployHistory true target ⟨fs, []⟩ ds).1.log, target <:+ p) ∧
    (∀ q, ¬ target <:+ q → (deployHistory true target ⟨fs, []⟩ ds).1.fs.get q = fs.get q) := by
  have hg := deployHistory_good ds _ (dgood_init hanc hfiles)
  exact ⟨hg.log, hg.frame⟩

/-- a key without trailing separator and without final `.` component is handled exactly as its parsed form
(`./a`, `a//b`, `a/./b` are the entries `a`, `a/b`, `a/b`): the text model extends `deployOne`, it does not
replace it -/
theorem deployOneK_plain (guard : Bool) (target : Path) (st : St) (e : KEntry)
    (h1 : endsWithDot e.key = false) (h2 : endsWithSep e.key = false) :
    deployOneK guard target st e = deployOne guard target st e.entry := by
  simp [deployOneK, h1, h2]

/-- **copy_entry_never_merges**: a copy entry that is deployed (no error) has created its destination directory
in this very step — the destination did not exist before, neither as a directory, nor as a file, nor as a LINK.
So a copy entry is never merged into what an earlier entry, an earlier deployment or anybody else put there; an
entry whose destination exists is answered with an error. -/
theorem copy_entry_never_merges (target : Path) (st st' : St) (e : Entry) (hm : e.method = Method.copy)
    (h : deployOne true target st e = (st', none)) :
    ∃ par s, st.fs.get (s :: par) = none ∧ st'.fs.get (s :: par) = some Node.dir ∧ (s :: par) ∈ st'.log :=
  deployed_copy_fresh (h ▸ deployOne_deployed target st e) hm

/-- the same for a key in any spelling -/
theorem copy_entry_never_merges_any_spelling (target : Path) (st st' : St) (e : KEntry)
    (hm : e.method = Method.copy) (h : deployOneK true target st e = (st', none)) :
    ∃ par s, st.fs.get (s :: par) = none ∧ st'.fs.get (s :: par) = some Node.dir ∧ (s :: par) ∈ st'.log :=
  deployed_copy_fresh (h ▸ deployOneK_deployed target st e) hm

/-- **copy_onto_existing_entry_rejected**: a copy entry for a top-level name that already exists in the instance
directory — e.g. as the link an earlier entry `name: <elsewhere>:link` created — is answered with an error and
touches nothing, whatever the spelling of its key (`name`, `name/`, `./name`, `name//`, `name/.` …) -/
theorem copy_onto_existing_entry_rejected (target : Path) (st : St) (k : S) (s : S) (src : List Seg)
    (hk : parsePath k = ⟨false, [Seg.name s]⟩) (hex : (st.fs.get (s :: target)).isSome = true) :
    ∃ x, deployOneK true target st ⟨k, src, Method.copy⟩ = (st, some x) := by
  have h := deployOneK_deployed target st ⟨k, src, Method.copy⟩
  generalize deployOneK true target st ⟨k, src, Method.copy⟩ = r at h ⊢
  cases h with
  | error x => exact ⟨x, rfl⟩
  | link _ _ hm => cases hm
  | copy parents s' base rest _ hsplit _ hw =>
    -- the only way to be deployed is `copytree` at `target/s`, which finds the destination
    rw [show (KEntry.mk k src Method.copy).entry.key = ⟨false, [Seg.name s]⟩ from hk] at hsplit
    cases hsplit
    cases hw
    exact ⟨Err.os, if_pos hex⟩

/-! ### two components staging archives at the same time

`Model/C18Stagers.lean`: two extractions interleaved member by member under an arbitrary schedule, on one shared
file system; each stager extracts into its own ABSOLUTE working directory and owns nothing but (`dest`, members
left, log, answer). -/

/-- **stager_step_confined**: at every single step — whatever happened before, whatever the other stager did to
its own directory in the meantime — the member a stager extracts is logged under the stager's OWN working
directory and no location outside that directory changes (so nothing in the other stager's directory). -/
theorem stager_step_confined (d : Path) (fs : Fs) (s : Stager) (hs : Safe d fs) (hg : SGood d s) :
    (∀ p ∈ (s.step fs).2.log, d <:+ p) ∧ (∀ q, ¬ d <:+ q → (s.step fs).1.get q = fs.get q) ∧
    Safe d (s.step fs).1 :=
  have h := stager_step_conf hs hg (agree_refl d fs)
  ⟨h.good.log, h.frame, h.safe⟩

private theorem runStagers_good (fs : Fs) (dA dB : Path) (msA msB : List Member) (sched : List Bool)
    (hap : Apart dA dB) (hA : Safe dA fs) (hB : Safe dB fs) :
    WGood dA dB fs ((Stager.init dA msA).drain fs) ((Stager.init dB msB).drain fs)
      (sched.foldl World.step { fs := fs, a := Stager.init dA msA, b := Stager.init dB msB }) :=
  wgood_sched hap sched ⟨track_init hA msA, track_init hB msB, fun _ _ _ => rfl⟩

/-- **stagers_confined**: for *every* schedule, every pair of archives and every pair of working directories
neither of which lies in the other (`Apart`), both `Safe` initially: everything the first stager creates or
modifies lies under the first working directory and not under the second, and vice versa; no location outside
the two working directories changes; both directories stay `Safe`.  Accepted, rejected or failing half-way. -/
theorem stagers_confined (fs : Fs) (dA dB : Path) (msA msB : List Member) (sched : List Bool)
    (hap : Apart dA dB) (hA : Safe dA fs) (hB : Safe dB fs) :
    (∀ p ∈ (runStagers fs dA dB msA msB sched).a.log, dA <:+ p ∧ ¬ dB <:+ p) ∧
    (∀ p ∈ (runStagers fs dA dB msA msB sched).b.log, dB <:+ p ∧ ¬ dA <:+ p) ∧
    (∀ q, ¬ dA <:+ q → ¬ dB <:+ q → (runStagers fs dA dB msA msB sched).fs.get q = fs.get q) ∧
    Safe dA (runStagers fs dA dB msA msB sched).fs ∧ Safe dB (runStagers fs dA dB msA msB sched).fs := by
  obtain ⟨_, _, ⟨hla, hlb⟩, hframe, hsA, hsB⟩ := wgood_finish hap (runStagers_good fs dA dB msA msB sched hap hA hB)
  exact ⟨fun p hp => ⟨hla p hp, apart_under hap (hla p hp)⟩,
    fun p hp => ⟨hlb p hp, apart_under (apart_symm hap) (hlb p hp)⟩, hframe, hsA, hsB⟩

/-- **stager_receives_own_members**: under *every* schedule each component ends with exactly what staging its
own archive ALONE gives — the same answer, the same log, the same members left (none), and a working directory
that holds, location by location, what the solo extraction puts there: nothing of the other component's archive,
nothing of its own missing.  (`(Stager.init d ms).drain fs` is the extraction of `ms` into `d` with nobody else
around.)  Extraction is local to the working directory (`Lemmas/C18StagersLocal.lean`: `extractOne_local`). -/
theorem stager_receives_own_members (fs : Fs) (dA dB : Path) (msA msB : List Member) (sched : List Bool)
    (hap : Apart dA dB) (hA : Safe dA fs) (hB : Safe dB fs) :
    (runStagers fs dA dB msA msB sched).a = ((Stager.init dA msA).drain fs).2 ∧
    (∀ p, dA <:+ p → (runStagers fs dA dB msA msB sched).fs.get p = ((Stager.init dA msA).drain fs).1.get p) ∧
    (runStagers fs dA dB msA msB sched).b = ((Stager.init dB msB).drain fs).2 ∧
    (∀ p, dB <:+ p → (runStagers fs dA dB msA msB sched).fs.get p = ((Stager.init dB msB).drain fs).1.get p) := by
  obtain ⟨⟨ha1, ha2⟩, ⟨hb1, hb2⟩, _⟩ := wgood_finish hap (runStagers_good fs dA dB msA msB sched hap hA hB)
  exact ⟨ha1, ha2, hb1, hb2⟩

/-- in particular the result does not depend on the schedule -/
theorem stagers_schedule_independent (fs : Fs) (dA dB : Path) (msA msB : List Member) (s1 s2 : List Bool)
    (hap : Apart dA dB) (hA : Safe dA fs) (hB : Safe dB fs) :
    (runStagers fs dA dB msA msB s1).a = (runStagers fs dA dB msA msB s2).a ∧
    (runStagers fs dA dB msA msB s1).b = (runStagers fs dA dB msA msB s2).b ∧
    (∀ p, dA <:+ p ∨ dB <:+ p →
      (runStagers fs dA dB msA msB s1).fs.get p = (runStagers fs dA dB msA msB s2).fs.get p) := by
  obtain ⟨a1, f1, b1, g1⟩ := stager_receives_own_members fs dA dB msA msB s1 hap hA hB
  obtain ⟨a2, f2, b2, g2⟩ := stager_receives_own_members fs dA dB msA msB s2 hap hA hB
  refine ⟨a1.trans a2.symm, b1.trans b2.symm, ?_⟩
  intro p hp
  rcases hp with hp | hp
  · exact (f1 p hp).trans (f2 p hp).symm
  · exact (g1 p hp).trans (g2 p hp).symm

/-- an offending archive is rejected before anything is touched, also when another component is staging at the
same time: under every schedule the stager of a rejected archive ends with the answer `rejected` and an empty
log (and, by `stagers_confined`, the other stager's log lies in its own directory) -/
theorem stager_rejected_touches_nothing (fs : Fs) (dA dB : Path) (msA msB : List Member) (sched : List Bool)
    (h : checkFixed dA msA = false) :
    (runStagers fs dA dB msA msB sched).a.log = [] ∧
    (runStagers fs dA dB msA msB sched).a.res = some Err.rejected := by
  have hinit : Stager.init dA msA = { dest := dA, todo := [], log := [], res := some Err.rejected } :=
    if_neg (h ▸ Bool.false_ne_true)
  -- a stager with nothing to do is left alone by every step of the world and by the final drain
  have hw : (sched.foldl World.step { fs := fs, a := Stager.init dA msA, b := Stager.init dB msB }).a =
      Stager.init dA msA := by
    refine List.foldlRecOn (motive := fun w => w.a = Stager.init dA msA) sched World.step (b := ⟨fs, _, _⟩) rfl
      fun w hw x _ => ?_
    rw [World.step_eq]
    cases x with
    | true => exact hw
    | false => show (w.a.step w.fs).2 = _; rw [hw, hinit]; rfl
  unfold runStagers
  rw [World.finish_eq]
  show ((_ : Stager).drain _).2.log = [] ∧ ((_ : Stager).drain _).2.res = _
  rw [hw, hinit]
  exact ⟨rfl, rfl⟩

/-! ### the hypotheses are satisfiable and the statements are not vacuous -/

/-- sandbox used in the examples: `/i/w` is the working directory, `/o` is outside -/
def exFs : Fs := [([['w'], ['i']], Node.dir), ([['i']], Node.dir), ([['o']], Node.dir), ([['v'], ['o']], Node.file [['v'], ['o']])]
def exDest : Path := [['w'], ['i']]

/-- every node is a directory or a regular file with its own name only: `Safe` for every directory -/
private theorem safe_of_plain (d : Path) :
    ∀ fs : Fs, (∀ pn ∈ fs, pn.2 = Node.dir ∨ pn.2 = Node.file pn.1) → Safe d fs
  | [], _ => nofun
  | (q, m) :: r, hpl => by
    intro p n hp hget
    simp only [Fs.get] at hget
    split at hget
    · next heq =>
      cases hget
      subst heq
      rcases hpl (q, m) (List.mem_cons_self ..) with h | h
      · obtain rfl : m = Node.dir := h
        trivial
      · obtain rfl : m = Node.file q := h
        exact hp
    · exact safe_of_plain d r (fun pn h => hpl pn (List.mem_cons_of_mem _ h)) p n hp hget

example : Safe exDest exFs := safe_of_plain _ _ (by decide)

/-- an archive with a directory, a nested file, a descending symlink, a file written *through* that symlink
and a hard link is accepted by the repaired check and extracted (7 locations touched, no error) -/
example :
    let ms := [Member.dir ⟨false, [Seg.name ['d']]⟩, Member.file ⟨false, [Seg.name ['d'], Seg.name ['x']]⟩,
               Member.sym ⟨false, [Seg.name ['l']]⟩ ⟨false, [Seg.name ['d']]⟩,
               Member.file ⟨false, [Seg.name ['l'], Seg.name ['y']]⟩,
               Member.hard ⟨false, [Seg.name ['h']]⟩ ⟨false, [Seg.name ['d'], Seg.name ['x']]⟩,
               Member.file ⟨false, [Seg.name ['h']]⟩]
    checkFixed exDest ms = true ∧ (stageExtractFixed exDest ⟨exFs, []⟩ ms).2 = none ∧
    (stageExtractFixed exDest ⟨exFs, []⟩ ms).1.log.length = 7 ∧
    (stageExtractFixed exDest ⟨exFs, []⟩ ms).1.fs.get [['y'], ['d'], ['w'], ['i']] = some (Node.file [['y'], ['d'], ['w'], ['i']]) := by
  decide +kernel

/-- links placed through earlier links, a hard link to an earlier link: with descending targets such a chain
is accepted by both checks and extracted — `l -> d`, `l/m -> e` is created as `d/m`, `l/m/y` lands in `d/e/y`,
`h` becomes a second name of the link `d/m` -/
example :
    let ms := [Member.dir ⟨false, [Seg.name ['d'], Seg.name ['e']]⟩,
               Member.sym ⟨false, [Seg.name ['l']]⟩ ⟨false, [Seg.name ['d']]⟩,
               Member.sym ⟨false, [Seg.name ['l'], Seg.name ['m']]⟩ ⟨false, [Seg.name ['e']]⟩,
               Member.file ⟨false, [Seg.name ['l'], Seg.name ['m'], Seg.name ['y']]⟩,
               Member.hard ⟨false, [Seg.name ['h']]⟩ ⟨false, [Seg.name ['l'], Seg.name ['m']]⟩]
    checkFixed exDest ms = true ∧ checkNormpath exDest ms = true ∧ ms.all linkTargetDescending = true ∧
    (stageExtractNormpath exDest ⟨exFs, []⟩ ms).2 = none ∧
    (stageExtractNormpath exDest ⟨exFs, []⟩ ms).1.fs.get [['m'], ['d'], ['w'], ['i']] = some (Node.link false [Seg.name ['e']]) ∧
    (stageExtractNormpath exDest ⟨exFs, []⟩ ms).1.fs.get [['y'], ['e'], ['d'], ['w'], ['i']] =
      some (Node.file [['y'], ['e'], ['d'], ['w'], ['i']]) ∧
    (stageExtractNormpath exDest ⟨exFs, []⟩ ms).1.fs.get [['h'], ['w'], ['i']] = some (Node.link false [Seg.name ['e']]) := by
  decide +kernel

/-- the two checks really differ: `lib/x -> ../lib64/x` is textually confined and refused by the repaired check -/
example :
    let ms := [Member.sym ⟨false, [Seg.name ['l'], Seg.name ['x']]⟩ ⟨false, [Seg.up, Seg.name ['k'], Seg.name ['x']]⟩]
    checkNormpath exDest ms = true ∧ checkFixed exDest ms = false ∧ ms.all linkTargetDescending = false := by
  decide +kernel

/-- parsing of names as they appear in archives -/
example : parsePath ['.', '.', '/', 'e'] = ⟨false, [Seg.up, Seg.name ['e']]⟩ := by decide
example : parsePath ['/', 'a', '/', '/', '.', '/', 'b', '/'] = ⟨true, [Seg.name ['a'], Seg.name ['b']]⟩ := by decide +kernel

/-- the hypotheses of `manifest_confined` hold in the sandbox, and a manifest with a nested copy key and a
link key is deployed (with `conf/flowir_package.yaml`) -/
example : (∀ q, q <:+ exDest → q ≠ [] → exFs.get q ≠ none) := by
  intro q hq hne
  have : q = exDest ∨ q = [['i']] ∨ q = [] := by
    simp only [exDest] at hq ⊢
    rcases List.suffix_cons_iff.mp hq with h | h
    · exact Or.inl h
    · rcases List.suffix_cons_iff.mp h with h | h
      · exact Or.inr (Or.inl h)
      · exact Or.inr (Or.inr (List.suffix_nil.mp h))
  rcases this with rfl | rfl | rfl
  · decide +kernel
  · decide +kernel
  · exact absurd rfl hne

example :
    let es := [Entry.mk ⟨false, [Seg.name ['a'], Seg.name ['b']]⟩ [Seg.name ['o']] Method.copy,
               Entry.mk ⟨false, [Seg.name ['k']]⟩ [Seg.name ['o']] Method.link]
    (loadAndDeploy true exDest ⟨exFs, []⟩ es false).2 = none ∧
    (loadAndDeploy true exDest ⟨exFs, []⟩ es false).1.log.length = 6 := by
  decide +kernel

/-! ### alias keys, histories and two stagers: the statements are not vacuous -/

def kS : S := ['k']
def kSlash : S := ['k', '/']
def kDotSlash : S := ['.', '/', 'k']
def kSlashDot : S := ['k', '/', '.']

/-- the five spellings are one entry -/
example : (parsePath kS, parsePath kSlash, parsePath kDotSlash, parsePath kSlashDot, parsePath ['k', '/', '/']) =
    (⟨false, [Seg.name ['k']]⟩, ⟨false, [Seg.name ['k']]⟩, ⟨false, [Seg.name ['k']]⟩, ⟨false, [Seg.name ['k']]⟩,
     ⟨false, [Seg.name ['k']]⟩) := by decide +kernel

/-- `k` linked to `/o`, then a copy entry for the same entry in each spelling: the link is created, the copy
entry is answered with an error, only the link was touched, `/o` holds what it held -/
example : ∀ k ∈ [kSlash, kDotSlash, kSlashDot, ['k', '/', '/'], ['.', '/', 'k', '/']],
    let es := [KEntry.mk kS [Seg.name ['o']] Method.link, KEntry.mk k [Seg.name ['o']] Method.copy]
    validateK true es = true ∧
    (loadAndDeployK true exDest ⟨exFs, []⟩ es).2 ≠ none ∧
    (loadAndDeployK true exDest ⟨exFs, []⟩ es).1.log = [[['k'], ['w'], ['i']]] ∧
    (loadAndDeployK true exDest ⟨exFs, []⟩ es).1.fs.get [['f'], ['o']] = none := by decide +kernel

/-- spellings of a key whose entry does not exist yet are deployed like the plain key (copy), a link entry with
a trailing separator or a final `.` is an error -/
example :
    (deployOneK true exDest ⟨exFs, []⟩ ⟨kSlash, [Seg.name ['o']], Method.copy⟩).2 = none ∧
    (deployOneK true exDest ⟨exFs, []⟩ ⟨kSlashDot, [Seg.name ['o']], Method.copy⟩).2 = none ∧
    (deployOneK true exDest ⟨exFs, []⟩ ⟨kDotSlash, [Seg.name ['o']], Method.link⟩).2 = none ∧
    (deployOneK true exDest ⟨exFs, []⟩ ⟨kSlash, [Seg.name ['o']], Method.link⟩).2 = some Err.os ∧
    (deployOneK true exDest ⟨exFs, []⟩ ⟨kSlash, [Seg.name ['o']], Method.link⟩).1.log = [] ∧
    (deployOneK true exDest ⟨exFs, []⟩ ⟨kSlashDot, [Seg.name ['o']], Method.link⟩).2 = some Err.os ∧
    (deployOneK true exDest ⟨exFs, []⟩ ⟨kSlashDot, [Seg.name ['o']], Method.link⟩).1.log = [] := by
  decide +kernel

/-- a history: the instance is deployed with `k` linked to `/o`, then again after the manifest changed to
`k: …:copy` (first entry of the new manifest): the second deployment is answered with an error and `/o` is as
it was; a third deployment with a key nested under the old link is rejected -/
example :
    let d1 : Deployment := ⟨[⟨kS, [Seg.name ['o']], Method.link⟩], true⟩
    let d2 : Deployment := ⟨[⟨kS, [Seg.name ['o']], Method.copy⟩], true⟩
    let d3 : Deployment := ⟨[⟨['k', '/', 'x'], [Seg.name ['o']], Method.copy⟩], false⟩
    (deployHistory true exDest ⟨exFs, []⟩ [d1, d2, d3]).2 = [none, some Err.os, some Err.rejected] ∧
    (deployHistory true exDest ⟨exFs, []⟩ [d1, d2, d3]).1.fs.get [['f'], ['o']] = none ∧
    (deployHistory true exDest ⟨exFs, []⟩ [d1, d2, d3]).1.fs.get [['x'], ['o']] = none := by decide +kernel

/-- a second working directory `/i/u` next to `/i/w` -/
def exFs2 : Fs := ([['u'], ['i']], Node.dir) :: exFs
def exDest2 : Path := [['u'], ['i']]

example : Apart exDest exDest2 ∧ Safe exDest exFs2 ∧ Safe exDest2 exFs2 :=
  ⟨⟨by decide +kernel, by decide +kernel⟩, safe_of_plain _ _ (by decide +kernel), safe_of_plain _ _ (by decide +kernel)⟩

/-- two archives with the SAME member names, extracted under three schedules (alternating, first stager first,
second stager in the middle of the first): each stager logs its own directory only, each directory receives both
members, nothing else changes, no error -/
example : ∀ sched ∈ [[false, true, false, true], [], [false, true, true, false]],
    let ms := [Member.file ⟨false, [Seg.name ['x']]⟩, Member.file ⟨false, [Seg.name ['d'], Seg.name ['y']]⟩]
    let w := runStagers exFs2 exDest exDest2 ms ms sched
    w.a.res = none ∧ w.b.res = none ∧ w.a.todo = [] ∧ w.b.todo = [] ∧
    w.a.log.all (under exDest) = true ∧ w.b.log.all (under exDest2) = true ∧
    w.a.log.length = 3 ∧ w.b.log.length = 3 ∧
    w.fs.get [['y'], ['d'], ['w'], ['i']] = some (Node.file [['y'], ['d'], ['w'], ['i']]) ∧
    w.fs.get [['y'], ['d'], ['u'], ['i']] = some (Node.file [['y'], ['d'], ['u'], ['i']]) ∧
    w.fs.get [['x'], ['i']] = none := by decide +kernel

/-- an archive aimed at the other component's directory (`../u/x`) is rejected while the other one is extracted -/
example :
    let w := runStagers exFs2 exDest exDest2 [Member.file ⟨false, [Seg.up, Seg.name ['u'], Seg.name ['x']]⟩]
      [Member.file ⟨false, [Seg.name ['x']]⟩] [true, false]
    w.a.res = some Err.rejected ∧ w.a.log = [] ∧ w.b.res = none ∧ w.b.log = [[['x'], ['u'], ['i']]] := by decide +kernel

end St4sd.C18
