import St4sd.Model.CtrlSplit
/-!
# C02 — machine-checked counterexample to the full-strength confluence statement

Workflow (single stage): `c0 → c1 → c2` where `c1` has `shutdownOn = [KnownIssue]` and its task exits
with `KnownIssue`, and `c2` is a *repeating observer* of `c1` (same stage).  No task exits
unrecoverably.  The documented rules give `[finished, shutdown, shutdown]`.

* History `late`: `c1` has ended (shut down) before the scheduler pass that looks at `c2` → `c2` is
  shut down without running; `run()` raises `FinalStageNoFinishedLeafComponents`.
* History `early`: a scheduler pass runs while `c1` is still running → `c2` is launched (the
  repeating exception of C01), later finishes on its own → `[finished, shutdown, finished]`,
  `run()` returns normally.

Both histories are quiescent.  The same two schedules are replayed on the real Controller by
`harness/c02.py` (first corpus entry; known finding `C02-observer-of-shutdown-producer`).
-/
namespace St4sd.C02W
open St4sd.Ctrl

def wfW : Wf :=
  { n := 3
    cdef := fun i => match i with
      | 0 => {}
      | 1 => { preds := [0], shutdownOn := [.knownIssue], script := [.knownIssue] }
      | 2 => { preds := [1], isRepeat := true, script := [.success] }
      | _ => {}
    order := [0, 1, 2] }

def late : List Op :=
  [.sched, .sched, .exit 0, .pm 0, .fin 0, .sched, .exit 1, .pm 1, .sched, .fin 2, .fin 1]

def early : List Op :=
  [.sched, .sched, .exit 0, .pm 0, .fin 0, .sched, .sched, .exit 1, .pm 1, .fin 1, .exit 2, .pm 2, .fin 2]

/-- no component can fail: every rule-given state and every own outcome is finished or shutdown -/
theorem no_unrecoverable_exit :
    (List.range 3).all (fun c => spec wfW c != .failed && own wfW c != .failed) = true := by decide

theorem rules_say : (List.range 3).map (spec wfW) = [.finished, .shutdown, .shutdown] := by decide

theorem late_quiescent : quiescent wfW (run wfW late) = true := by decide +kernel
theorem early_quiescent : quiescent wfW (run wfW early) = true := by decide +kernel

theorem late_final :
    (List.range 3).map (fun c => ((run wfW late).comp c).ctrl) =
      [some .finished, some .shutdown, some .shutdown] := by decide +kernel

theorem early_final :
    (List.range 3).map (fun c => ((run wfW early).comp c).ctrl) =
      [some .finished, some .shutdown, some .finished] := by decide +kernel

/-- Negation of `confluent_without_failure_partial` with its excluding hypothesis dropped, at a concrete input: two
quiescent histories of the same workflow and exit scripts, without any unrecoverable exit, end with
different final states for `c2` (and one of them differs from the rules). -/
theorem not_confluent :
    quiescent wfW (run wfW late) = true ∧ quiescent wfW (run wfW early) = true ∧
    ((run wfW late).comp 2).ctrl ≠ ((run wfW early).comp 2).ctrl ∧
    ((run wfW early).comp 2).ctrl ≠ some (spec wfW 2) := by decide +kernel

/-- … and even what `run()` reports differs between the two orderings. -/
theorem verdict_depends_on_schedule :
    verdict wfW (run wfW late) = .noFinishedLeaf ∧ verdict wfW (run wfW early) = .ok := by decide +kernel

/-! ## the external stage-completion hook, before the repair `fixes/C02-completion-hook-unstaged.diff`

`c0 → c1` in one stage.  `c0` is running, `c1` waits for it (not staged in).  The package's `IsStageComplete`
hook returns `True`.  The closure of `_observe_completionCheck` used to call `_stopComponents` only
(`Ctrl.stopComponents`): `finish(SHUTDOWN)` on both.  `c0` is killed, ends SHUTDOWN and is recorded.  `c1`
becomes SHUTDOWN at once - but the controller never subscribed to it, so no notification ever reaches
`finishedCheck`, it is never added to `comp_done`, the scheduler skips it (its state is final) and the loop
of `Controller.run()` never ends.  (Rediscovered by the generator of `harness/c02.py` on the real Controller;
the schedule is its third corpus entry.) -/

def wfH : Wf :=
  { n := 2
    cdef := fun i => match i with
      | 0 => {}
      | 1 => { preds := [0] }
      | _ => {}
    order := [0, 1] }

/-- scheduler pass, the OLD hook, the killed task of `c0` exits, its notification is handled, two passes -/
def hookOld : St :=
  [Op.exit 0, .fin 0, .sched, .sched].foldl (step wfH) (stopComponents wfH (run wfH [.sched]) 0)

/-- nothing can happen any more (no live task, nothing queued, nothing to schedule), both components are
SHUTDOWN, and yet `c1` is not in `comp_done`: the stage loop does not terminate -/
theorem old_hook_strands_unstaged_component :
    quiescent wfH hookOld = true ∧
    (List.range 2).map (fun c => (hookOld.comp c).ctrl) = [some .shutdown, some .shutdown] ∧
    hookOld.done 0 = true ∧ hookOld.done 1 = false ∧ (hookOld.comp 1).staged = false ∧
    stageDone wfH hookOld = false := by decide +kernel

/-- the same history with the hook as it is now (`SOp.complete k` = `HOp.hook k` = `stopStage`): `c1` is
fake-finished, its notification reaches the controller and the stage completes -/
theorem repaired_hook_completes :
    let s := hrun wfH [.op .sched, .hook 0, .op (.exit 0), .op (.fin 0), .op (.fin 1), .op .sched]
    quiescent wfH s = true ∧ stageDone wfH s = true ∧
    (List.range 2).map (fun c => (s.comp c).ctrl) = [some .shutdown, some .shutdown] := by decide +kernel

end St4sd.C02W
