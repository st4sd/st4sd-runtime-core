import St4sd.Model.Weights
/-!
Facts about the definitions of `Model/Weights.lean` that the C20 theorems share: sums, the weighted
sum `wsumFrom`, the counters as library `count`s, one status check's `stageFactor` under the lock's
guarantees, and `modifyAt`.
-/
namespace St4sd.Weights

/-- `0 ≤ c ≤ n`: `c` parts of `D` cut into `n` (rounded down) stay within `[0, D]`; `n = 0` included. -/
theorem parts_bounds {c n D : Int} (hc : 0 ≤ c) (hcn : c ≤ n) (hD : 0 ≤ D) :
    0 ≤ c * (D / n) ∧ c * (D / n) ≤ D := by
  have hq : 0 ≤ D / n := Int.ediv_nonneg hD (Int.le_trans hc hcn)
  refine ⟨Int.mul_nonneg hc hq, Int.le_trans (Int.mul_le_mul_of_nonneg_right hcn hq) ?_⟩
  by_cases hn : n = 0
  · rw [hn, Int.zero_mul]; exact hD
  · exact Int.mul_ediv_self_le hn

theorem sum_append (a b : List Int) : sum (a ++ b) = sum a + sum b := by
  induction a with
  | nil => simp [sum]
  | cons x xs ih => simp only [List.cons_append, sum, ih, Int.add_assoc]

theorem sum_replicate (k : Nat) (x : Int) : sum (List.replicate k x) = (k : Int) * x := by
  induction k with
  | zero => simp [sum]
  | succ k ih => rw [List.replicate_succ, sum, ih, Int.natCast_succ, Int.add_mul, Int.one_mul, Int.add_comm]

theorem sum_perm {a b : List Int} (h : a.Perm b) : sum a = sum b := by
  induction h with
  | nil => rfl
  | cons x _ ih => simp only [sum, ih]
  | swap x y l => simp only [sum]; omega
  | trans _ _ ih1 ih2 => exact ih1.trans ih2

theorem allNonneg_iff (ws : List Int) : allNonneg ws = true ↔ ∀ x ∈ ws, 0 ≤ x := by
  induction ws with
  | nil => simp [allNonneg]
  | cons x xs ih => simp [allNonneg, ih]

theorem proper_iff (ws : List Int) :
    proper ws = true ↔ (∀ x ∈ ws, 0 ≤ x) ∧ sum ws - one < tol ∧ one - sum ws < tol := by
  simp only [proper, Bool.and_eq_true, decide_eq_true_eq, allNonneg_iff, and_assoc]

theorem readReport_map_some (n : Nat) (l : List Int) : readReport n (l.map some) = l := by
  induction l with
  | nil => rfl
  | cons x r ih => simp [readReport, ih]

/-! ### Weighted sums -/

theorem wsumFrom_mono {f g : Nat → Int} {ws : List Int} (hw : ∀ w ∈ ws, 0 ≤ w)
    (hfg : ∀ k, f k ≤ g k) (k : Nat) : wsumFrom f k ws ≤ wsumFrom g k ws := by
  induction ws generalizing k with
  | nil => exact Int.le_refl 0
  | cons w r ih =>
    exact Int.add_le_add (Int.mul_le_mul_of_nonneg_right (hfg k) (hw w List.mem_cons_self))
      (ih (fun x hx => hw x (List.mem_cons_of_mem _ hx)) (k + 1))

theorem wsumFrom_congr {f g : Nat → Int} {ws : List Int} {k : Nat}
    (h : ∀ j, k ≤ j → j < k + ws.length → f j = g j) : wsumFrom f k ws = wsumFrom g k ws := by
  induction ws generalizing k with
  | nil => rfl
  | cons w r ih =>
    rw [List.length_cons] at h
    rw [wsumFrom, wsumFrom, h k (Nat.le_refl k) (by omega), ih (fun j h1 h2 => h j (by omega) (by omega))]

theorem wsumFrom_const (c : Int) (ws : List Int) (k : Nat) : wsumFrom (fun _ => c) k ws = c * sum ws := by
  induction ws generalizing k with
  | nil => exact (Int.mul_zero c).symm
  | cons w r ih => rw [wsumFrom, sum, ih, Int.mul_add]

theorem wsumFrom_succ (f : Nat → Int) (k : Nat) (ws : List Int) :
    wsumFrom f (k + 1) ws = wsumFrom (fun j => f (j + 1)) k ws := by
  induction ws generalizing k with
  | nil => rfl
  | cons w r ih => rw [wsumFrom, wsumFrom, ih]

/-! ### The counters are library counts -/

theorem finishedCount_eq_count (s : List Bool) : finishedCount s = s.count true := by
  induction s with
  | nil => rfl
  | cons b r ih => cases b <;> simp [finishedCount, ih]

theorem succCount_eq_countP (s : List Comp) : succCount s = s.countP Comp.succeeded := by
  induction s with
  | nil => rfl
  | cons c r ih => rw [succCount, ih, List.countP_cons, Nat.add_comm]

theorem finishedCount_le (s : List Bool) : finishedCount s ≤ s.length :=
  finishedCount_eq_count s ▸ List.count_le_length

theorem succCount_le (s : List Comp) : succCount s ≤ s.length :=
  succCount_eq_countP s ▸ List.countP_le_length

/-! ### The common denominator and the two stage lists -/

/-- what `prodLen` and `prodLenC` share: a product of lengths is non-negative and every length divides it -/
theorem prod_of_lengths {α : Type} {P : List (List α) → Int} (h0 : P [] = 1)
    (hc : ∀ s r, P (s :: r) = (s.length : Int) * P r) (ss : List (List α)) :
    0 ≤ P ss ∧ ∀ s ∈ ss, (s.length : Int) ∣ P ss := by
  induction ss with
  | nil => exact ⟨h0 ▸ Int.one_nonneg, fun _ h => nomatch h⟩
  | cons t r ih =>
    rw [hc]
    refine ⟨Int.mul_nonneg (Int.natCast_nonneg _) ih.1, fun s hs => ?_⟩
    rcases List.mem_cons.mp hs with rfl | h
    · exact Int.dvd_mul_right _ _
    · exact Int.dvd_trans (ih.2 s h) (Int.dvd_mul_left _ _)

theorem prodLen_nonneg (ss : List (List Bool)) : 0 ≤ prodLen ss :=
  (prod_of_lengths rfl (fun _ _ => rfl) ss).1

theorem prodLenC_nonneg (ss : List (List Comp)) : 0 ≤ prodLenC ss :=
  (prod_of_lengths rfl (fun _ _ => rfl) ss).1

theorem len_dvd_prodLen {ss : List (List Bool)} {s : List Bool} (hs : s ∈ ss) : (s.length : Int) ∣ prodLen ss :=
  (prod_of_lengths rfl (fun _ _ => rfl) ss).2 s hs

theorem len_dvd_prodLenC {ss : List (List Comp)} {s : List Comp} (hs : s ∈ ss) : (s.length : Int) ∣ prodLenC ss :=
  (prod_of_lengths rfl (fun _ _ => rfl) ss).2 s hs

theorem mem_inTransitOf (ss : List (List Comp)) (k : Nat) :
    k ∈ inTransitOf ss ↔ k < ss.length ∧ hasActive (ss.getD k []) = true := by
  simp [inTransitOf, List.mem_filter, List.mem_range]

theorem mem_finishedOf (ss : List (List Comp)) (k : Nat) :
    k ∈ finishedOf ss ↔ k < ss.length ∧ hasActive (ss.getD k []) = false := by
  simp [finishedOf, List.mem_filter, List.mem_range]

/-! ### The factor of one stage in one status check -/

theorem stageFactor_eq (scale : Int) (cur : Nat) {transit finished : List Nat} (p : Nat → Int)
    (hd : ∀ k, k ∈ transit → k ∉ finished) (hnd : finished.Nodup) (k : Nat) :
    stageFactor scale cur transit finished p k =
      if k = cur ∨ k ∈ transit then p k else if k ∈ finished then scale else 0 := by
  -- no repetition: the finished list counts `k` once if `k` is finished and not current, else not at all
  rw [stageFactor, List.Nodup.count (hnd.filter _)]
  simp only [List.mem_filter, bne_iff_ne]
  by_cases hk : k = cur ∨ k ∈ transit
  · have : ¬(k ∈ finished ∧ k ≠ cur) := fun h => hk.elim h.2 fun ht => hd k ht h.1
    simp [hk, this]
  · have : (k ∈ finished ∧ k ≠ cur) ↔ k ∈ finished := and_iff_left_of_imp fun _ h => hk (Or.inl h)
    simp only [if_neg hk, this]
    split <;> simp

theorem stageFactor_consistent (scale : Int) (s : Snap) (hc : s.Consistent scale) (p : Nat → Int) (k : Nat) :
    stageFactor scale s.cur s.transit s.finished p k = if k = s.cur ∨ k ∈ s.transit then p k else s.prog k := by
  rw [stageFactor_eq scale s.cur p hc.disjoint hc.nodup]
  split
  · rfl
  · next hk =>
    split
    · next hf => exact (hc.fin_complete k hf).symm
    · next hf => exact (hc.idle_zero k (fun h => hk (Or.inr h)) hf).symm

/-! ### "observed ⇒ terminated" is kept by what happens to a component -/

theorem wfc_term (f : Final) (c : Comp) (h : c.seen = true → c.st.isSome = true) :
    (Comp.term f c).seen = true → (Comp.term f c).st.isSome = true := by
  unfold Comp.term; split <;> simp_all

theorem wfc_see (c : Comp) (h : c.seen = true → c.st.isSome = true) :
    (Comp.see c).seen = true → (Comp.see c).st.isSome = true := by
  unfold Comp.see; split <;> simp_all

theorem wfc_stop (c : Comp) :
    (Comp.stop c).seen = true → (Comp.stop c).st.isSome = true := by
  unfold Comp.stop; split <;> simp_all


theorem forall_mem_modifyAt {α : Type} {P : α → Prop} {f : α → α} (hf : ∀ a, P a → P (f a))
    {l : List α} (h : ∀ a ∈ l, P a) (i : Nat) : ∀ a ∈ modifyAt f l i, P a := by
  induction l generalizing i with
  | nil => exact h
  | cons x r ih =>
    have hx := h x List.mem_cons_self
    have hr := fun a ha => h a (List.mem_cons_of_mem _ ha)
    cases i with
    | zero => exact List.forall_mem_cons.mpr ⟨hf x hx, hr⟩
    | succ i => exact List.forall_mem_cons.mpr ⟨hx, ih hr i⟩

end St4sd.Weights
