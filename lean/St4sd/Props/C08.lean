import St4sd.Model.CacheViews
import St4sd.Model.CacheAmbient
import St4sd.Lemmas.C04Tree
import St4sd.Lemmas.C04ValEq
/-!
# C08 — Configuration queries always reflect the latest updates

Model: `Model/Cache.lean` (state = description + cache, `step`, `run`), resolver = C04's `resolve` /
`resolveF`.  Operations: the 11 mutators, the fully resolved `query`, `queryF` (any combination of the keyword
arguments), `read` (copying accessors whose answer is not modelled: `instance()`, `replicate()`, `raw()`,
getters), `touchComp` / `touchVars` (reference getters without a write).
The invalidation modelled is the repaired one (component name taken literally,
`fixes/C08-cache-regex-escape.diff`); the unrepaired interpretation of the name as a regular expression
is refuted in `Witness/C08.lean`.

Second layer (`Model/CacheViews.lean`): the views of a component on an experiment graph
(`ComponentSpecification`, the node accessors, `WorkflowGraph.*ForNode`, `FlowIRExperimentConfiguration.*ForNode`,
`data.Job`, `FlowIRConcrete`) are projections of the one query, updates through any of them are the same update
of the one description (`all_views_agree`, `entry_point_irrelevant`).  Ambient settings (`Model/CacheAmbient.lean`):
the read-only calls a verbosely configured process makes around every call change no answer (`logging_is_invisible`).

The clause "a returned configuration is a private copy" is about aliasing of Python objects, which a pure
model cannot express: it is decided by the correspondence only (harness/c08.py mutates every returned
dictionary in place and re-queries).
-/
namespace St4sd.C08
open St4sd.Str St4sd.Tree

/-- every cached entry is what resolving the *current* description gives -/
def Inv (fuel : Nat) (s : St) : Prop :=
  ∀ l v, (l, v) ∈ s.cache → resolve s.desc l.platform l.stage l.name false fuel = .ok v

/-- the component-level mutators (and the reference getter of a component): each one invalidates the component it
addresses -/
def editTarget : Op → Option (Nat × S)
  | .setVar i n _ _ => some (i, n)
  | .delVar i n _ => some (i, n)
  | .setOption i n _ _ => some (i, n)
  | .removeOption i n _ => some (i, n)
  | .updateComp i n _ => some (i, n)
  | .deleteComp i n => some (i, n)
  | .touchComp i n => some (i, n)
  | _ => none

private theorem findComp_modComp (f : Fields → Fields) (i : Nat) (n : S) (i' : Nat) (n' : S) : ∀ cs,
    findComp (modComp f i n cs) i' n' =
      if i' = i ∧ n' = n then (findComp cs i n).map fun c => { c with body := f c.body } else findComp cs i' n' := by
  intro cs
  induction cs with
  | nil => simp [modComp, findComp]
  | cons c r ih => grind [modComp, findComp]

private theorem findComp_delComp (i : Nat) (n : S) (i' : Nat) (n' : S) (hne : ¬(i' = i ∧ n' = n)) : ∀ cs,
    findComp (delComp i n cs) i' n' = findComp cs i' n' := by
  intro cs
  induction cs with
  | nil => rfl
  | cons c r ih => grind [delComp, findComp]

private theorem findComp_append (c : Comp) (i' : Nat) (n' : S) : ∀ cs,
    findComp (cs ++ [c]) i' n' = (findComp cs i' n').or (if c.stage = i' ∧ c.name = n' then some c else none) := by
  intro cs
  induction cs with
  | nil => rfl
  | cons x r ih =>
    simp only [List.cons_append, findComp, ih]
    split <;> rfl

/-- `d'` differs from `d` at most in the component registered under `(i, n)` -/
structure SameExcept (d d' : Desc) (i : Nat) (n : S) : Prop where
  platforms : d'.platforms = d.platforms
  blueprint : d'.blueprint = d.blueprint
  variables : d'.variables = d.variables
  others : ∀ i' n', ¬(i' = i ∧ n' = n) → findComp d'.comps i' n' = findComp d.comps i' n'

private theorem same_add (d : Desc) (i : Nat) (n : S) (b : Fields) :
    SameExcept d (setComps d (d.comps ++ [⟨i, n, b⟩])) i n :=
  ⟨rfl, rfl, rfl, fun i' n' h => by
    simp only [setComps, findComp_append, if_neg fun e : i = i' ∧ n = n' => h ⟨e.1.symm, e.2.symm⟩, Option.or_none]⟩

private theorem resolve_frame (d d' : Desc) (i : Nat) (n : S) (h : SameExcept d d' i n) (P : S) (i' : Nat) (n' : S)
    (hne : ¬(i' = i ∧ n' = n)) (prim : Bool) (fuel : Nat) :
    resolve d' P i' n' prim fuel = resolve d P i' n' prim fuel := by
  simp only [resolve, h.others i' n' hne, resolveComp, resolveCompF_congr h.platforms h.blueprint h.variables]

private theorem isInfix_iff (p : S) : ∀ t : S, isInfix p t = true ↔ p <:+: t := by
  intro t
  induction t with
  | nil => simp [isInfix]
  | cons c s ih => simp [isInfix, List.infix_cons_iff, ih]

/-- **invalidates_iff_label_matches**: what the pattern `component:.*:stage<i>:<name>` (name literal, `match` = anchored
at the start only) accepts, spelled out on the text of the label after `component:`: ANY characters, then
`:stage<i>:<name>`, then any characters.  The platform part is unconstrained - dashes, dots, blanks, colons,
metacharacters, non-ASCII are all "any characters".

FlowIR accepts any string as a platform name (`openshift-kubeflux`, `lsf.cluster`, `docker/local`, names made of
regular-expression metacharacters, blanks, colons, …).  `Label.platform`, the `P` of `Op.query` and every `P` below
range over ALL strings `S = List Char`: nothing here is restricted to "word" names. -/
theorem invalidates_iff_label_matches (i : Nat) (n : S) (l : Label) :
    invalidates i n l = true ↔ ∃ a b : S, labelTail l = a ++ stageTag i n ++ b :=
  (isInfix_iff _ _).trans ⟨fun ⟨a, b, h⟩ => ⟨a, b, h.symm⟩, fun ⟨a, b, h⟩ => ⟨a, b, h.symm⟩⟩

/-- the repaired pattern always matches the labels of the component itself, on every platform -/
theorem invalidates_self (i : Nat) (n P : S) : invalidates i n ⟨P, i, n⟩ = true :=
  (invalidates_iff_label_matches i n _).2 ⟨P, [], (List.append_nil _).symm⟩

private theorem mem_invalidate (i : Nat) (n : S) (cache : List (Label × Val)) (e : Label × Val)
    (h : e ∈ invalidate i n cache) : e ∈ cache ∧ ¬(e.1.stage = i ∧ e.1.name = n) := by
  obtain ⟨⟨P, i', n'⟩, v⟩ := e
  simp only [invalidate, List.mem_filter] at h
  refine ⟨h.1, ?_⟩
  rintro ⟨rfl, rfl⟩
  simp [invalidates_self] at h

private theorem cacheGet_mem (cache : List (Label × Val)) (x : Label) (v : Val) (h : cacheGet cache x = some v) :
    (x, v) ∈ cache := by
  induction cache with
  | nil => cases h
  | cons e r ih =>
    obtain ⟨⟨P, i, n⟩, w⟩ := e
    obtain ⟨P', i', n'⟩ := x
    grind [cacheGet, sameLabel]

private theorem cacheGet_invalidate (i : Nat) (n P : S) (cache : List (Label × Val)) :
    cacheGet (invalidate i n cache) ⟨P, i, n⟩ = none := by
  cases h : cacheGet (invalidate i n cache) ⟨P, i, n⟩ with
  | none => rfl
  | some v => exact absurd ⟨rfl, rfl⟩ (mem_invalidate i n cache _ (cacheGet_mem _ _ _ h)).2

theorem inv_init (fuel : Nat) (d : Desc) : Inv fuel (init d) := by
  intro l v h; cases h

private theorem inv_of_frame (fuel : Nat) (s s' : St) (i : Nat) (n : S) (hinv : Inv fuel s)
    (hd : SameExcept s.desc s'.desc i n)
    (hc : ∀ e ∈ s'.cache, e ∈ s.cache ∧ ¬(e.1.stage = i ∧ e.1.name = n)) : Inv fuel s' := by
  intro l v hm
  obtain ⟨h1, h2⟩ := hc (l, v) hm
  rw [resolve_frame s.desc s'.desc i n hd _ _ _ h2]
  exact hinv l v h1

private theorem step_edit_absent (fuel : Nat) (s : St) (op : Op) (i : Nat) (n : S) (ht : editTarget op = some (i, n))
    (hc : findComp s.desc.comps i n = none) : (step fuel s op).1 = s := by
  cases op <;> simp only [editTarget, Option.some.injEq, Prod.mk.injEq, reduceCtorEq] at ht <;>
    obtain ⟨rfl, rfl⟩ := ht <;> simp only [step, hc]

private theorem step_edit (fuel : Nat) (s : St) (op : Op) (i : Nat) (n : S) (c : Comp) (ht : editTarget op = some (i, n))
    (hc : findComp s.desc.comps i n = some c) :
    ∃ d', (step fuel s op).1 = ⟨d', invalidate i n s.cache⟩ ∧ SameExcept s.desc d' i n := by
  -- the seven calls `editTarget` names, each through its branches of `step` (a variable or an option, present or
  -- not, its section well-formed or not): every one leaves `invalidate i n` of the cache, and of the description
  -- `modComp` / `delComp` at `(i, n)` or the description itself
  cases op <;> simp only [editTarget, Option.some.injEq, Prod.mk.injEq, reduceCtorEq] at ht <;>
    obtain ⟨rfl, rfl⟩ := ht <;> simp only [step, hc] <;> (repeat' split) <;>
    exact ⟨_, rfl, rfl, rfl, rfl, fun _ _ h => by simp only [setComps, findComp_modComp, findComp_delComp _ _ _ _ h, if_neg h]⟩

private theorem queryStep_spec (fuel : Nat) (s : St) (hinv : Inv fuel s) (i : Nat) (n P : S) :
    Inv fuel (queryStep fuel s i n P).1 ∧ (queryStep fuel s i n P).2 = resolve s.desc P i n false fuel := by
  simp only [queryStep]
  split
  · next v h => exact ⟨hinv, (hinv _ _ (cacheGet_mem _ _ _ h)).symm⟩
  · split
    · next v h =>
      refine ⟨fun l w hm => ?_, h.symm⟩
      rcases List.mem_cons.1 hm with e | hm
      · cases e; exact h
      · exact hinv l w hm
    · next e h => exact ⟨hinv, h.symm⟩

private theorem queryStep_desc (fuel : Nat) (s : St) (i : Nat) (n P : S) :
    (queryStep fuel s i n P).1.desc = s.desc := by
  simp only [queryStep]
  split
  · rfl
  · split <;> rfl

/-- **cache_coherent** (step): every operation of the interface preserves "each cached entry equals the
resolution of the current description". -/
theorem step_preserves (fuel : Nat) (s : St) (op : Op) (hinv : Inv fuel s) : Inv fuel (step fuel s op).1 := by
  cases ht : editTarget op with
  | some t =>
    cases hc : findComp s.desc.comps t.1 t.2 with
    | none => rw [step_edit_absent fuel s op _ _ ht hc]; exact hinv
    | some c =>
      obtain ⟨d', hs, hd⟩ := step_edit fuel s op _ _ c ht hc
      rw [hs]
      exact inv_of_frame fuel s _ _ _ hinv hd (mem_invalidate _ _ s.cache)
  | none =>
    cases op <;> simp only [editTarget, reduceCtorEq] at ht
    case setGlobalVar | touchVars => exact inv_init fuel _
    case setStageVar | setPlatGlobalVar | setPlatStageVar =>
      simp only [step]
      split
      · exact hinv
      · exact inv_init fuel _
    case addComp i n body =>
      simp only [step]
      split
      · exact hinv
      · next hnone =>
        -- a coherent cache holds no entry of a component that does not exist
        refine inv_of_frame fuel s _ i n hinv (same_add _ i n body) fun e he => ⟨he, ?_⟩
        rintro ⟨h1, h2⟩
        have := hinv e.1 e.2 he
        simp [resolve, h1, h2, hnone] at this
    case query i n P => exact (queryStep_spec fuel s hinv i n P).1
    case queryF i n P f =>
      simp only [step]
      split
      · exact (queryStep_spec fuel s hinv i n P).1
      · exact hinv
    case read => exact hinv

private theorem run_induction (fuel : Nat) (p : St → Prop) : ∀ (ops : List Op) (s : St), p s →
    (∀ s, ∀ op ∈ ops, p s → p (step fuel s op).1) → p (run fuel s ops).1 := by
  intro ops
  induction ops with
  | nil => intro s h _; exact h
  | cons op r ih =>
    intro s h hstep
    exact ih _ (hstep s op (.head _) h) fun s o ho => hstep s o (.tail _ ho)

/-- **cache_coherent**: after ANY finite history of mutator and query calls the cache is coherent. -/
theorem cache_coherent (fuel : Nat) : ∀ (ops : List Op) (s : St), Inv fuel s → Inv fuel (run fuel s ops).1 :=
  fun ops s h => run_induction fuel (Inv fuel) ops s h fun s op _ => step_preserves fuel s op

/-- **query_fresh**: in a coherent state a query answers exactly what resolving the current description
from scratch gives (hit or miss), … -/
theorem query_fresh_step (fuel : Nat) (s : St) (hinv : Inv fuel s) (i : Nat) (n P : S) :
    (step fuel s (.query i n P)).2 = resolve s.desc P i n false fuel :=
  (queryStep_spec fuel s hinv i n P).2

/-- … hence after any history that starts from an empty cache. -/
theorem query_fresh (fuel : Nat) (d : Desc) (ops : List Op) (i : Nat) (n P : S) :
    let s := (run fuel (init d) ops).1
    (step fuel s (.query i n P)).2 = resolve s.desc P i n false fuel :=
  query_fresh_step fuel _ (cache_coherent fuel ops _ (inv_init fuel d)) i n P

theorem query_keeps_description (fuel : Nat) (s : St) (i : Nat) (n P : S) :
    (step fuel s (.query i n P)).1.desc = s.desc :=
  queryStep_desc fuel s i n P

/-- A query with ANY combination of `raw`, `include_default`, `is_primitive`,
`inject_missing_fields` answers what that variant computes from scratch from the current description
(only the fully resolved one can be a cache hit). -/
theorem queryF_fresh_step (fuel : Nat) (s : St) (hinv : Inv fuel s) (i : Nat) (n P : S) (f : Flags) :
    (step fuel s (.queryF i n P f)).2 = resolveF s.desc P i n f fuel := by
  simp only [step]
  split
  · next hfull =>
    -- the fully resolved variant is the observed call `Flags.std false`
    obtain ⟨_ | _, _ | _, _ | _, _ | _⟩ := f <;> cases hfull
    exact (queryStep_spec fuel s hinv i n P).2
  · rfl

/-- **readonly_keeps_description**: queries of every variant, the copying accessors (`instance()`,
`replicate()`, `raw()`, getters) and the reference getters without a write never change the description. -/
theorem readonly_keeps_description (fuel : Nat) (s : St) (op : Op) (h : op.readOnly = true) :
    (step fuel s op).1.desc = s.desc := by
  cases op <;> simp only [Op.readOnly, reduceCtorEq] at h
  case query => exact queryStep_desc fuel s _ _ _
  case queryF =>
    simp only [step]
    split
    · exact queryStep_desc fuel s _ _ _
    · rfl
  case touchComp =>
    simp only [step]
    split <;> rfl
  all_goals rfl

/-- what an update does to the description, and what it answers, depends on the description only - never
on what was queried (cached) before -/
theorem update_ignores_cache (fuel : Nat) (s s' : St) (op : Op) (h : op.readOnly = false) (hd : s.desc = s'.desc) :
    (step fuel s op).1.desc = (step fuel s' op).1.desc ∧ (step fuel s op).2 = (step fuel s' op).2 := by
  obtain ⟨d, c⟩ := s
  obtain ⟨d', c'⟩ := s'
  cases hd
  -- the two calls take the same branch of `step`, and no branch of an update mentions the cache on the way to its
  -- description or its answer
  cases op <;> cases h <;> simp only [step, and_self] <;> (repeat' split) <;> exact ⟨rfl, rfl⟩

/-- the description after a history is the one after the history without its read-only operations -/
theorem run_desc_erase_readonly (fuel : Nat) : ∀ (ops : List Op) (s s' : St), s.desc = s'.desc →
    (run fuel s ops).1.desc = (run fuel s' (ops.filter (fun o => !o.readOnly))).1.desc := by
  intro ops
  induction ops with
  | nil => intro s s' h; exact h
  | cons op r ih =>
    intro s s' h
    cases hro : op.readOnly with
    | true =>
      simp only [run, List.filter, hro, Bool.not_true]
      exact ih _ _ ((readonly_keeps_description fuel s op hro).trans h)
    | false =>
      simp only [run, List.filter, hro, Bool.not_false]
      exact ih _ _ (update_ignores_cache fuel s s' op hro h).1

/-- **readonly_ops_preserve**: read-only operations never change a later answer.  After ANY history, a
query of any variant answers exactly what it answers after the same history with every read-only operation
(queries of every variant, `instance()`, `replicate()`, `raw()`, copying and reference getters) erased -
i.e. the answers depend on the updates only, not on what was looked at, flattened or cached in between. -/
theorem readonly_ops_preserve (fuel : Nat) (d : Desc) (ops : List Op) (i : Nat) (n P : S) (f : Flags) :
    (step fuel (run fuel (init d) ops).1 (.queryF i n P f)).2 =
    (step fuel (run fuel (init d) (ops.filter (fun o => !o.readOnly))).1 (.queryF i n P f)).2 := by
  rw [queryF_fresh_step fuel _ (cache_coherent fuel ops _ (inv_init fuel d)),
      queryF_fresh_step fuel _ (cache_coherent fuel _ _ (inv_init fuel d)),
      run_desc_erase_readonly fuel ops (init d) (init d) rfl]

private theorem run_readonly_desc (fuel : Nat) (ops : List Op) (s : St) (h : ∀ o ∈ ops, o.readOnly = true) :
    (run fuel s ops).1.desc = s.desc :=
  run_induction fuel (·.desc = s.desc) ops s rfl fun s' o ho hs =>
    (readonly_keeps_description fuel s' o (h o ho)).trans hs

/-- in particular a history that consists of read-only operations only leaves the description as it was:
every query then answers what a fresh object built from the original description answers -/
theorem readonly_history_is_invisible (fuel : Nat) (d : Desc) (ops : List Op) (h : ∀ o ∈ ops, o.readOnly = true)
    (i : Nat) (n P : S) (f : Flags) :
    (step fuel (run fuel (init d) ops).1 (.queryF i n P f)).2 = resolveF d P i n f fuel := by
  rw [queryF_fresh_step fuel _ (cache_coherent fuel ops _ (inv_init fuel d)), run_readonly_desc fuel ops _ h]
  rfl

/-! ### setters store exactly what they are given -/

theorem get_set_self (d : Fields) (k : S) (v : Val) : Tree.get (Tree.set d k v) k = some v := by
  rw [get_set, if_pos rfl]

/-- **setVar_stores_exactly**: a successful `set_component_variable(comp, x, v)` leaves exactly `v` under `x` in the
component - whatever was there before, be it the same value, one that compares equal in some weaker sense (`1`,
`1.0`, `True` are three different `Val`s) or nothing - and no cached configuration of the component survives on any
platform; so the next query resolves the description that holds `v` -/
theorem setVar_stores_exactly (fuel : Nat) (s : St) (i : Nat) (n x : S) (v : Val) (c : Comp) (vs : Fields)
    (hc : findComp s.desc.comps i n = some c) (hv : get c.body "variables".toList = some (.dict vs)) :
    let s' := (step fuel s (.setVar i n x v)).1
    (∃ c' vs', findComp s'.desc.comps i n = some c' ∧ get c'.body "variables".toList = some (.dict vs') ∧
      get vs' x = some v) ∧ ∀ P, cacheGet s'.cache ⟨P, i, n⟩ = none := by
  simp only [step, hc, hv, setComps, findComp_modComp, and_self, if_true, Option.map_some]
  exact ⟨⟨_, _, rfl, get_set_self _ _ _, get_set_self _ _ _⟩, fun P => cacheGet_invalidate i n P s.cache⟩

/-- … and the query that follows answers the resolution of that description (on every platform) -/
theorem query_after_setVar_is_fresh (fuel : Nat) (d : Desc) (ops : List Op) (i : Nat) (n x P : S) (v : Val) :
    let s' := (step fuel (run fuel (init d) ops).1 (.setVar i n x v)).1
    (step fuel s' (.query i n P)).2 = resolve s'.desc P i n false fuel :=
  query_fresh_step fuel _ (step_preserves fuel _ _ (cache_coherent fuel ops _ (inv_init fuel d))) i n P

/-! ### every platform name: the invalidation pattern puts no condition on the platform part of a label -/

/-- **component_update_drops_every_platform**: whichever component-level call is made on an existing component
(set / delete a variable, set / remove an option, replace, delete, hand out a reference) - successful or raising after
the invalidation - no cached configuration of that component survives under ANY platform name `P` -/
theorem component_update_drops_every_platform (fuel : Nat) (s : St) (op : Op) (i : Nat) (n : S) (c : Comp)
    (ht : editTarget op = some (i, n)) (hc : findComp s.desc.comps i n = some c) (P : S) :
    cacheGet (step fuel s op).1.cache ⟨P, i, n⟩ = none := by
  obtain ⟨d', hs, _⟩ := step_edit fuel s op i n c ht hc
  rw [hs]
  exact cacheGet_invalidate i n P s.cache

/-- in a coherent state nothing is cached for a component that does not exist, under any platform name: so
`add_component` (which does not invalidate) can never be followed by a hit on an entry of a deleted namesake -/
theorem absent_component_has_no_cached_entry (fuel : Nat) (s : St) (hinv : Inv fuel s) (i : Nat) (n : S)
    (h : findComp s.desc.comps i n = none) (P : S) : cacheGet s.cache ⟨P, i, n⟩ = none := by
  cases hg : cacheGet s.cache ⟨P, i, n⟩ with
  | none => rfl
  | some v =>
    have := hinv _ v (cacheGet_mem _ _ _ hg)
    simp [resolve, h] at this

/-- **component_update_then_query_any_platform**: after ANY history, a component-level call on an existing component
leaves no entry of it under any platform name, and the query that follows - on any platform `P`, whatever its name -
answers the from-scratch resolution of the description as it is after the call -/
theorem component_update_then_query_any_platform (fuel : Nat) (d : Desc) (ops : List Op) (op : Op) (i : Nat) (n : S)
    (c : Comp) (ht : editTarget op = some (i, n))
    (hc : findComp (run fuel (init d) ops).1.desc.comps i n = some c) (P : S) :
    let s' := (step fuel (run fuel (init d) ops).1 op).1
    cacheGet s'.cache ⟨P, i, n⟩ = none ∧ (step fuel s' (.query i n P)).2 = resolve s'.desc P i n false fuel :=
  ⟨component_update_drops_every_platform fuel _ op i n c ht hc P,
   query_fresh_step fuel _ (step_preserves fuel _ _ (cache_coherent fuel ops _ (inv_init fuel d))) i n P⟩

/-! ### components are stored by value: an update of one component never reaches another -/

/-- the component an operation addresses (`none`: the variable setters and the opaque reads) -/
def opTarget : Op → Option (Nat × S)
  | .setVar i n _ _ => some (i, n)
  | .delVar i n _ => some (i, n)
  | .setOption i n _ _ => some (i, n)
  | .removeOption i n _ => some (i, n)
  | .addComp i n _ => some (i, n)
  | .updateComp i n _ => some (i, n)
  | .deleteComp i n => some (i, n)
  | .query i n _ => some (i, n)
  | .queryF i n _ _ => some (i, n)
  | .touchComp i n => some (i, n)
  | _ => none

/-- **update_is_local**: whatever one call of the interface does, the stored description of every component it
does not address is exactly what it was - a component is held by value, so components that were added (or
replaced) with equal bodies, e.g. stamped out of one template dictionary of the caller, share nothing: setting
or deleting a variable / an option of one of them, replacing or deleting it, cannot rewrite another one. -/
theorem update_is_local (fuel : Nat) (s : St) (op : Op) (i' : Nat) (n' : S)
    (h : ∀ i n, opTarget op = some (i, n) → ¬(i' = i ∧ n' = n)) :
    findComp (step fuel s op).1.desc.comps i' n' = findComp s.desc.comps i' n' := by
  cases hro : op.readOnly with
  | true => rw [readonly_keeps_description fuel s op hro]
  | false =>
    cases ht : editTarget op with
    | some t =>
      have hne : ¬(i' = t.1 ∧ n' = t.2) := h _ _ (by cases op <;> first | exact ht | cases ht)
      cases hc : findComp s.desc.comps t.1 t.2 with
      | none => rw [step_edit_absent fuel s op _ _ ht hc]
      | some c =>
        obtain ⟨d', hs, hd⟩ := step_edit fuel s op _ _ c ht hc
        rw [hs]
        exact hd.others i' n' hne
    | none =>
      cases op <;> simp only [editTarget, Op.readOnly, reduceCtorEq] at ht hro
      case addComp i n body =>
        simp only [step]
        split
        · rfl
        · exact (same_add _ i n body).others i' n' (h i n rfl)
      case setGlobalVar => rfl
      all_goals
        simp only [step]
        split <;> rfl

/-- **addComp_stores_exactly**: a successful `add_component(description)` stores exactly the description it was
given (a copy: nothing the caller does with its dictionary afterwards is an update of the configuration) -/
theorem addComp_stores_exactly (fuel : Nat) (s : St) (i : Nat) (n : S) (body : Fields)
    (h : findComp s.desc.comps i n = none) :
    findComp (step fuel s (.addComp i n body)).1.desc.comps i n = some ⟨i, n, body⟩ := by
  simp [step, h, setComps, findComp_append]

/-- **component_survives_foreign_history**: after ANY history none of whose calls addresses the component `(i', n')`
- edits, replacements, deletions of its siblings, of components with an equal body, any variable setter, any query -
its stored description is still exactly what it was -/
theorem component_survives_foreign_history (fuel : Nat) (i' : Nat) (n' : S) : ∀ (ops : List Op) (s : St),
    (∀ op ∈ ops, ∀ i n, opTarget op = some (i, n) → ¬(i' = i ∧ n' = n)) →
    findComp (run fuel s ops).1.desc.comps i' n' = findComp s.desc.comps i' n' :=
  fun ops s h => run_induction fuel (fun t => findComp t.desc.comps i' n' = findComp s.desc.comps i' n') ops s rfl
    fun t op ho ht => (update_is_local fuel t op i' n' (h op ho)).trans ht

/-! ### the graph layer: many views, many entry points, one description -/

/-- an update arriving through any object (`ComponentSpecification.setOption`, the node's `setOption`,
`WorkflowGraph.setOptionForNode`, `FlowIRExperimentConfiguration.setOptionForNode`, `Job.setOption`, the
`FlowIRConcrete` mutators) is the same step of the one description + cache -/
theorem update_via_any_entry (fuel : Nat) (P : S) (s : St) (e : Entry) (u : Op) :
    gstep fuel P s (.via e u) = step fuel s u := rfl

/-- the state after a history on the graph layer is the state after the history of `FlowIRConcrete` calls it
boils down to - so everything proved about `run` (coherence, freshness, read-only operations) carries over -/
theorem grun_state (fuel : Nat) (P : S) : ∀ (gops : List GOp) (s : St),
    (grun fuel P s gops).1 = (run fuel s (gops.map (lowerOp P))).1 := by
  intro gops
  induction gops with
  | nil => intro s; rfl
  | cons g r ih => exact fun s => ih _

theorem grun_coherent (fuel : Nat) (P : S) (gops : List GOp) (s : St) (h : Inv fuel s) :
    Inv fuel (grun fuel P s gops).1 := by
  rw [grun_state]
  exact cache_coherent fuel _ s h

/-- In a coherent state a read of any view through any object answers that part of what
resolving the CURRENT description from scratch gives -/
theorem view_fresh_step (fuel : Nat) (P : S) (s : St) (hinv : Inv fuel s) (e : Entry) (v : View) (i : Nat) (n : S)
    (f : Flags) : (gstep fuel P s (.view e v i n f)).2 = project v (resolveF s.desc P i n f fuel) :=
  congrArg (project v) (queryF_fresh_step fuel s hinv i n P f)

/-- **all_views_agree**: after ANY history of reads and updates through any mix of objects, the same question
asked through two different objects gets the same answer, namely the from-scratch resolution of the current
description seen through the view (no object keeps an answer of its own) -/
theorem all_views_agree (fuel : Nat) (P : S) (d : Desc) (gops : List GOp) (e e' : Entry) (v : View) (i : Nat) (n : S)
    (f : Flags) :
    let s := (grun fuel P (init d) gops).1
    (gstep fuel P s (.view e v i n f)).2 = (gstep fuel P s (.view e' v i n f)).2 ∧
    (gstep fuel P s (.view e v i n f)).2 = project v (resolveF s.desc P i n f fuel) :=
  ⟨rfl, view_fresh_step fuel P _ (grun_coherent fuel P gops _ (inv_init fuel d)) e v i n f⟩

/-- the properties built on the configuration (`commandDetails`, `resourceManager`, `workflowAttributes`,
`customAttributes`, `Job.type`, …) hand out the corresponding part of what the configuration view - asked through
any other object - hands out at that moment -/
theorem section_view_is_part_of_configuration (fuel : Nat) (P : S) (d : Desc) (gops : List GOp) (e e' : Entry)
    (ks : List S) (i : Nat) (n : S) (f : Flags) :
    let s := (grun fuel P (init d) gops).1
    (gstep fuel P s (.view e (.path ks) i n f)).2 =
      project (.path ks) (gstep fuel P s (.view e' .configuration i n f)).2 := by
  show project _ (step fuel _ (.queryF i n P f)).2 = project _ (project _ (step fuel _ (.queryF i n P f)).2)
  cases (step fuel (grun fuel P (init d) gops).1 (.queryF i n P f)).2 <;> rfl

/-- **entry_point_irrelevant**: a whole history (final state and every answer) is the same when every call is
made through one fixed object instead -/
theorem entry_point_irrelevant (fuel : Nat) (P : S) (e : Entry) : ∀ (gops : List GOp) (s : St),
    grun fuel P s (gops.map (GOp.withEntry e)) = grun fuel P s gops := by
  intro gops
  induction gops with
  | nil => intro s; rfl
  | cons g r ih =>
    intro s
    have hg : gstep fuel P s (g.withEntry e) = gstep fuel P s g := by cases g <;> rfl
    simp only [List.map, grun, hg, ih]

/-- **views_depend_on_updates_only**: what a view answers after a history is what it answers after the same
history with every read (through whatever object) erased -/
theorem views_depend_on_updates_only (fuel : Nat) (P : S) (d : Desc) (gops : List GOp) (e : Entry) (v : View)
    (i : Nat) (n : S) (f : Flags) :
    (gstep fuel P (grun fuel P (init d) gops).1 (.view e v i n f)).2 =
    (gstep fuel P (grun fuel P (init d) (gops.filter (fun g => !g.readOnly))).1 (.view e v i n f)).2 := by
  have hf : (gops.filter fun g => !g.readOnly).map (lowerOp P) = (gops.map (lowerOp P)).filter fun o => !o.readOnly := by
    rw [List.filter_map]
    congr 2
    funext g
    cases g <;> rfl
  -- a view is a projection of the query, a graph-layer history the history it boils down to: `readonly_ops_preserve`
  show project v (step fuel _ (.queryF i n P f)).2 = project v (step fuel _ (.queryF i n P f)).2
  rw [grun_state, grun_state, hf, readonly_ops_preserve]

/-! ### ambient settings: a verbosely configured process (Model/CacheAmbient.lean) -/

/-- in coherent states what ANY call answers and what it does to the description depends on the description only -
never on what happens to be cached -/
theorem step_depends_on_description (fuel : Nat) (s s' : St) (op : Op) (h : Inv fuel s) (h' : Inv fuel s')
    (hd : s.desc = s'.desc) :
    (step fuel s op).2 = (step fuel s' op).2 ∧ (step fuel s op).1.desc = (step fuel s' op).1.desc := by
  cases hro : op.readOnly with
  | false => exact (update_ignores_cache fuel s s' op hro hd).symm
  | true =>
    refine ⟨?_, by rw [readonly_keeps_description fuel s op hro, readonly_keeps_description fuel s' op hro, hd]⟩
    cases op <;> simp only [Op.readOnly, reduceCtorEq] at hro
    case query => rw [query_fresh_step fuel s h, query_fresh_step fuel s' h', hd]
    case queryF => rw [queryF_fresh_step fuel s h, queryF_fresh_step fuel s' h', hd]
    case touchComp =>
      simp only [step, hd]
      split <;> rfl
    all_goals rfl

/-- what a logger does (read-only calls) leaves the description alone -/
theorem looks_keep_description (fuel : Nat) : ∀ (l : List Op) (s : St),
    (run fuel s (looks l)).1.desc = s.desc :=
  fun l s => run_readonly_desc fuel (looks l) s fun _ ho => (List.mem_filter.1 ho).2

/-- one call of a process of ANY verbosity: the answer and the description are those of the quiet call, the cache
stays coherent -/
theorem logged_step_as_quiet (V : Verbosity) (fuel : Nat) (s s' : St) (op : Op) (h : Inv fuel s) (h' : Inv fuel s')
    (hd : s.desc = s'.desc) :
    (stepLogged V fuel s op).2 = (step fuel s' op).2 ∧ (stepLogged V fuel s op).1.desc = (step fuel s' op).1.desc ∧
    Inv fuel (stepLogged V fuel s op).1 := by
  have h0 : Inv fuel (run fuel s (looks (V.before op))).1 := cache_coherent fuel _ s h
  have hs := step_depends_on_description fuel _ s' op h0 h' ((looks_keep_description fuel _ s).trans hd)
  exact ⟨hs.1, (looks_keep_description fuel _ _).trans hs.2, cache_coherent fuel _ _ (step_preserves fuel _ op h0)⟩

/-- **logging_is_invisible**: for EVERY verbosity (any read-only calls before and after every call of the interface,
chosen per call) and every history, a verbose process gets the answers of the quiet one, holds the same description
afterwards, and its cache is coherent. -/
theorem logging_is_invisible (V : Verbosity) (fuel : Nat) : ∀ (ops : List Op) (s s' : St), Inv fuel s → Inv fuel s' →
    s.desc = s'.desc →
    (runLogged V fuel s ops).2 = (run fuel s' ops).2 ∧ (runLogged V fuel s ops).1.desc = (run fuel s' ops).1.desc ∧
    Inv fuel (runLogged V fuel s ops).1 := by
  intro ops
  induction ops with
  | nil => intro s s' h _ hd; exact ⟨rfl, hd, h⟩
  | cons op r ih =>
    intro s s' h h' hd
    obtain ⟨ha, hd1, hinv1⟩ := logged_step_as_quiet V fuel s s' op h h' hd
    obtain ⟨has, hds, hinvs⟩ := ih _ _ hinv1 (step_preserves fuel s' op h') hd1
    simp only [runLogged, run]
    exact ⟨by rw [ha, has], hds, hinvs⟩

/-- hence, whatever the verbosity, after any history a query of any variant answers the from-scratch resolution of
the current description, which is the description the quiet process holds -/
theorem logged_query_fresh (V : Verbosity) (fuel : Nat) (d : Desc) (ops : List Op) (i : Nat) (n P : S) (f : Flags) :
    (stepLogged V fuel (runLogged V fuel (init d) ops).1 (.queryF i n P f)).2 =
      resolveF (run fuel (init d) ops).1.desc P i n f fuel := by
  have hq := cache_coherent fuel ops _ (inv_init fuel d)
  obtain ⟨_, hd, hinv⟩ := logging_is_invisible V fuel ops (init d) (init d) (inv_init fuel d) (inv_init fuel d) rfl
  rw [(logged_step_as_quiet V fuel _ _ (.queryF i n P f) hinv hq hd).1]
  exact queryF_fresh_step fuel _ hq i n P f

theorem quiet_is_plain (fuel : Nat) : ∀ (ops : List Op) (s : St), runLogged Verbosity.quiet fuel s ops = run fuel s ops := by
  intro ops
  induction ops with
  | nil => intro s; rfl
  | cons op r ih =>
    intro s
    show (let (s2, as) := runLogged Verbosity.quiet fuel (step fuel s op).1 r; (s2, (step fuel s op).2 :: as)) = _
    rw [ih]
    rfl

/-! ### non-vacuity: a history whose two identical queries must (and do) answer differently -/

private def d1 : Desc :=
  { platforms := [defaultName], blueprint := [],
    variables := [(defaultName, { global := [(['g'], .str ['1'])], stages := [] })],
    comps := [⟨0, ['c'], [("stage".toList, .int 0), ("name".toList, .str ['c']),
                          ("command".toList, .dict [("arguments".toList, .str "%(g)s".toList)]),
                          ("variables".toList, .dict [])]⟩] }

private def args (a : Except Err Val) : Option Val :=
  match a with
  | .ok v => lookupPath ["command".toList, "arguments".toList] v
  | .error _ => none

example : (run 50 (init d1) [.query 0 ['c'] defaultName, .setGlobalVar ['g'] (.str ['2']),
                            .query 0 ['c'] defaultName, .query 0 ['c'] defaultName]).2.map args
    = [some (.str ['1']), none, some (.str ['2']), some (.str ['2'])] := by decide +kernel

/-- read-only operations in between (a raw no-defaults query = what `instance()` asks, an opaque read, a
reference getter) do not change the answers -/
example : (run 50 (init d1) [.queryF 0 ['c'] defaultName ⟨true, false, true, false⟩, .read, .touchComp 0 ['c'],
                            .touchVars]).2.map args
    = [some (.str "%(g)s".toList), none, none, none] := by decide +kernel

/-- … and the second query of the pair is a cache hit (the cache is non-empty after the history) -/
example : (run 50 (init d1) [.query 0 ['c'] defaultName]).1.cache.length = 1 := by decide +kernel

/-- re-setting a variable to a value that Python calls equal (`1` -> `1.0`) is an update like any other: the second
query of the pair answers `1.0` -/
example : (run 50 (init d1) [.setVar 0 ['c'] ['g'] (.int 1), .query 0 ['c'] defaultName,
                            .setVar 0 ['c'] ['g'] (.flt "1.0".toList), .query 0 ['c'] defaultName]).2.map args
    = [none, some (.str ['1']), none, some (.str "1.0".toList)] := by decide +kernel

/-- graph layer: read `command.arguments` through the `ComponentSpecification`, update the global variable
through `FlowIRConcrete` and the component's own variable through `WorkflowGraph.setOptionForNode`, read through the
`ComponentSpecification` and through a `Job`: both see every update -/
example : (grun 50 defaultName (init d1)
      [.view .spec (.path ["command".toList, "arguments".toList]) 0 ['c'] (Flags.std false),
       .via .concrete (.setGlobalVar ['g'] (.str ['2'])),
       .view .spec (.path ["command".toList, "arguments".toList]) 0 ['c'] (Flags.std false),
       .via .graph (.setOption 0 ['c'] ['g'] (.flt "1.0".toList)),
       .view .job (.path ["command".toList, "arguments".toList]) 0 ['c'] (Flags.std false),
       .view .spec (.path ["variables".toList, ['g']]) 0 ['c'] (Flags.std false),
       .view .node (.path ["nowhere".toList]) 0 ['c'] (Flags.std false)]).2.map
        (fun a => match a with | .ok v => some v | .error _ => none)
    = [some (.str ['1']), some .null, some (.str ['2']), some .null, some (.str "1.0".toList),
       some (.flt "1.0".toList), none] := by decide +kernel

/-- a description with a platform whose name is not a "word": `openshift-kubeflux` -/
private def okf : S := "openshift-kubeflux".toList

private def d2 : Desc :=
  { platforms := [defaultName, okf], blueprint := [],
    variables := [(defaultName, { global := [(['g'], .str ['1'])], stages := [] }),
                  (okf, { global := [(['g'], .str "on-okf".toList)], stages := [] })],
    comps := [⟨0, ['c'], [("stage".toList, .int 0), ("name".toList, .str ['c']),
                          ("command".toList, .dict [("arguments".toList, .str "%(g)s %(x)s".toList)]),
                          ("variables".toList, .dict [(['x'], .str ['0'])])]⟩] }

private def argText (a : Except Err Val) : Option S :=
  match args a with
  | some (.str t) => some t
  | _ => none

/-- query on `openshift-kubeflux` (fills the cache), component-level update, query again: the update is visible -/
example : (run 50 (init d2) [.query 0 ['c'] okf, .setVar 0 ['c'] ['x'] (.str ['1']), .query 0 ['c'] okf,
                            .query 0 ['c'] okf]).2.map argText
    = [some "on-okf 0".toList, none, some "on-okf 1".toList, some "on-okf 1".toList] := by decide +kernel

/-- the hypotheses of `component_update_drops_every_platform` are satisfiable with a non-empty cache: the entry of
`openshift-kubeflux` is there before the call and gone after it -/
example : (cacheGet (run 50 (init d2) [.query 0 ['c'] okf]).1.cache ⟨okf, 0, ['c']⟩).isSome = true ∧
    cacheGet (run 50 (init d2) [.query 0 ['c'] okf, .setOption 0 ['c'] "#command.arguments".toList (.str ['z'])]).1.cache
      ⟨okf, 0, ['c']⟩ = none := by decide +kernel

/-- labels of platforms named `lsf.cluster`, `p q`, `a+b`, `x:y` all match the pattern of their component; the label
of another component of the same platform does not -/
example : invalidates 0 ['c'] ⟨"lsf.cluster".toList, 0, ['c']⟩ = true ∧ invalidates 0 ['c'] ⟨"p q".toList, 0, ['c']⟩ = true ∧
    invalidates 0 ['c'] ⟨"a+b".toList, 0, ['c']⟩ = true ∧ invalidates 0 ['c'] ⟨"x:y".toList, 0, ['c']⟩ = true ∧
    invalidates 0 ['c'] ⟨"lsf.cluster".toList, 0, ['d']⟩ = false ∧
    invalidates 1 ['c'] ⟨"lsf.cluster".toList, 10, ['c']⟩ = false := by decide +kernel

/-- one body, two names: what a caller that stamps components out of one template dictionary hands in -/
private def tplBody : Fields :=
  [("stage".toList, .int 0), ("name".toList, .str ['w']),
   ("command".toList, .dict [("arguments".toList, .str "%(who)s".toList)]),
   ("variables".toList, .dict [("who".toList, .str "nobody".toList)])]

/-- two components stamped out of ONE body, then one of them is edited: the other one answers as before -/
example : (run 50 (init d1) [.addComp 0 "w0".toList tplBody, .addComp 0 "w1".toList tplBody,
                            .setVar 0 "w0".toList "who".toList (.str "world".toList),
                            .query 0 "w0".toList defaultName, .query 0 "w1".toList defaultName]).2.map args
    = [none, none, none, some (.str "world".toList), some (.str "nobody".toList)] := by decide +kernel

/-- a verbose process that asks for the resolved configuration before and after every update (what a "changes from X
to Y" report does) and dumps on every query: the answers of the history are those of the quiet process -/
example : (runLogged ⟨fun o => if o.readOnly then [.read] else [.query 0 ['c'] defaultName, .setGlobalVar ['g'] (.str ['9'])],
                      fun _ => [.query 0 ['c'] defaultName, .touchComp 0 ['c']]⟩ 50 (init d1)
      [.query 0 ['c'] defaultName, .setOption 0 ['c'] "#command.arguments".toList (.str "%(g)s!".toList),
       .query 0 ['c'] defaultName, .setGlobalVar ['g'] (.str ['2']), .query 0 ['c'] defaultName]).2.map argText
    = [some ['1'], none, some "1!".toList, none, some "2!".toList] := by decide +kernel

end St4sd.C08
