import St4sd.Lemmas.C04Tree
/-!
# User variables of C04: several variable files (`mergeUser`) and `_patch_in_variable_files` (`patchUser`)

On the values a variable file admits (`PlainVars`: neither dictionaries nor `None`) `override_object` is `dict.update`,
name by name (`get_mergeVars`) and stage section by stage section (`lookupN_mergeStages`); `patchUser` puts the user's
variables on top of every stage section of every platform (`stageVars_patchUser`).
-/
namespace St4sd.Tree
open St4sd.Str

/-- every value of the collection is a scalar that `override_object` simply replaces: neither a dictionary
nor `None` (what the schema of a variable file admits: strings, numbers, booleans) -/
def PlainVars (f : Fields) : Prop := ∀ x v, get f x = some v → isDict v = false ∧ v ≠ .null

/-- the stage-`i` section of a variable file (absent = empty) -/
def stageOf (u : UserVars) (i : Nat) : Fields := (lookupN u.stages i).getD []

def PlainUser (u : UserVars) : Prop := PlainVars u.global ∧ ∀ i g, lookupN u.stages i = some g → PlainVars g

theorem plainVars_nil : PlainVars [] := by
  intro x v h; simp [get] at h

theorem plainUser_empty : PlainUser ⟨[], []⟩ :=
  ⟨plainVars_nil, by intro i g h; simp [lookupN] at h⟩

theorem plainVars_stageOf (u : UserVars) (h : PlainUser u) (i : Nat) : PlainVars (stageOf u i) := by
  unfold stageOf
  cases hl : lookupN u.stages i with
  | none => exact plainVars_nil
  | some g => exact h.2 i g hl

/-- decidable form of `PlainVars` (every entry, shadowed ones included) -/
def plainVarsB (f : Fields) : Bool :=
  f.all (fun kv => match kv.2 with | .dict _ => false | .null => false | _ => true)

def plainUserB (u : UserVars) : Bool := plainVarsB u.global && u.stages.all (fun e => plainVarsB e.2)

theorem get_mem (f : Fields) (x : S) (v : Val) (h : get f x = some v) : (x, v) ∈ f := by
  induction f with
  | nil => cases h
  | cons e r ih => grind [get]

theorem lookupN_mem {α : Type} (st : List (Nat × α)) (i : Nat) (g : α) (h : lookupN st i = some g) : (i, g) ∈ st := by
  induction st with
  | nil => cases h
  | cons e r ih => grind [lookupN]

theorem plainVars_of_B (f : Fields) (hb : plainVarsB f = true) : PlainVars f := by
  intro x v hg
  have := List.all_eq_true.1 hb _ (get_mem f x v hg)
  cases v with
  | null | dict _ => cases this
  | _ => exact ⟨rfl, fun h => nomatch h⟩

theorem plainUser_of_B (u : UserVars) (h : plainUserB u = true) : PlainUser u := by
  simp only [plainUserB, Bool.and_eq_true] at h
  exact ⟨plainVars_of_B _ h.1, fun i g hl => plainVars_of_B _ (List.all_eq_true.1 h.2 _ (lookupN_mem _ i g hl))⟩

theorem override_plain (x y : Val) (hx : isDict x = false) (hy : isDict y = false) (hn : y ≠ .null) :
    override x y = y := by
  rw [(override_leaf x y hx hy).1]
  cases y with
  | null => exact absurd rfl hn
  | _ => rfl

theorem get_mergeVars (a b : Fields) (ha : PlainVars a) (hb : PlainVars b) (x : S) :
    get (mergeVars a b) x = (get b x).or (get a x) := by
  rw [mergeVars, get_override_dict]
  cases hga : get a x <;> cases hgb : get b x <;> try rfl
  next u w => simp [override_plain u w (ha x u hga).1 (hb x w hgb).1 (hb x w hgb).2]

theorem plain_mergeVars (a b : Fields) (ha : PlainVars a) (hb : PlainVars b) : PlainVars (mergeVars a b) := by
  intro x v h
  rw [get_mergeVars a b ha hb] at h
  cases hgb : get b x with
  | some w => exact hb x v (by rw [hgb] at h ⊢; exact h)
  | none => exact ha x v (by rw [hgb] at h; exact h)

theorem lookupN_append {α : Type} (a b : List (Nat × α)) (i : Nat) :
    lookupN (a ++ b) i = (lookupN a i).or (lookupN b i) := by
  induction a with
  | nil => rfl
  | cons h t ih =>
    simp only [List.cons_append, lookupN, ih]
    split <;> rfl

theorem lookupN_mapVals {α β : Type} (g : Nat → α → β) (a : List (Nat × α)) (i : Nat) :
    lookupN (a.map (fun e => (e.1, g e.1 e.2))) i = (lookupN a i).map (g i) := by
  induction a with
  | nil => simp [lookupN]
  | cons h t ih =>
    obtain ⟨k, v⟩ := h
    simp only [List.map_cons, lookupN]
    by_cases hk : k = i
    · subst hk; simp
    · simp [hk, ih]

theorem lookupN_filter_absent {α β : Type} (a : List (Nat × β)) (b : List (Nat × α)) (i : Nat) :
    lookupN (b.filter (fun e => (lookupN a e.1).isNone)) i = if (lookupN a i).isNone then lookupN b i else none := by
  induction b with
  | nil => simp [lookupN]
  | cons h t ih => grind [lookupN]

theorem lookupN_mergeStages (a b : List (Nat × Fields)) (i : Nat) :
    lookupN (mergeStages a b) i =
      match lookupN a i, lookupN b i with
      | some f, some g => some (mergeVars f g)
      | some f, none => some f
      | none, g => g := by
  have hm : lookupN (a.map (fun e => (e.1, mergeOpt e.2 (lookupN b e.1)))) i =
      (lookupN a i).map (fun f => mergeOpt f (lookupN b i)) :=
    lookupN_mapVals (fun k f => mergeOpt f (lookupN b k)) a i
  unfold mergeStages
  rw [lookupN_append, hm, lookupN_filter_absent]
  cases lookupN a i <;> cases lookupN b i <;> simp [mergeOpt]

theorem get_stageOf_mergeUser (a b : UserVars) (ha : PlainUser a) (hb : PlainUser b) (i : Nat) (x : S) :
    get (stageOf (mergeUser a b) i) x = (get (stageOf b i) x).or (get (stageOf a i) x) := by
  unfold stageOf mergeUser
  simp only [lookupN_mergeStages]
  cases hla : lookupN a.stages i <;> cases hlb : lookupN b.stages i <;> simp [get]
  next f g => exact get_mergeVars f g (ha.2 i f hla) (hb.2 i g hlb) x

theorem get_global_mergeUser (a b : UserVars) (ha : PlainUser a) (hb : PlainUser b) (x : S) :
    get (mergeUser a b).global x = (get b.global x).or (get a.global x) :=
  get_mergeVars a.global b.global ha.1 hb.1 x

theorem plain_mergeUser (a b : UserVars) (ha : PlainUser a) (hb : PlainUser b) : PlainUser (mergeUser a b) := by
  refine ⟨plain_mergeVars _ _ ha.1 hb.1, fun i g h => ?_⟩
  simp only [mergeUser, lookupN_mergeStages] at h
  cases hla : lookupN a.stages i <;> cases hlb : lookupN b.stages i <;>
    simp only [hla, hlb, Option.some.injEq, reduceCtorEq] at h
  · exact hb.2 i g (hlb.trans (congrArg some h))
  · exact h ▸ ha.2 i _ hla
  · exact h ▸ plain_mergeVars _ _ (ha.2 i _ hla) (hb.2 i _ hlb)

theorem lookupN_setN {α : Type} (st : List (Nat × α)) (i j : Nat) (v : α) :
    lookupN (setN st i v) j = if i = j then some v else lookupN st j := by
  induction st with
  | nil => rfl
  | cons h t ih => grind [setN, lookupN]

theorem lookupN_patchStages (uv : UserVars) (st : List (Nat × Fields)) (n i : Nat) :
    lookupN (patchStages uv st n) i =
      if i < n then some (update ((lookupN st i).getD []) (userFor uv i)) else lookupN st i := by
  induction n with
  | zero => rfl
  | succ n ih =>
    rw [patchStages, lookupN_setN]
    by_cases hi : n = i
    · subst hi
      have h0 : lookupN (patchStages uv st n) n = lookupN st n := by simpa using ih
      simp [h0]
    · rw [if_neg hi, ih]
      have : i < n + 1 ↔ i < n := by omega
      simp only [this]

theorem lookupS_map_self {α : Type} (g : S → α) (ps : List S) (P : S) (h : P ∈ ps) :
    lookupS (ps.map (fun Q => (Q, g Q))) P = some (g P) := by
  induction ps with
  | nil => cases h
  | cons q r ih =>
    simp only [List.map_cons, lookupS]
    split
    · next hq => rw [hq]
    · next hq => exact ih ((List.mem_cons.1 h).resolve_left fun e => hq e.symm)

theorem platVars_patchUser (d : Desc) (uv : UserVars) (n : Nat) (P : S) (hP : P ∈ d.platforms) :
    platVars (patchUser d uv n) P =
      { global := (platVars d P).global, stages := patchStages uv (platVars d P).stages n } := by
  have h := lookupS_map_self
    (fun Q => PlatVars.mk (platVars d Q).global (patchStages uv (platVars d Q).stages n)) d.platforms P hP
  simp only [platVars, patchUser] at h ⊢
  rw [h]
  rfl

theorem globalVars_patchUser (d : Desc) (uv : UserVars) (n : Nat) (P : S) (hP : P ∈ d.platforms) :
    globalVars (patchUser d uv n) P = globalVars d P := by
  unfold globalVars
  rw [platVars_patchUser d uv n P hP]

theorem stageVars_patchUser (d : Desc) (uv : UserVars) (n : Nat) (P : S) (hP : P ∈ d.platforms) (i : Nat)
    (hi : i < n) : stageVars (patchUser d uv n) P i = update (stageVars d P i) (userFor uv i) := by
  unfold stageVars
  rw [platVars_patchUser d uv n P hP]
  simp only [lookupN_patchStages, hi, if_true, Option.getD_some]

end St4sd.Tree
