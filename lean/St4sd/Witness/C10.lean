import St4sd.Model.ArgSubst
/-!
Witnesses for C10: the algorithm *before* the repair (`resolveOld`: one `str.replace` per reference, in
declaration order) violates the statement.  The harness replays the same inputs on the real code
(harness/c10.py `CORPUS`).

In the evaluations below the string literals are first rewritten to character lists (`String.toList_ofList`; a
literal unfolds to `String.ofList [..]`, which simp's index does not see, hence `-index`): left to itself the kernel
computes `"…".toList` by encoding to UTF-8 and decoding again, in time quadratic in the length of the literal.
-/
namespace St4sd.C10.Witness
open St4sd.ArgSubst St4sd.Str

def refA : Ref := { abs := "stage0.A:ref".toList, rel := "A:ref".toList, relActive := true, kind := .ref, value := some "/i/stages/stage0/A".toList }
def refBA : Ref := { abs := "stage0.BA:ref".toList, rel := "BA:ref".toList, relActive := true, kind := .ref, value := some "/i/stages/stage0/BA".toList }

/-- one producer's name ends another's: `BA:ref` becomes `B<path of A>` and `BA` is reported unused … -/
theorem old_name_containment :
    (resolveOld [refA, refBA] "x=BA:ref y=A:ref".toList).out = "x=B/i/stages/stage0/A y=/i/stages/stage0/A".toList ∧
    (resolveOld [refA, refBA] "x=BA:ref y=A:ref".toList).unused = ["stage0.BA:ref".toList] := by
  unfold refA refBA
  simp -index only [String.toList_ofList]
  decide +kernel

/-- … but not when the references are declared in the other order: the result depends on the declaration order -/
theorem old_order_dependent :
    (resolveOld [refBA, refA] "x=BA:ref y=A:ref".toList).out = "x=/i/stages/stage0/BA y=/i/stages/stage0/A".toList ∧
    (resolveOld [refA, refBA] "x=BA:ref y=A:ref".toList).out ≠ (resolveOld [refBA, refA] "x=BA:ref y=A:ref".toList).out := by
  unfold refA refBA
  simp -index only [String.toList_ofList]
  decide +kernel

/-- the repaired algorithm gives the exact result in both orders -/
theorem new_exact_both_orders :
    (resolve [refA, refBA] "x=BA:ref y=A:ref".toList).out = "x=/i/stages/stage0/BA y=/i/stages/stage0/A".toList ∧
    (resolve [refBA, refA] "x=BA:ref y=A:ref".toList).out = "x=/i/stages/stage0/BA y=/i/stages/stage0/A".toList ∧
    (resolve [refA, refBA] "x=BA:ref y=A:ref".toList).unused = [] := by
  unfold refA refBA
  simp -index only [String.toList_ofList]
  decide +kernel

/-- both spellings of one reference in one command line: only the absolute one is replaced -/
theorem old_mixed_spellings :
    (resolveOld [refA] "x=stage0.A:ref y=A:ref".toList).out = "x=/i/stages/stage0/A y=A:ref".toList ∧
    (resolve [refA] "x=stage0.A:ref y=A:ref".toList).out = "x=/i/stages/stage0/A y=/i/stages/stage0/A".toList := by
  unfold refA
  simp -index only [String.toList_ofList]
  decide +kernel

def ref1A : Ref := { abs := "stage1.A:ref".toList, rel := "A:ref".toList, relActive := true, kind := .ref, value := some "/i/stages/stage1/A".toList }
def ref0A : Ref := { abs := "stage0.A:ref".toList, rel := "A:ref".toList, relActive := false, kind := .ref, value := some "/i/stages/stage0/A".toList }

/-- equal names across stages (consumer in stage 1): the relative spelling of `stage1.A` also rewrites the
tail of `stage0.A:ref` -/
theorem old_equal_names_across_stages :
    (resolveOld [ref1A, ref0A] "x=A:ref stage0.A:ref".toList).out = "x=/i/stages/stage1/A stage0./i/stages/stage1/A".toList ∧
    (resolve [ref1A, ref0A] "x=A:ref stage0.A:ref".toList).out = "x=/i/stages/stage1/A /i/stages/stage0/A".toList ∧
    (resolve [ref0A, ref1A] "x=A:ref stage0.A:ref".toList).out = "x=/i/stages/stage1/A /i/stages/stage0/A".toList := by
  unfold ref0A ref1A
  simp -index only [String.toList_ofList]
  decide +kernel

def refOut : Ref := { abs := "stage0.A/out.txt:output".toList, rel := "A/out.txt:output".toList, relActive := false, kind := .output,
                      value := some "hello A:ref".toList }

/-- the contents of an `:output` reference are scanned again by the references declared after it -/
theorem old_rescans_inserted_values :
    (resolveOld [refOut, ref1A] "stage0.A/out.txt:output".toList).out = "hello /i/stages/stage1/A".toList ∧
    (resolve [refOut, ref1A] "stage0.A/out.txt:output".toList).out = "hello A:ref".toList := by
  unfold refOut ref1A
  simp -index only [String.toList_ofList]
  decide +kernel

/-- the value of an `:output` reference is the file's text minus its final newlines; stripping all surrounding
white space instead (`str.strip()`) would lose blanks and tabs that belong to the contents -/
theorem strip_is_not_the_output_value :
    outputValue "  ATOM  1 \t\n\n".toList = "  ATOM  1 \t".toList ∧
    St4sd.Str.strip "  ATOM  1 \t\n\n".toList = "ATOM  1".toList ∧
    outputValue " a\r\n".toList = " a\r".toList ∧ loopInstanceValue " a\r\n".toList = " a".toList := by
  simp -index only [String.toList_ofList]
  decide +kernel

/-! ### the file part: `None` is not the empty string -/

/-- the reference declared as `Gen/:ref` read with the file part tested for truthiness: the spellings lose the `/` -/
def genSlashTruthy : Ref :=
  { abs := withFileTruthy "stage1.Gen".toList (some []) ++ ":ref".toList,
    rel := withFileTruthy "Gen".toList (some []) ++ ":ref".toList,
    relActive := true, kind := .ref, value := some (refPath "/i/stages/stage1/Gen".toList (some [])) }

/-- **Why the spellings must keep an empty file part.**  `Gen/:ref` declared and written in the command line: with
the spellings of the code (`withFile`, `is not None`) the token is replaced by `<dir>/`; were the empty file part
treated as absent (`if self.fileRef:`), the spellings would be `Gen:ref` / `stage1.Gen:ref`, which do not occur in
the text: nothing is replaced, the reference is reported unused and the text is flagged as an unresolved
reference — a valid workflow would be rejected. -/
theorem empty_file_part_must_be_spelled :
    ((declOfText 1 false "Gen/:ref".toList (.path (refPath "/i/stages/stage1/Gen".toList (some [])))).map
        fun d => (resolveD [d] "-a Gen/:ref stage1.Gen/:ref".toList).out)
      = some "-a /i/stages/stage1/Gen/ /i/stages/stage1/Gen/".toList ∧
    genSlashTruthy.spellings = ["stage1.Gen:ref".toList, "Gen:ref".toList] ∧
    (resolve [genSlashTruthy] "-a Gen/:ref stage1.Gen/:ref".toList).out = "-a Gen/:ref stage1.Gen/:ref".toList ∧
    (resolve [genSlashTruthy] "-a Gen/:ref stage1.Gen/:ref".toList).unused = ["stage1.Gen:ref".toList] ∧
    (resolve [genSlashTruthy] "-a Gen/:ref stage1.Gen/:ref".toList).unresolved = true := by
  unfold genSlashTruthy
  simp -index only [String.toList_ofList]
  decide +kernel

/-- the `:loopref` branch of `DataReference.resolve` does test the file part for truthiness: the VALUE of
`Gen/:loopref` has no trailing separator while that of `Gen/:ref` has one (the spellings keep it in both cases) -/
theorem loopref_drops_empty_file_part_in_the_value_only :
    loopRefPath "/i/stages/stage0/0#Gen".toList (some []) = "/i/stages/stage0/0#Gen".toList ∧
    refPath "/i/stages/stage0/0#Gen".toList (some []) = "/i/stages/stage0/0#Gen/".toList ∧
    loopRefPath "/i/stages/stage0/0#Gen".toList (some "t/".toList) = "/i/stages/stage0/0#Gen/t/".toList := by
  simp -index only [String.toList_ofList]
  decide +kernel

/-- outside `TextOk` (hypothesis `file_rel` of `Props.C10.relative_text_spellings`): a file part that starts with
a separator (`Gen//o:ref`) makes `os.path.join` drop the producer — the spellings are `/o:ref`, not the declared
text.  Such references are not generated by the harness. -/
theorem doubled_separator_spelling_is_not_the_text :
    (parseRef 0 false "Gen//o:ref".toList).map Parts.absSpelling = some "/o:ref".toList := by
  simp -index only [String.toList_ofList]
  decide +kernel

/-- why `looped_reference_to_paths` sorts on `int(<iteration>)`: sorting the instance ids as strings lists the 11
instances of a loop as `0, 1, 10, 2, …, 9` — a consumer that takes the last path / value for the final iteration reads
iteration 9 —, the numeric key lists them `0 … 10` (with up to 10 instances the two orders coincide) -/
theorem string_order_is_not_iteration_order :
    ((orderInstancesLex ((List.range 11).map fun i => (instId 0 i "A".toList, i))).map (·.2))
      = [0, 1, 10, 2, 3, 4, 5, 6, 7, 8, 9] ∧
    ((orderInstances ((List.range 11).map fun i => (instId 0 i "A".toList, i))).map (·.2)) = List.range 11 ∧
    ((orderInstancesLex ((List.range 10).map fun i => (instId 0 i "A".toList, i))).map (·.2)) = List.range 10 := by
  simp -index only [String.toList_ofList]
  decide +kernel

end St4sd.C10.Witness
