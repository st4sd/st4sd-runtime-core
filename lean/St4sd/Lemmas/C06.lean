import St4sd.Model.Dsl
/-!
Laws of the functions of `Model/Dsl.lean`, stated about variables: the accumulator of the walk, what `checkExec`
accepts, lookups in mapped / layered association lists, the parameter references of a value under substitution,
re-lexing and absolutising, and the errors that make `digest` / `finish` refuse.
-/
namespace St4sd.C06
open St4sd.Dsl St4sd.Str

/-- the compiler's checks are chains `if bad then error else …`: a chain that ended well took no error branch -/
theorem of_ite_eq_neg {α : Type} {c : Prop} [Decidable c] {x y z : α}
    (h : (if c then x else y) = z) (hx : x ≠ z) : ¬ c ∧ y = z := by
  by_cases hc : c
  · rw [if_pos hc] at h; exact absurd h hx
  · rw [if_neg hc] at h; exact ⟨hc, h⟩

theorem of_ite_eq_pos {α : Type} {c : Prop} [Decidable c] {x y z : α}
    (h : (if c then x else y) = z) (hy : y ≠ z) : c ∧ x = z := by
  by_cases hc : c
  · rw [if_pos hc] at h; exact ⟨hc, h⟩
  · rw [if_neg hc] at h; exact absurd h hy

theorem nil_of_not_nonempty {α : Type} {l : List α} (h : ¬ (!l.isEmpty) = true) : l = [] := by
  cases l with
  | nil => rfl
  | cons a r => exact absurd rfl h

theorem foldl_inv {α β : Type} {f : β → α → β} {P : β → Prop} :
    ∀ (l : List α) (b : β), P b → (∀ b a, a ∈ l → P b → P (f b a)) → P (l.foldl f b)
  | [], _, h0, _ => h0
  | a :: r, b, h0, hs =>
    foldl_inv r (f b a) (hs b a List.mem_cons_self h0) fun b x hx => hs b x (List.mem_cons_of_mem _ hx)

theorem concat_cons (a : Acc) (l : List Acc) : Acc.concat (a :: l) = a.append (Acc.concat l) := rfl

theorem concat_fuelOut (l : List Acc) (h : ∀ a ∈ l, a.fuelOut = false) : (Acc.concat l).fuelOut = false := by
  induction l with
  | nil => rfl
  | cons a r ih =>
    show (a.fuelOut || (Acc.concat r).fuelOut) = false
    rw [h a List.mem_cons_self, ih fun x hx => h x (List.mem_cons_of_mem _ hx)]
    rfl

theorem concat_insts (l : List Acc) : (Acc.concat l).insts = l.flatMap (·.insts) := by
  induction l with
  | nil => rfl
  | cons a r ih => exact congrArg (a.insts ++ ·) ih

/-- what one scope reports is reported by the whole walk: for any of the list-valued fields `f` of `Acc` -/
theorem mem_concat {α : Type} {f : Acc → List α} (hf : ∀ a b, f (a.append b) = f a ++ f b) {l : List Acc} {a : Acc}
    (ha : a ∈ l) {x : α} (hx : x ∈ f a) : x ∈ f (Acc.concat l) := by
  induction l with
  | nil => cases ha
  | cons b r ih =>
    rw [concat_cons, hf]
    rcases List.mem_cons.mp ha with rfl | ha
    · exact List.mem_append_left _ hx
    · exact List.mem_append_right _ (ih ha)

theorem visitOrder_perm (cs : List Child) : (visitOrder cs).Perm cs :=
  (((List.reverse_perm _).append (List.Perm.refl _)).trans List.perm_append_comm).trans
    (List.filter_append_perm (fun c : Child => c.callee.isWf) cs)

theorem visit_workflow (ns : Namespace) (fuel : Nat) (avail : List Name) (loc : Loc) {t : Template} (env : Env)
    (dsl : ErrLoc) {steps : List (Name × Name)} {execute : List Exec} (hb : t.body = .workflow steps execute) :
    visit ns (fuel + 1) avail loc t env dsl =
      Acc.append
        { errsA := (badExecs ns avail t steps 0 execute).map (fun j => ErrLoc.tmpl true t.idx (some j)) ++
            (if steps.all (fun s => execute.any (fun e => e.target == s.1)) then [] else [ErrLoc.tmpl true t.idx none]),
          errsB := (childrenOf ns avail t steps 0 execute).flatMap (childErrsB loc env steps t.idx) }
        (Acc.concat ((visitOrder (childrenOf ns avail t steps 0 execute)).map fun c =>
          visit ns fuel (avail.erase c.callee.name) (loc ++ [c.target]) c.callee (childEnv loc env c)
            (.tmpl true t.idx (some c.j)))) := by
  rw [visit, hb]

theorem checkExec_some {ns : Namespace} {avail : List Name} {w : Template} {steps : List (Name × Name)}
    {e : Exec} {callee : Template} (h : checkExec ns avail w steps e = some callee) :
      ∃ tn, steps.lookup e.target = some tn ∧ ns.find tn = some callee ∧ avail.contains tn = true ∧
        e.args.any (fun a => (paramRefs a.2).any (fun p => !w.hasParam p) || !callee.hasParam a.1) = false ∧
        callee.params.any (fun p => (e.args.lookup p.name).isNone && p.default.isNone) = false := by
  unfold checkExec at h
  cases h1 : steps.lookup e.target with
  | none => rw [h1] at h; cases h
  | some tn =>
    cases h2 : ns.find tn with
    | none => simp only [h1, h2] at h; cases h
    | some c =>
      simp only [h1, h2] at h
      obtain ⟨h3, h⟩ := of_ite_eq_neg h nofun
      obtain ⟨h4, h⟩ := of_ite_eq_neg h nofun
      obtain ⟨h5, h⟩ := of_ite_eq_neg h nofun
      cases h
      exact ⟨tn, rfl, h2, by simpa using h3, Bool.eq_false_iff.mpr h4, Bool.eq_false_iff.mpr h5⟩

theorem find_name {ns : Namespace} {n : Name} {t : Template} (h : ns.find n = some t) : t.name = n :=
  eq_of_beq (List.find?_some (p := fun x : Template => x.name == n) h)

theorem checkExec_avail {ns : Namespace} {avail : List Name} {w : Template} {steps : List (Name × Name)}
    {e : Exec} {callee : Template} (h : checkExec ns avail w steps e = some callee) : callee.name ∈ avail := by
  obtain ⟨tn, _, hf, hc, _⟩ := checkExec_some h
  rw [find_name hf]
  exact List.contains_iff_mem.mp hc

theorem childrenOf_avail (ns : Namespace) (avail : List Name) (w : Template) (steps : List (Name × Name))
    (es : List Exec) : ∀ (j : Nat) (c : Child), c ∈ childrenOf ns avail w steps j es → c.callee.name ∈ avail := by
  induction es with
  | nil => intro j c h; cases h
  | cons e r ih =>
    intro j c h
    unfold childrenOf at h
    split at h
    · next callee hc =>
      rcases List.mem_cons.mp h with rfl | h
      · exact checkExec_avail hc
      · exact ih _ _ h
    · exact ih _ _ h

theorem badExecs_mem (ns : Namespace) (avail : List Name) (w : Template) (steps : List (Name × Name)) :
    ∀ (es : List Exec) (k j : Nat) (e : Exec), es[j]? = some e → checkExec ns avail w steps e = none →
    k + j ∈ badExecs ns avail w steps k es
  | x :: r, k, 0, e, h, hc => by
    cases h
    unfold badExecs
    rw [hc]
    exact List.mem_cons_self
  | x :: r, k, j + 1, e, h, hc => by
    have := badExecs_mem ns avail w steps r (k + 1) j e h hc
    rw [Nat.add_right_comm] at this
    unfold badExecs
    split
    · exact this
    · exact List.mem_cons_of_mem _ this

theorem flatMap_perm_pointwise {α β : Type} (l : List α) (f g : α → List β)
    (h : ∀ a ∈ l, (f a).Perm (g a)) : (l.flatMap f).Perm (l.flatMap g) := by
  induction l with
  | nil => exact List.Perm.refl _
  | cons a r ih =>
    rw [List.flatMap_cons, List.flatMap_cons]
    exact (h a List.mem_cons_self).append (ih fun x hx => h x (List.mem_cons_of_mem _ hx))

theorem lookup_map_snd {β γ : Type} (l : List (Name × β)) (f : β → γ) (p : Name) :
    (l.map fun a => (a.1, f a.2)).lookup p = (l.lookup p).map f := by
  induction l with
  | nil => rfl
  | cons a r ih =>
    rw [List.map_cons, List.lookup_cons, List.lookup_cons, ih]
    cases p == a.1 <;> rfl

theorem lookup_filter_none (u args : Env) (p : Name) (h : u.lookup p = none) :
    (args.filter fun a => (u.lookup a.1).isNone).lookup p = args.lookup p := by
  induction args with
  | nil => rfl
  | cons a r ih =>
    rw [List.filter_cons, List.lookup_cons]
    by_cases hk : (p == a.1) = true
    · have hu : (u.lookup a.1).isNone = true := by rw [← eq_of_beq hk, h]; rfl
      rw [if_pos hu, List.lookup_cons, hk]
    · rw [Bool.not_eq_true] at hk
      rw [hk]
      split
      · rw [List.lookup_cons, hk, ih]
      · exact ih

/-- the parameters of a new scope are the arguments laid over the declared defaults, the way user variables are laid
over the entrypoint arguments -/
theorem rawParams_eq_overlay (t : Template) (args : Env) :
    rawParams t args = overlay args (t.params.filterMap fun q => q.default.map fun d => (q.name, d)) := by
  unfold rawParams overlay
  rw [List.filter_filterMap]
  refine congrArg (fun f => args ++ t.params.filterMap f) (funext fun q => ?_)
  cases q.default with
  | none => cases args.lookup q.name <;> rfl
  | some d => cases h : args.lookup q.name <;> simp only [Option.map_some, Option.filter_some, h] <;> rfl

theorem paramRefs_append (a b : Val) : paramRefs (a ++ b) = paramRefs a ++ paramRefs b := by
  induction a with
  | nil => rfl
  | cons t r ih =>
    cases t with
    | par p => exact congrArg (p :: ·) ih
    | _ => exact ih

/-- what substitution inside a string leaves of one reference: the references of the embedded value, or the
reference itself when the parameter is unknown or a dictionary -/
def keptRefs (look : Name → Option Val) (p : Name) : List Name :=
  match (look p).bind embed with
  | some x => paramRefs x
  | none => [p]

theorem paramRefs_substT (look : Name → Option Val) (v : Val) :
    paramRefs (substT look v) = (paramRefs v).flatMap (keptRefs look) := by
  induction v with
  | nil => rfl
  | cons t r ih =>
    cases t with
    | par p =>
      rw [substT, paramRefs_append, ih, paramRefs, List.flatMap_cons, keptRefs]
      cases (look p).bind embed <;> rfl
    | _ => exact ih

theorem isWholePar_eq_true {v : Val} (h : isWholePar v = true) : ∃ p, v = [.par p] := by
  unfold isWholePar at h
  split at h
  · exact ⟨_, rfl⟩
  · cases h

theorem substV_of_not_whole (look : Name → Option Val) (v : Val) (h : isWholePar v = false) :
    substV look v = substT look v := by
  unfold substV
  split
  · cases h
  · rfl

theorem paramRefs_mergeCons (t : Tok) (acc : Val) : paramRefs (mergeCons t acc) = paramRefs (t :: acc) := by
  unfold mergeCons
  split <;> rfl

theorem paramRefs_merge (v : Val) : paramRefs (merge v) = paramRefs v := by
  induction v with
  | nil => rfl
  | cons t r ih =>
    refine (paramRefs_mergeCons t (merge r)).trans ?_
    cases t with
    | par p => exact congrArg (p :: ·) ih
    | _ => exact ih

theorem paramRefs_absolutise (parent : Loc) (v : Val) : paramRefs (absolutise parent v) = paramRefs v := by
  induction v with
  | nil => rfl
  | cons t r ih =>
    cases t with
    | par p => exact congrArg (p :: ·) ih
    | ref l m =>
      show paramRefs ((if l.head? = some entryName then Tok.ref l m else .ref (parent ++ l) m) :: _) = _
      split <;> exact ih
    | _ => exact ih

theorem merge_ne_nil (t : Tok) (r : Val) : merge (t :: r) ≠ [] := by
  show mergeCons t (merge r) ≠ []
  unfold mergeCons
  split <;> exact List.cons_ne_nil _ _

theorem isWholePar_merge (v : Val) : isWholePar (merge v) = isWholePar v := by
  cases v with
  | nil => rfl
  | cons t r =>
    cases r with
    | nil =>
      show isWholePar (mergeCons t []) = _
      unfold mergeCons
      -- with nothing behind `t` only the last case of `mergeCons` is possible
      split <;> first | rfl | contradiction
    | cons t2 r2 =>
      have hr : isWholePar (t :: t2 :: r2) = false := by cases t <;> rfl
      rw [hr]
      show isWholePar (mergeCons t (merge (t2 :: r2))) = false
      cases hacc : merge (t2 :: r2) with
      | nil => exact absurd hacc (merge_ne_nil t2 r2)
      | cons x xs =>
        unfold mergeCons
        split <;> simp [isWholePar]

theorem isWholePar_absolutise (parent : Loc) (v : Val) : isWholePar (absolutise parent v) = isWholePar v := by
  cases v with
  | nil => rfl
  | cons t r =>
    cases r with
    | nil =>
      cases t with
      | ref l m =>
        show isWholePar [if l.head? = some entryName then Tok.ref l m else .ref (parent ++ l) m] = false
        split <;> rfl
      | _ => rfl
    | cons t2 r2 => simp [absolutise, isWholePar]

theorem substV_keeps_unknown (look : Name → Option Val) (p : Name) (v : Val) (h : look p = none)
    (hp : p ∈ paramRefs v) : p ∈ paramRefs (substV look v) := by
  cases hw : isWholePar v with
  | false =>
    rw [substV_of_not_whole _ _ hw, paramRefs_substT]
    exact List.mem_flatMap.mpr ⟨p, hp, by rw [keptRefs, h]; exact List.mem_singleton_self p⟩
  | true =>
    obtain ⟨q, rfl⟩ := isWholePar_eq_true hw
    obtain rfl : p = q := List.mem_singleton.mp hp
    rw [substV, h]
    exact hp

theorem substT_unknown (look : Name → Option Val) (v : Val) (h : ∀ p ∈ paramRefs v, look p = none) :
    substT look v = v := by
  induction v with
  | nil => rfl
  | cons t r ih =>
    cases t with
    | par p =>
      rw [substT, h p List.mem_cons_self, ih fun q hq => h q (List.mem_cons_of_mem _ hq)]
      rfl
    | _ => exact congrArg (_ :: ·) (ih h)

theorem substV_unknown (look : Name → Option Val) (v : Val) (h : ∀ p ∈ paramRefs v, look p = none) :
    substV look v = v := by
  unfold substV
  split
  · rw [h _ List.mem_cons_self]; rfl
  · exact substT_unknown look v h

theorem maskReplica_off (rep : Bool) (look : Name → Option Val) (p : Name)
    (h : (rep && p == replicaName) = false) : maskReplica rep look p = look p := by
  rw [maskReplica, h]
  rfl

theorem strayPar_of_mem (rep : Bool) (v : Val) (p : Name) (hp : p ∈ paramRefs v)
    (h : (rep && p == replicaName) = false) : strayPar rep v = true :=
  List.any_eq_true.mpr ⟨p, hp, by rw [h]; rfl⟩

theorem digest_stray (names : List (Loc × FName)) (rep : Bool) (i : Inst)
    (hpar : strayPar rep (merge (substV (maskReplica rep fun q => i.params.lookup q) i.arguments)) = true) :
    ∃ es, digest names rep i = .error es ∧ ErrLoc.tmpl false i.tidx none ∈ es := by
  unfold digest
  simp only [hpar, if_true]
  cases !(partialRefs (merge i.arguments)).isEmpty <;> exact ⟨_, rfl, List.mem_cons_self⟩

theorem finish_invalid {insts : List Inst} {x : ErrLoc} (hx : x ∈ envErrs insts ++ replicaErrs insts) :
    finish insts = .invalid 5 (envErrs insts ++ replicaErrs insts) := by
  unfold finish
  cases he : envErrs insts ++ replicaErrs insts with
  | nil => rw [he] at hx; cases hx
  | cons a r => rfl

end St4sd.C06
