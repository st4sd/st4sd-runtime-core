import St4sd.Lemmas.C02Inv
import St4sd.Lemmas.C01Split
/-!
# C02 — the subscription of a repeating component to its producers (`CompS.watch`), and quiescence

`ComponentState.stageIn` of a repeating component subscribes to the finished-notifications of the producers
that are alive at that moment; its engine is told `notify_all_producers_finished` when all of them have
ended, and only then (or after `kill()`) does the engine end (`Ctrl.canExit`).

`WInv`: a launched repeating component that was not asked to finish HAS a subscription (`sub`), the subscription
list lies within its producers (`within`) and covers every producer that is not final (`cover`).  Only the
launches of a scheduler pass touch `watch` and `ran`; the stage transition touches no component, every other
operation is `C01L.Quiet`.

The invariants are carried along the histories of `hrun` (the operations of `run` plus the stage-completion
hook); `run` is the special case without hook firings, and `hrun` itself is the split system of C01 on the
embedded history, where final states are known to be permanent.
-/
namespace St4sd.C02L
open St4sd.Ctrl
open St4sd.C01L (launch launch_comp launch_ctrl aliveProducers watchAfter)

structure WInv (wf : Wf) (s : St) : Prop where
  sub : ∀ c, (s.comp c).ran = true → (wf.cdef c).isRepeat = true → (s.comp c).finishCalled = false →
    ∃ l, (s.comp c).watch = some l
  within : ∀ c l, (s.comp c).watch = some l → ∀ p ∈ l, p ∈ (wf.cdef c).preds
  cover : ∀ c l, (s.comp c).watch = some l → ∀ p ∈ (wf.cdef c).preds,
    p ∈ l ∨ (s.comp p).ctrl.isSome = true

theorem winv_init (wf : Wf) : WInv wf init := by
  refine ⟨?_, ?_, ?_⟩ <;> simp [init]

theorem WInv.frame {wf : Wf} {s s' : St} (h : WInv wf s) (hq : C01L.Quiet s s') : WInv wf s' := by
  refine ⟨fun c hr hrep hfc => ?_, fun c l hw => ?_, fun c l hw p hp => ?_⟩
  · rw [(hq.comp c).watch]
    refine h.sub c (by rw [← (hq.comp c).ran]; exact hr) hrep ?_
    cases hx : (s.comp c).finishCalled with
    | false => rfl
    | true => have := (hq.comp c).fc hx; simp [hfc] at this
  · rw [(hq.comp c).watch] at hw; exact h.within c l hw
  · rw [(hq.comp c).watch] at hw
    exact (h.cover c l hw p hp).imp_right (hq.ext.isSome p)

theorem WInv.of_comp {wf : Wf} {s s' : St} (h : WInv wf s) (e : s'.comp = s.comp) : WInv wf s' :=
  ⟨by rw [e]; exact h.sub, by rw [e]; exact h.within, by rw [e]; exact h.cover⟩

theorem launch_winv {wf : Wf} {t : St} (hW : WInv wf t) (l : List Nat) :
    WInv wf (launch wf l t) := by
  have hcomp := launch_comp wf l t
  have hctrl := launch_ctrl wf l t
  generalize launch wf l t = t' at hcomp hctrl ⊢
  -- a subscription is the one there was, or the one `stageIn` has just made
  have hwatch : ∀ c w, (t'.comp c).watch = some w → (t.comp c).watch = some w ∨ w = aliveProducers wf t c := by
    intro c w hw
    obtain ⟨k, hk⟩ := hcomp c
    rw [hk] at hw
    split at hw
    · change watchAfter wf t c = some w at hw
      unfold watchAfter at hw
      split at hw
      · exact .inr (Option.some.inj hw).symm
      · exact .inl hw
    · exact .inl hw
  refine ⟨fun c hr hrep hfc => ?_, fun c w hw => ?_, fun c w hw p hp => ?_⟩
  · obtain ⟨k, hk⟩ := hcomp c
    rw [hk] at hr hfc ⊢
    by_cases hc : c ∈ l
    · rw [if_pos hc] at hfc ⊢
      have hfc : (t.comp c).finishCalled = false := hfc
      exact ⟨aliveProducers wf t c, by change watchAfter wf t c = _; simp [watchAfter, hrep, hfc]⟩
    · rw [if_neg hc] at hr hfc ⊢
      exact hW.sub c hr hrep hfc
  · rcases hwatch c w hw with h | rfl
    · exact hW.within c w h
    · exact fun p hp => (List.mem_filter.1 hp).1
  · rw [hctrl]
    rcases hwatch c w hw with h | rfl
    · exact hW.cover c w h p hp
    · cases hc : (t.comp p).ctrl with
      | some f => exact .inr rfl
      | none => exact .inl (List.mem_filter.2 ⟨hp, by simp [hc]⟩)

theorem schedPass_winv {wf : Wf} {s : St} (hI : Inv wf none s) (hW : WInv wf s) : WInv wf (schedPass wf s) := by
  have hWt := hW.frame (visit_fold_inv hI wf.order (fun _ h => h)).2.1
  unfold schedPass
  dsimp only
  split
  · exact hWt
  · exact launch_winv hWt _

theorem step_winv {wf : Wf} {s : St} (hI : Inv wf none s) (hW : WInv wf s) (op : Op) :
    WInv wf (step wf s op) := by
  cases op with
  | sched => exact schedPass_winv hI hW
  | next => exact hW.of_comp (advance_comp wf s).1
  | _ => exact hW.frame (C01L.step_quiet wf hI.core (by nofun) (by nofun)).2

/-! ## histories: `hrun`, and `run` as the histories without hook firings -/

theorem hstep_inv {wf : Wf} {s : St} (hI : Inv wf none s) (hW : WInv wf s) (op : HOp) :
    Inv wf none (hstep wf s op) ∧ WInv wf (hstep wf s op) := by
  cases op with
  | op o => exact ⟨(step_inv o hI).1, step_winv hI hW o⟩
  | hook k => exact ⟨stopStage_inv k hI, hW.frame (C01L.stopStage_spec wf hI.core k).2⟩

theorem hrun_inv (wf : Wf) (ops : List HOp) : Inv wf none (hrun wf ops) ∧ WInv wf (hrun wf ops) :=
  List.foldlRecOn (motive := fun s => Inv wf none s ∧ WInv wf s) ops (hstep wf) ⟨inv_init wf, winv_init wf⟩
    fun _ h op _ => hstep_inv h.1 h.2 op

theorem hrun_op (wf : Wf) (ops : List Op) : hrun wf (ops.map HOp.op) = run wf ops :=
  List.foldl_map

theorem run_inv (wf : Wf) (ops : List Op) : Inv wf none (run wf ops) :=
  hrun_op wf ops ▸ (hrun_inv wf (ops.map .op)).1

theorem run_winv (wf : Wf) (ops : List Op) : WInv wf (run wf ops) :=
  hrun_op wf ops ▸ (hrun_inv wf (ops.map .op)).2

theorem hfoldl_toS (wf : Wf) (ops : List HOp) (s : SSt) :
    ((ops.map HOp.toS).foldl (sstep wf) s).base = ops.foldl (hstep wf) s.base := by
  rw [List.foldl_map]
  exact (List.foldl_hom SSt.base fun _ o => by cases o <;> rfl).symm

theorem hrun_append_keeps (wf : Wf) (ops ops' : List HOp) :
    C01L.Keeps (hrun wf ops) (hrun wf (ops ++ ops')) := by
  have e : ∀ l, hrun wf l = (srun wf (l.map HOp.toS)).base := fun l => (hfoldl_toS wf l sinit).symm
  rw [e, e, List.map_append]
  exact C01L.srun_append_keeps wf _ _

/-! ## consequences -/

theorem notified_of_final {wf : Wf} {s : St} (hW : WInv wf s) (c : Nat) (hr : (s.comp c).ran = true)
    (hrep : (wf.cdef c).isRepeat = true) (hfc : (s.comp c).finishCalled = false)
    (hp : ∀ p ∈ (wf.cdef c).preds, (s.comp p).ctrl.isSome = true) : notified s c = true := by
  obtain ⟨l, hl⟩ := hW.sub c hr hrep hfc
  simp only [notified, hl, List.all_eq_true]
  intro p hpl
  exact hp p (hW.within c l hl p hpl)

theorem final_of_notified {wf : Wf} {s : St} (hW : WInv wf s) (c : Nat) (hn : notified s c = true) :
    ∀ p ∈ (wf.cdef c).preds, (s.comp p).ctrl.isSome = true := by
  intro p hp
  unfold notified at hn
  cases hl : (s.comp c).watch with
  | none => simp [hl] at hn
  | some l =>
    simp only [hl, List.all_eq_true] at hn
    rcases hW.cover c l hl p hp with h | h
    · exact hn p h
    · exact h

theorem canExit_of_final {wf : Wf} {s : St} (hI : Inv wf none s) (hW : WInv wf s) (c : Nat)
    (hr : (s.comp c).ran = true) (hex : (s.comp c).exit = none)
    (hp : ∀ p ∈ (wf.cdef c).preds, (s.comp p).ctrl.isSome = true) : canExit wf s c = true := by
  have hcI := hI.ci c
  have hct := hI.core.ctrl_none_of_exit_none c hex
  simp only [canExit, hr, hex, Option.isNone_none, Bool.and_self, Bool.true_and, Bool.or_eq_true,
    Bool.not_eq_true']
  cases hrep : (wf.cdef c).isRepeat with
  | false => exact Or.inl (Or.inl rfl)
  | true =>
    cases hfc : (s.comp c).finishCalled with
    | true => exact Or.inr (hcI.k3' hfc hr hex hct)
    | false => exact Or.inl (Or.inr (notified_of_final hW c hr hrep hfc hp))

/-- a task that can exit is live -/
theorem quiescentR_of_quiescent {wf : Wf} {s : St} (hq : quiescent wf s = true) : quiescentR wf s = true := by
  simp only [quiescent, Bool.and_eq_true, List.all_eq_true, Bool.not_eq_true'] at hq
  simp only [quiescentR, Bool.and_eq_true, List.all_eq_true, Bool.not_eq_true']
  refine ⟨⟨hq.1.1, fun c hc => ?_⟩, hq.2⟩
  rw [canExit, hq.1.2 c hc]; rfl

theorem quiescentR_all_final' {wf : Wf} {s : St} (h : wf.WF) (hI : Inv wf none s) (hW : WInv wf s)
    (hq : quiescentR wf s = true) :
    ∀ c, c < wf.n → s.done c = true ∧ (s.comp c).ctrl.isSome = true := by
  simp only [quiescentR, comps, Bool.and_eq_true, List.isEmpty_iff, List.all_eq_true, List.mem_range,
    Bool.not_eq_true'] at hq
  obtain ⟨⟨hpend, hlive⟩, hel⟩ := hq
  have hdone : ∀ c, c < wf.n → s.done c = true := by
    intro c
    induction c using Nat.strongRecOn with
    | _ c ih =>
      intro hc
      cases hd : s.done c with
      | true => rfl
      | false =>
        -- its producers are recorded (induction): not staged in, the scheduler would look at it; a live task could
        -- exit; after the task a post-mortem is queued; final but not recorded, a finished-notification is queued
        exfalso
        have hcI := hI.ci c
        have hk6 : (s.comp c).ctrl.isSome = true → False := by
          intro a
          rcases hcI.k6 a with h1 | h1 | h1
          · simp [hd] at h1
          · simp [hpend] at h1
          · simp at h1
        have hpd : ∀ p ∈ (wf.cdef c).preds, s.done p = true := fun p hp =>
          ih p (h.topo c p hp) (Nat.lt_trans (h.topo c p hp) hc)
        cases hs : (s.comp c).staged with
        | false =>
          obtain ⟨_, hct, _, _, _⟩ := unstaged_facts hcI hs
          have hdeps : depsSatisfied wf s c = true := by
            simp only [depsSatisfied, List.all_eq_true, Bool.or_eq_true]
            intro p hp
            exact Or.inl (hpd p hp)
          have := hel c hc
          simp [eligible, hd, hct, hs, hdeps] at this
        | true =>
          cases hr : (s.comp c).ran with
          | false => exact hk6 (hcI.k4 hs hr)
          | true =>
            cases hex : (s.comp c).exit with
            | none =>
              have h1 := canExit_of_final hI hW c hr hex (fun p hp => (hI.ci p).k8 (hpd p hp))
              have h2 := hlive c hc
              rw [h1] at h2; cases h2
            | some r =>
              cases hct : (s.comp c).ctrl with
              | none =>
                have := (hcI.k5 hr (by simp [hex]) hct).1
                simp [hpend] at this
              | some f => exact hk6 (by simp [hct])
  intro c hc
  exact ⟨hdone c hc, (hI.ci c).k8 (hdone c hc)⟩

end St4sd.C02L
