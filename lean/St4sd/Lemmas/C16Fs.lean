import St4sd.Model.HashFs
import St4sd.Lemmas.C16Decode
import St4sd.Lemmas.C16Info
/-!
C16: lemmas about the file-system layer of the hash model (`Model/HashFs.lean`):
what each operation does to `view`, resolving commutes with the sort of the references, and the counting
argument behind "different contents ⇒ different file entries".
-/
namespace St4sd.C16
open St4sd.Str St4sd.Hash

/-! ### `view` after each operation -/

theorem view_cons (k : S) (n : Node) (rest : Fs) (q : S) :
    view ((k, n) :: rest) q = if q = k then some n.view else view rest q := by
  simp only [view, lookupFs, beq_iff_eq, eq_comm (a := k)]
  split <;> rfl

theorem lookup_removeFs (fs : Fs) (p q : S) :
    lookupFs (removeFs fs p) q = if q = p then none else lookupFs fs q := by
  induction fs with
  | nil => simp [removeFs, lookupFs]
  | cons e rest ih =>
    obtain ⟨k, n⟩ := e
    by_cases hk : k = p <;> by_cases hq : q = p <;> by_cases hqk : k = q <;>
      simp_all [removeFs, lookupFs]

theorem view_remove (fs : Fs) (p q : S) : view (removeFs fs p) q = if q = p then none else view fs q := by
  unfold view
  rw [lookup_removeFs]
  split <;> rfl

theorem view_write (fs : Fs) (p c : S) (t i : Nat) (q : S) :
    view (step fs (.write p c t i)) q = if q = p then some (some c) else view fs q := by
  by_cases h : q = p <;> simp [step, view_cons, view_remove, Node.view, h]

theorem view_touch (fs : Fs) (p : S) (t : Nat) (q : S) : view (step fs (.touch p t)) q = view fs q := by
  simp only [step]
  split
  · rename_i c _ i hl
    by_cases h : q = p <;> simp [view_cons, view_remove, Node.view, h]
    simp [view, hl, Node.view]
  · rfl

theorem view_reload (fs : Fs) (q : S) : view (step fs .reload) q = view fs q := rfl

theorem view_rename (fs : Fs) (a b c : S) (t i : Nat) (ha : lookupFs fs a = some (.file c t i)) (hab : a ≠ b)
    (q : S) :
    view (step fs (.rename a b)) q = if q = b then some (some c) else if q = a then none else view fs q := by
  by_cases hb : q = b <;> simp [step, ha, hab, view_cons, view_remove, Node.view, hb]

/-- the paths an operation touches -/
def _root_.St4sd.Hash.Op.paths : Op → List S
  | .write p _ _ _ => [p]
  | .touch p _ => [p]
  | .remove p => [p]
  | .rename a b => [a, b]
  | .reload => []

theorem view_step_other (fs : Fs) (op : Op) (q : S) (h : q ∉ op.paths) : view (step fs op) q = view fs q := by
  cases op with
  | write p c t i => rw [view_write, if_neg (by simpa [Op.paths] using h)]
  | touch p t => exact view_touch fs p t q
  | remove p => simp only [step, view_remove, if_neg (show q ≠ p by simpa [Op.paths] using h)]
  | rename a b =>
    have hq : q ≠ a ∧ q ≠ b := by simpa [Op.paths] using h
    simp only [step]
    split
    · split
      · rfl
      · simp [view_cons, view_remove, hq.1, hq.2]
    · rfl
  | reload => rfl

/-! ### resolving -/

theorem resolve_congr (fs₁ fs₂ : Fs) (r : SRef) (h : view fs₁ r.loc.path = view fs₂ r.loc.path) :
    r.resolve fs₁ = r.resolve fs₂ := by
  simp only [SRef.resolve, resolveTarget, h]

theorem resolve_comp_congr (fs₁ fs₂ : Fs) (c : SComp)
    (h : ∀ r ∈ c.refs, view fs₁ r.loc.path = view fs₂ r.loc.path) : c.resolve fs₁ = c.resolve fs₂ := by
  simp only [SComp.resolve, List.map_congr_left fun r hr => resolve_congr fs₁ fs₂ r (h r hr)]

theorem getH_hashesFs_at (md5 : S → S) (fuzzy : Bool) (bps : Blueprints) (cs : List SComp) (fs : Fs)
    (j : Nat) (c : SComp) (hc : cs[j]? = some c) :
    getH (hashesFs md5 fuzzy bps fs cs) j =
      hashOne md5 fuzzy bps ((hashesFs md5 fuzzy bps fs cs).take j) (c.resolve fs) := by
  rw [getH_eq, hashesFs, hashes_at md5 fuzzy bps _ j (c.resolve fs) (by simp [hc])]
  rfl

theorem sortRefs_resolve (fs : Fs) (l : List SRef) :
    sortRefs (l.map (SRef.resolve fs)) = (sortSRefs l).map (SRef.resolve fs) := by
  have ins (x : SRef) (l : List SRef) :
      insertLen (x.resolve fs) (l.map (SRef.resolve fs)) = (insertLenS x l).map (SRef.resolve fs) := by
    induction l with
    | nil => rfl
    | cons y ys ih =>
      simp only [List.map_cons, insertLen, insertLenS, show (y.resolve fs).abs = y.abs from rfl,
        show (x.resolve fs).abs = x.abs from rfl]
      split <;> simp [ih]
  induction l with
  | nil => rfl
  | cons x xs ih => simp only [List.map_cons, sortRefs, sortSRefs, ih, ins]

theorem sortSRefs_perm (l : List SRef) : (sortSRefs l).Perm l := by
  have ins (x : SRef) (l : List SRef) : (insertLenS x l).Perm (x :: l) := by
    induction l with
    | nil => exact .refl _
    | cons y ys ih =>
      simp only [insertLenS]
      split
      · exact .refl _
      · exact (ih.cons y).trans (.swap x y ys)
  induction l with
  | nil => exact .refl _
  | cons x xs ih => exact (ins x (sortSRefs xs)).trans (ih.cons x)

/-! ### counting file entries -/

/-- how many times the text `k` one reference contributes to `files` -/
def contrib (k : S) : EntryRes → Nat
  | .entry e => if es e = k then 1 else 0
  | _ => 0

variable (md5 : S → S) (fuzzy : Bool) (ph : Nat → Option S)

theorem count_fileEntries (k : S) (l : List Ref) (E : List FileEntry) (h : fileEntries md5 fuzzy ph l = some E) :
    (E.map es).count k = (l.map (fun r => contrib k (entryOf md5 fuzzy ph r))).sum := by
  rw [(fileEntries_eq_some md5 fuzzy ph h).2]
  clear h
  induction l with
  | nil => rfl
  | cons x xs ih =>
    simp only [List.filterMap_cons, List.map_cons, List.sum_cons, ← ih]
    cases entryOf md5 fuzzy ph x with
    | entry e => simp only [EntryRes.entry?, contrib, List.map_cons, List.count_cons, beq_iff_eq]; omega
    | _ => simp only [EntryRes.entry?, contrib, Nat.zero_add]

theorem sum_map_le {α : Type} (l : List α) (f g : α → Nat) (h : ∀ a ∈ l, f a ≤ g a) :
    (l.map f).sum ≤ (l.map g).sum := by
  induction l with
  | nil => exact Nat.le_refl _
  | cons x xs ih =>
    have h1 := h x (List.mem_cons_self ..)
    have h2 := ih fun a ha => h a (List.mem_cons_of_mem _ ha)
    simp only [List.map_cons, List.sum_cons]; omega

theorem sum_map_lt {α : Type} (l : List α) (f g : α → Nat) (h : ∀ a ∈ l, f a ≤ g a) (a : α) (ha : a ∈ l)
    (hlt : f a < g a) : (l.map f).sum < (l.map g).sum := by
  induction l with
  | nil => cases ha
  | cons x xs ih =>
    have h1 := h x (List.mem_cons_self ..)
    have hxs := fun b hb => h b (List.mem_cons_of_mem _ hb)
    have hle := sum_map_le xs f g hxs
    simp only [List.map_cons, List.sum_cons]
    rcases List.mem_cons.mp ha with rfl | hx
    · omega
    · have := ih hxs hx
      omega

/-- the reference reads the contents of its file when the hash is strong, or when the file is not produced by
a component of the graph -/
def Sensitive (fuzzy : Bool) (r : SRef) : Prop := fuzzy = false ∨ ∃ q, r.loc = .direct q

theorem entryOf_sensitive (fs : Fs) (r : SRef) (x : S)
    (hx : view fs r.loc.path = some (some x)) (hs : Sensitive fuzzy r) :
    entryOf md5 fuzzy ph (r.resolve fs) =
      if (md5 x).isEmpty then .fail else .entry ⟨r.abs, md5 x, r.method⟩ := by
  simp only [SRef.resolve, resolveTarget, hx]
  rcases hs with rfl | ⟨q, hq⟩
  · cases r.loc <;> rfl
  · rw [hq]; rfl

theorem contrib_read (fs : Fs) (r : SRef) (x : S)
    (hx : view fs r.loc.path = some (some x)) (hs : Sensitive fuzzy r)
    (hnf : entryOf md5 fuzzy ph (r.resolve fs) ≠ .fail) :
    contrib (md5 x ++ ':' :: r.method) (entryOf md5 fuzzy ph (r.resolve fs)) = 1 := by
  rw [entryOf_sensitive md5 fuzzy ph fs r x hx hs] at hnf ⊢
  split at hnf
  · exact absurd rfl hnf
  · rename_i h; rw [if_neg h]; exact if_pos rfl

theorem entryOf_insensitive (fs fs' : Fs) (r : SRef) (x y : S)
    (hx : view fs r.loc.path = some (some x)) (hy : view fs' r.loc.path = some (some y))
    (hs : ¬ Sensitive true r) :
    entryOf md5 true ph (r.resolve fs) = entryOf md5 true ph (r.resolve fs') := by
  simp only [SRef.resolve, resolveTarget, hx, hy]
  cases hl : r.loc with
  | direct q => exact absurd (Or.inr ⟨q, hl⟩) hs
  | produced p q => rfl

variable (hinj : Function.Injective md5) (fs fs' : Fs) (x y m : S) (hcx : ':' ∉ md5 x) (hcy : ':' ∉ md5 y) (hxy : x ≠ y) (r : SRef)
include hinj hcx hcy hxy

theorem contrib_changed (hy : view fs' r.loc.path = some (some y)) (hs : Sensitive fuzzy r) :
    contrib (md5 x ++ ':' :: m) (entryOf md5 fuzzy ph (r.resolve fs')) = 0 := by
  rw [entryOf_sensitive md5 fuzzy ph fs' r y hy hs]
  split
  · rfl
  · exact if_neg fun e => hxy (hinj (colon_cancel _ _ _ _ hcy hcx e).1).symm

theorem contrib_le (p : S) (hx : view fs p = some (some x)) (hy : view fs' p = some (some y))
    (hag : r.loc.path ≠ p → view fs r.loc.path = view fs' r.loc.path) :
    contrib (md5 x ++ ':' :: m) (entryOf md5 fuzzy ph (r.resolve fs')) ≤
      contrib (md5 x ++ ':' :: m) (entryOf md5 fuzzy ph (r.resolve fs)) := by
  by_cases hp : r.loc.path = p
  · subst hp
    by_cases hs : Sensitive fuzzy r
    · rw [contrib_changed md5 fuzzy ph hinj fs' x y m hcx hcy hxy r hy hs]
      exact Nat.zero_le _
    · obtain rfl : fuzzy = true := by cases fuzzy <;> simp [Sensitive] at hs ⊢
      rw [entryOf_insensitive md5 ph fs fs' r x y hx hy hs]
      exact Nat.le_refl _
  · rw [resolve_congr fs fs' r (hag hp)]
    exact Nat.le_refl _

end St4sd.C16
