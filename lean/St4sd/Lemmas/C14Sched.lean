import St4sd.Lemmas.C14Conc
/-!
Lemmas for C14: every schedule of n protocol-following updates is accepted by the protocol checker
(`interleave_accepted`).  The simulation: the checker's sessions are at every moment exactly those of the updates in
flight, each at its program counter (`Rel`); so the next event of an update finds what the protocol asks for — no session
of its own at the `open`, its own open session at a `write` or the `close`, in its staging path only its own session,
closed and complete, at the `rename` — and it leaves the sessions of the others alone (`rel_step`).
-/
namespace St4sd.FsConc
open St4sd.FsAtomic (Path Content flatten)

theorem flatten_take_succ (l : List Content) (k : Nat) (h : k < l.length) :
    flatten (l.take (k + 1)) = flatten (l.take k) ++ l[k] := by
  induction l generalizing k with
  | nil => simp at h
  | cons c cs ih =>
    cases k with
    | zero => simp [flatten]
    | succ k =>
      simp only [List.take_succ_cons, flatten, List.getElem_cons_succ]
      rw [ih k (by simpa using h), List.append_assoc]

theorem prog_get {t : Path} {w : Nat} {u : Upd} {k : Nat} {e : Ev} (h : (prog t w u)[k]? = some e) :
    (k = 0 ∧ e = .openW w u.tmp) ∨ (∃ j, ∃ hj : j < u.chunks.length, k = j + 1 ∧ e = .write w u.chunks[j]) ∨
      (k = u.chunks.length + 1 ∧ e = .close w) ∨ (k = u.chunks.length + 2 ∧ e = .rename u.tmp t) := by
  cases k with
  | zero => exact .inl ⟨rfl, (Option.some.inj h).symm⟩
  | succ k =>
    have h : (u.chunks.map (Ev.write w) ++ [.close w, .rename u.tmp t])[k]? = some e := h
    rw [List.getElem?_append, List.length_map] at h
    split at h
    · next hk => exact .inr (.inl ⟨k, hk, rfl, by simpa [hk] using h.symm⟩)
    · next hk =>
      obtain ⟨m, rfl⟩ : ∃ m, k = u.chunks.length + m := ⟨k - u.chunks.length, by omega⟩
      rw [Nat.add_sub_cancel_left] at h
      -- only the `close` and the `rename` are left
      match m, h with
      | 0, h => exact .inr (.inr (.inl ⟨rfl, (Option.some.inj h).symm⟩))
      | 1, h => exact .inr (.inr (.inr ⟨rfl, (Option.some.inj h).symm⟩))

/-- the session that update `w` has in flight when its program counter is `k`: open until the `close` at
`chunks.length + 1` has been done, holding the chunks written so far -/
def sessAt (w : Nat) (u : Upd) (k : Nat) : Sess :=
  ⟨w, u.tmp, decide (k ≤ u.chunks.length + 1), flatten (u.chunks.take (k - 1))⟩

/-- between its `open` and its `rename` -/
def InFlight (u : Upd) (k : Nat) : Prop := 1 ≤ k ∧ k ≤ u.chunks.length + 2

theorem sessAt_write (w : Nat) (u : Upd) (k : Nat) (h : k < u.chunks.length) :
    { sessAt w u (k + 1) with buf := (sessAt w u (k + 1)).buf ++ u.chunks[k] } = sessAt w u (k + 2) := by
  simp [sessAt, flatten_take_succ _ _ h]
  omega

theorem sessAt_close (w : Nat) (u : Upd) :
    { sessAt w u (u.chunks.length + 1) with isOpen := false } = sessAt w u (u.chunks.length + 2) := by
  simp [sessAt, List.take_of_length_le]

/-- the sessions of the protocol checker are those of the updates in flight, at their program counters -/
structure Rel (us : List Upd) (pc : Nat → Nat) (c : Chk) : Prop where
  sess : ∀ x, x ∈ c.sess ↔ ∃ u, us[x.w]? = some u ∧ InFlight u (pc x.w) ∧ x = sessAt x.w u (pc x.w)
  inst : ∀ v ∈ c.installed, ∃ u ∈ us, v = flatten u.chunks

section Step
variable {t : Path} {us : List Upd} {pc : Nat → Nat} {c : Chk} {w : Nat} {u : Upd}

theorem Rel.live (rel : Rel us pc c) (hu : us[w]? = some u) (h : InFlight u (pc w)) : sessAt w u (pc w) ∈ c.sess :=
  (rel.sess _).2 ⟨u, hu, h, rfl⟩

theorem Rel.own (rel : Rel us pc c) (hu : us[w]? = some u) {x : Sess} (hx : x ∈ c.sess) (hw : x.w = w) :
    InFlight u (pc w) ∧ x = sessAt w u (pc w) := by
  obtain ⟨u', h1, h2, h3⟩ := (rel.sess x).1 hx
  rw [hw, hu] at h1
  cases h1
  rw [hw] at h2 h3
  exact ⟨h2, h3⟩

theorem Rel.paths (rel : Rel us pc c) (hd : DistinctTmps t us) {x : Sess} (hx : x ∈ c.sess) :
    x.p ≠ t ∧ ∀ w u, us[w]? = some u → x.w ≠ w → x.p ≠ u.tmp := by
  obtain ⟨u', h1, _, h3⟩ := (rel.sess x).1 hx
  have hp : x.p = u'.tmp := congrArg Sess.p h3
  exact ⟨hp ▸ hd.notT _ _ h1, fun w u hu hne e => hne (hd.ne _ _ _ _ h1 hu (hp.symm.trans e))⟩

theorem Rel.advance (rel : Rel us pc c) (hu : us[w]? = some u) {c1 : Chk}
    (hsess : ∀ y, y ∈ c1.sess ↔ (y ∈ c.sess ∧ y.w ≠ w) ∨ (InFlight u (pc w + 1) ∧ y = sessAt w u (pc w + 1)))
    (hinst : ∀ v ∈ c1.installed, ∃ u ∈ us, v = flatten u.chunks) : Rel us (upd pc w (pc w + 1)) c1 := by
  refine ⟨fun y => ?_, hinst⟩
  rw [hsess, rel.sess]
  by_cases hy : y.w = w
  · simp only [hy, upd_same, hu, ne_eq, not_true_eq_false, and_false, false_or, Option.some.injEq, exists_eq_left']
  · simp only [upd_other _ _ _ _ hy, ne_eq, hy, not_false_eq_true, and_true]
    exact or_iff_left fun h => hy (congrArg Sess.w h.2)

/-- `open`: the update has no session yet, and nobody else stages in its path. -/
theorem rel_open (hd : DistinctTmps t us) (rel : Rel us pc c) (hu : us[w]? = some u) (h0 : pc w = 0) :
    ∃ c1, chkStep t c (.openW w u.tmp) = some c1 ∧ Rel us (upd pc w (pc w + 1)) c1 := by
  have hnone : ∀ x ∈ c.sess, x.w ≠ w := fun x hx e => absurd (rel.own hu hx e).1.1 (by rw [h0]; decide)
  refine ⟨_, chkStep_openW.mpr
      ⟨hd.notT _ _ hu, fun x hx => ⟨hnone x hx, (rel.paths hd hx).2 w u hu (hnone x hx)⟩, rfl⟩,
    rel.advance hu (fun y => ?_) rel.inst⟩
  have hnew : sessAt w u (pc w + 1) = ⟨w, u.tmp, true, []⟩ := by simp [sessAt, h0, flatten]
  have hfl : InFlight u (pc w + 1) := by rw [h0]; exact ⟨Nat.le_refl _, Nat.le_add_left _ _⟩
  show y ∈ _ :: c.sess ↔ _
  rw [hnew, List.mem_cons, or_comm]
  exact or_congr ⟨fun h => ⟨h, hnone y h⟩, And.left⟩ ⟨fun h => ⟨hfl, h⟩, And.right⟩

/-- `write`, `close`: the session of the update is open until its `close` has been done, and what the checker does to it
(`g`) gives the session at the next counter. -/
theorem Rel.advance_own (rel : Rel us pc c) (hu : us[w]? = some u) (g : Sess → Sess) (h1 : 1 ≤ pc w)
    (h2 : pc w ≤ u.chunks.length + 1) (hg : g (sessAt w u (pc w)) = sessAt w u (pc w + 1)) :
    (∃ x ∈ c.sess, x.w = w ∧ x.isOpen = true) ∧
      Rel us (upd pc w (pc w + 1)) { c with sess := c.sess.map (onW w g) } := by
  have hx0 := rel.live hu ⟨h1, Nat.le_succ_of_le h2⟩
  refine ⟨⟨_, hx0, rfl, decide_eq_true h2⟩, rel.advance hu (fun y => ?_) rel.inst⟩
  show y ∈ c.sess.map (onW w g) ↔ _
  rw [List.mem_map]
  constructor
  · rintro ⟨x, hx, rfl⟩
    by_cases hxw : x.w = w
    · rw [onW_eq hxw, (rel.own hu hx hxw).2, hg]
      exact .inr ⟨⟨Nat.succ_le_succ (Nat.zero_le _), Nat.succ_le_succ h2⟩, rfl⟩
    · rw [onW_ne hxw]
      exact .inl ⟨hx, hxw⟩
  · rintro (⟨hy, hyw⟩ | ⟨_, rfl⟩)
    · exact ⟨y, hy, onW_ne hyw⟩
    · exact ⟨_, hx0, (onW_eq rfl).trans hg⟩

/-- `rename`: the sessions staged in the update's path are its own, that is one, closed and complete. -/
theorem rel_rename (hd : DistinctTmps t us) (rel : Rel us pc c) (hu : us[w]? = some u)
    (hk : pc w = u.chunks.length + 2) :
    ∃ c1, chkStep t c (.rename u.tmp t) = some c1 ∧ Rel us (upd pc w (pc w + 1)) c1 := by
  have hx0 := rel.live hu ⟨by omega, by omega⟩
  have hiff : ∀ x ∈ c.sess, x.p = u.tmp ↔ x.w = w := fun x hx =>
    ⟨fun e => Decidable.byContradiction fun hne => (rel.paths hd hx).2 w u hu hne e,
      fun e => congrArg Sess.p (rel.own hu hx e).2⟩
  have hmine : ∀ x ∈ c.sess, x.p = u.tmp → x = sessAt w u (pc w) := fun x hx e => (rel.own hu hx ((hiff x hx).1 e)).2
  obtain ⟨x1, hf1⟩ := Option.isSome_iff_exists.1
    (List.find?_isSome (p := fun x : Sess => x.p == u.tmp).2 ⟨_, hx0, beq_self_eq_true u.tmp⟩)
  have hx1 := hmine x1 (List.mem_of_find?_eq_some hf1) (by simpa using List.find?_some hf1)
  refine ⟨⟨c.sess.filter (fun y => y.p != u.tmp), x1.buf :: c.installed⟩,
    chkStep_rename.mpr ⟨hd.notT _ _ hu, fun x hx => ⟨fun e => ?_, fun e => absurd e (rel.paths hd hx).1⟩,
      by rw [if_pos rfl]; exact ⟨x1, hf1, rfl⟩⟩, rel.advance hu (fun y => ?_) ?_⟩
  · rw [hmine x hx e]
    simp [sessAt, hk]
  · show y ∈ c.sess.filter _ ↔ _
    rw [List.mem_filter, or_iff_left fun ⟨⟨_, h⟩, _⟩ => by omega]
    exact and_congr_right fun hy => by simp [hiff y hy]
  · intro v hv
    rcases List.mem_cons.1 hv with rfl | hv
    · exact ⟨u, List.mem_of_getElem? hu, by rw [hx1, hk]; simp [sessAt, List.take_of_length_le]⟩
    · exact rel.inst v hv

theorem rel_step (hd : DistinctTmps t us) (rel : Rel us pc c) (hu : us[w]? = some u) {e : Ev}
    (he : (prog t w u)[pc w]? = some e) : ∃ c1, chkStep t c e = some c1 ∧ Rel us (upd pc w (pc w + 1)) c1 := by
  rcases prog_get he with ⟨h0, rfl⟩ | ⟨j, hj, hk, rfl⟩ | ⟨hk, rfl⟩ | ⟨hk, rfl⟩
  · exact rel_open hd rel hu h0
  · obtain ⟨hacc, rel1⟩ := rel.advance_own hu (fun x => { x with buf := x.buf ++ u.chunks[j] })
      (hk ▸ Nat.le_add_left 1 j) (hk ▸ Nat.succ_le_succ (Nat.le_of_lt hj))
      (by rw [hk]; exact sessAt_write w u j hj)
    exact ⟨_, chkStep_write.mpr ⟨hacc, rfl⟩, rel1⟩
  · obtain ⟨hacc, rel1⟩ := rel.advance_own hu (fun x => { x with isOpen := false })
      (hk ▸ Nat.le_add_left 1 _) (Nat.le_of_eq hk)
      (by rw [hk]; exact sessAt_close w u)
    exact ⟨_, chkStep_close.mpr ⟨hacc, rfl⟩, rel1⟩
  · exact rel_rename hd rel hu hk

end Step

theorem interleave_accepted (t : Path) (us : List Upd) (hd : DistinctTmps t us) (sched : List Nat) :
    ∀ (pc : Nat → Nat) (c : Chk), Rel us pc c →
      ∃ c', chkRun t c (interleave t us pc sched) = some c' ∧ ∀ v ∈ c'.installed, ∃ u ∈ us, v = flatten u.chunks := by
  induction sched with
  | nil => intro pc c rel; exact ⟨c, rfl, rel.inst⟩
  | cons w s ih =>
    intro pc c rel
    cases hu : us[w]? with
    | none => simp only [interleave, hu]; exact ih pc c rel
    | some u =>
      cases he : (prog t w u)[pc w]? with
      | none => simp only [interleave, hu, he]; exact ih pc c rel
      | some e =>
        simp only [interleave, hu, he]
        obtain ⟨c1, h1, rel1⟩ := rel_step hd rel hu he
        obtain ⟨c', h2, h3⟩ := ih _ c1 rel1
        exact ⟨c', by simp only [chkRun, h1, h2], h3⟩

theorem rel_init (us : List Upd) : Rel us (fun _ => 0) chk0 :=
  ⟨fun _ => ⟨fun hx => absurd hx List.not_mem_nil, fun ⟨_, _, h, _⟩ => absurd h.1 (by decide)⟩,
    fun _ hv => absurd hv List.not_mem_nil⟩

end St4sd.FsConc
