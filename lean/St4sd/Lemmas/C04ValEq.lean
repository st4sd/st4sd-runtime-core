import St4sd.Model.Tree
/-!
# Decidable equality of configuration trees

`Val` is a nested inductive type, for which `deriving DecidableEq` is not available.  The instance lets the kernel
evaluate test vectors whose answers are trees (`decide +kernel`); it is imported only by the files that hold such
test vectors.  Their answers are `Except Err Val`, so `DecidableEq` for `Except` is derived here too.
-/
namespace St4sd.Tree

mutual
def Val.beq : Val → Val → Bool
  | .null, .null => true
  | .bool a, .bool b => a == b
  | .int a, .int b => a == b
  | .flt a, .flt b => a == b
  | .str a, .str b => a == b
  | .list a, .list b => beqList a b
  | .dict a, .dict b => beqFields a b
  | _, _ => false
def beqList : List Val → List Val → Bool
  | [], [] => true
  | a :: as, b :: bs => a.beq b && beqList as bs
  | _, _ => false
def beqFields : Fields → Fields → Bool
  | [], [] => true
  | (k, a) :: as, (l, b) :: bs => k == l && a.beq b && beqFields as bs
  | _, _ => false
end

mutual
theorem Val.beq_iff : ∀ a b : Val, a.beq b = true ↔ a = b
  | .null, b => by cases b <;> simp [Val.beq]
  | .bool _, b => by cases b <;> simp [Val.beq]
  | .int _, b => by cases b <;> simp [Val.beq]
  | .flt _, b => by cases b <;> simp [Val.beq]
  | .str _, b => by cases b <;> simp [Val.beq]
  | .list a, b => by cases b <;> simp [Val.beq, beqList_iff a]
  | .dict a, b => by cases b <;> simp [Val.beq, beqFields_iff a]
theorem beqList_iff : ∀ a b : List Val, beqList a b = true ↔ a = b
  | [], b => by cases b <;> simp [beqList]
  | a :: as, b => by cases b <;> simp [beqList, Val.beq_iff a, beqList_iff as]
theorem beqFields_iff : ∀ a b : Fields, beqFields a b = true ↔ a = b
  | [], b => by cases b <;> simp [beqFields]
  | (k, a) :: as, b => by
    cases b with
    | nil => simp [beqFields]
    | cons e bs => cases e; simp [beqFields, Val.beq_iff a, beqFields_iff as, and_assoc]
end

instance : DecidableEq Val := fun a b => decidable_of_iff _ (Val.beq_iff a b)

deriving instance DecidableEq for Except

end St4sd.Tree
