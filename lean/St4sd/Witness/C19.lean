import St4sd.Model.IniFloat
import St4sd.Model.IniProc
import St4sd.Model.IniDir
/-!
Witnesses for C19 (hand-written copies of the table rows as they are in the unrepaired code, so that
this file checks whatever the state of /repo):

* `max-restarts` is a known key (through `_translate_map`) but the reader's branch tests the FlowIR
  name `maxRestarts`: the line is consumed and the option is lost (fixes/C19-max-restarts-key.diff);
* the boolean printers apply `str(value).lower()` to a variable reference (fixes/C19-bool-varref-lowercased.diff);
* an explicitly empty list is written as `key = `, read as `[]` and removed by `compress_flowir`, so the
  default shows through (known finding).
-/
namespace St4sd.C19.Witness
open St4sd.Ini

def wa : List Char := "workflowAttributes".toList
def oldDump : List DumpEntry := [⟨[wa, "maxRestarts".toList], "max-restarts".toList, .strOf⟩]
def oldParse : List ParseEntry := [⟨"maxRestarts".toList, [([wa, "maxRestarts".toList], .parsed .toInt)]⟩]
def oldKnown : List (List Char) := ["max-restarts".toList, "replicate".toList]

/-- `maxRestarts = 4` is written as `max-restarts = 4`; reading the section back yields nothing at all -/
theorem old_max_restarts_lost :
    dumpSection oldDump [] [([wa, "maxRestarts".toList], .int 4)] = [("max-restarts".toList, "4".toList)] ∧
    parseSection oldParse oldKnown (dumpSection oldDump [] [([wa, "maxRestarts".toList], .int 4)]) = some [] := by
  unfold oldDump oldParse oldKnown wa
  -- a literal is `String.ofList [chars]`: as a character list it is not run through the UTF-8 decoder by the kernel
  simp -index only [String.toList_ofList]
  decide +kernel

theorem old_tables_disagree : oldDump.all (agrees oldParse oldKnown) = false := by
  unfold oldDump oldParse oldKnown wa
  simp -index only [String.toList_ofList]
  decide +kernel

/-- the repaired row agrees -/
theorem fixed_tables_agree :
    oldDump.all (agrees [⟨"max-restarts".toList, [([wa, "maxRestarts".toList], .parsed .toInt)]⟩] oldKnown) = true := by
  unfold oldDump oldKnown wa
  simp -index only [String.toList_ofList]
  decide +kernel

/-- `resolvePath = %(GBool)s`: the old printer changes the name of the variable, the repaired one does not -/
theorem old_bool_printer_renames_variable :
    parse .toBool (print .strLower (.str "%(GBool)s".toList)) = some (.str "%(gbool)s".toList) ∧
    parse .toBool (print .lowerIfBool (.str "%(GBool)s".toList)) = some (.str "%(GBool)s".toList) ∧
    parse .toBool (print .lowerIfBool (.bool true)) = some (.bool true) := by
  simp -index only [String.toList_ofList]
  decide +kernel

def hookOn : Path := [wa, "restartHookOn".toList]
def hookDump : List DumpEntry := [⟨hookOn, "restart-hook-on".toList, .joinWords⟩]
def hookParse : List ParseEntry := [⟨"restart-hook-on".toList, [(hookOn, .parsed .split)]⟩]
def dflt (p : Path) : Val := if p = hookOn then .words ["ResourceExhausted".toList] else .none

/-- an explicitly empty `restartHookOn` survives writer and reader (`restart-hook-on = ` → `[]`) but not
`compress_flowir`: the resolved option is the default `['ResourceExhausted']` again -/
theorem empty_list_shows_default :
    parseSection hookParse ["restart-hook-on".toList] (dumpSection hookDump [] [(hookOn, .words [])])
      = some [(hookOn, .words [])] ∧
    resolve dflt [(hookOn, .words [])] hookOn = .words [] ∧
    resolve dflt (compress [(hookOn, .words [])]) hookOn = .words ["ResourceExhausted".toList] := by
  delta dflt
  unfold hookParse hookDump hookOn wa
  simp -index only [String.toList_ofList]
  decide +kernel

/-! Name decoders that agree with the coded ones on the names of ordinary packages (one hyphen, one digit)
but not on the whole name class of `Props.C19.section_name_roundtrip` / `stage_section_roundtrip`. -/
section Names
open St4sd.IniNames St4sd.Str

/-- `split('-')[1]` equals `[4:]` for `ENV-MPI` but truncates an environment whose own name has a hyphen -/
theorem split_at_hyphen_truncates :
    envNameBySplit (envSection "mpi".toList) = envName (envSection "mpi".toList) ∧
    envNameBySplit (envSection "hpc-python".toList) = some "HPC".toList ∧
    envName (envSection "hpc-python".toList) = some "HPC-PYTHON".toList := by
  simp -index only [String.toList_ofList]
  decide +kernel

/-- reading one digit of the stage index is right up to `STAGE9` and wrong from `STAGE10` on -/
theorem one_digit_stage_index_breaks_at_ten :
    stageIndexOneDigit (stageSection 9) = some 9 ∧ stageIndexOneDigit (stageSection 10) = some 1 ∧
    stageIndex (stageSection 10) = some 10 := by decide +kernel

end Names

/-! A printer with a fixed precision (`'%.2f' % value`, the format of the auto-generated default weights)
instead of `str(value)` looks the same on weights such as 0.01 / 0.04 / 0.95 and is not a round trip on the
float fields that have more digits. -/
section Numbers
open St4sd.IniFloat St4sd.Str

def w0005 : Lit := ⟨false, ['0'], some ['0', '0', '5'], none⟩
def w0125 : Lit := ⟨false, ['0'], some ['1', '2', '5'], none⟩
def w075 : Lit := ⟨false, ['0'], some ['7', '5'], none⟩
def w004 : Lit := ⟨false, ['0'], some ['0', '4'], none⟩

/-- `str(0.005)` is read back as 0.005; with two fixed fraction digits the file says 0.00 (digits cut off) or
0.01 (rounded) and the loaded weight is another number -/
theorem fixed_precision_printer_does_not_roundtrip :
    canonical w0005 = true ∧ printWeight w0005 = "0.005".toList ∧ parseWeight (printWeight w0005) = some w0005 ∧
    printFixed2 w0005 = "0.00".toList ∧ parseWeight (printFixed2 w0005) ≠ some w0005 ∧
    printFixed2Round w0005 = "0.01".toList ∧ parseWeight (printFixed2Round w0005) ≠ some w0005 := by decide +kernel

/-- the same for 0.125 (0.12 / 0.13), while a weight with two decimals survives both printers up to its literal's
value (0.04 -> 0.04) -/
theorem fixed_precision_printer_0125 :
    canonical w0125 = true ∧ parseWeight (printWeight w0125) = some w0125 ∧
    printFixed2 w0125 = "0.12".toList ∧ parseWeight (printFixed2 w0125) ≠ some w0125 ∧
    printFixed2Round w0125 = "0.13".toList ∧ parseWeight (printFixed2Round w0125) ≠ some w0125 ∧
    parseWeight (printFixed2 w004) = some w004 ∧ parseWeight (printFixed2Round w004) = some w004 := by decide +kernel

/-- thousandths of an exponent-free literal -/
def thousandths (w : Lit) : Nat := (digitsToNat? (w.int ++ ((w.frac.getD []) ++ ['0', '0', '0']).take 3)).getD 0

/-- the weights 0.125 / 0.125 / 0.75 add up to one; what a two-digit printer leaves of them does not
(0.12 + 0.12 + 0.75 = 0.99), so FlowIR would replace all of them by equal weights -/
theorem fixed_precision_breaks_the_sum :
    ([w0125, w0125, w075].map thousandths).sum = 1000 ∧
    ([w0125, w0125, w075].map fun w => thousandths (fixed2 w)).sum = 990 := by decide +kernel

end Numbers

/-! ### why `known_flowir_options()` must hand out a fresh list

`validate_component` extends the answer of `known_flowir_options()` with the options of the component's backend.  If
the answer were one cached list object (`IniProc.parseSeq true`), every option name of a backend read earlier in the
process would count as a known key from then on: a component variable of that name (the simulator backend is
parametrised through such variables) is consumed by the if/elif chain, which has no branch for it, and is lost — in
the simulator component itself and in every component read later, of any workflow. -/
section Process
open St4sd.IniProc

def simKey : List Char := "sim_expected_exit_code".toList
def procParse : List ParseEntry :=
  [⟨jobType, [(["resourceManager".toList, "config".toList, "backend".toList], .parsed .raw)]⟩]
def procKnown : List (List Char) := [jobType]
def procBackends : BackendTable := [("simulator".toList, [simKey])]
def simSection : Section := [(jobType, "simulator".toList), (simKey, "0".toList)]
def laterSection : Section := [(jobType, "local".toList), (simKey, "3".toList)]

/-- the code that exists: both components keep the variable, in either order -/
theorem fresh_list_keeps_variables :
    (parseSeq false procParse procBackends ⟨procKnown⟩ [simSection, laterSection]).2
      = [some [(["resourceManager".toList, "config".toList, "backend".toList], .str "simulator".toList),
               ([variablesSeg, simKey], .str "0".toList)],
         some [(["resourceManager".toList, "config".toList, "backend".toList], .str "local".toList),
               ([variablesSeg, simKey], .str "3".toList)]] := by
  unfold procParse procKnown procBackends simSection laterSection simKey
  simp -index only [String.toList_ofList]
  decide +kernel

/-- a cached list: the variable is gone from both components … -/
theorem cached_list_drops_variables :
    (parseSeq true procParse procBackends ⟨procKnown⟩ [simSection, laterSection]).2
      = [some [(["resourceManager".toList, "config".toList, "backend".toList], .str "simulator".toList)],
         some [(["resourceManager".toList, "config".toList, "backend".toList], .str "local".toList)]] := by
  unfold procParse procKnown procBackends simSection laterSection simKey
  simp -index only [String.toList_ofList]
  decide +kernel

/-- … and the answer for `laterSection` depends on what was read before -/
theorem cached_list_answer_depends_on_history :
    (parseSeq true procParse procBackends ⟨procKnown⟩ [laterSection]).2
      = [some [(["resourceManager".toList, "config".toList, "backend".toList], .str "local".toList),
               ([variablesSeg, simKey], .str "3".toList)]] := by
  unfold procParse procKnown procBackends laterSection simKey
  simp -index only [String.toList_ofList]
  decide +kernel

end Process

/-! ### why the clean-up of `dump(update_existing=True)` must remove every stage file of the flavour

A clean-up that removes only the files about to be regenerated (`IniDir.dumpKeep`) leaves the file of a stage that the
new description no longer has; `_discover_stages` picks it up and the loaded description has a phantom stage. -/
section Directory
open St4sd.IniDir

def three : Files Nat := descOf [10, 11, 12]
def two : Files Nat := descOf [20, 21]

theorem cleanup_of_all_stage_files_no_phantom :
    discover ((dump (dump (⟨[], []⟩ : Dir Nat) true three) true two).files true) = some [20, 21] := by decide

theorem partial_cleanup_leaves_phantom_stage :
    discover ((dumpKeep (dumpKeep (⟨[], []⟩ : Dir Nat) true three) true two).files true) = some [20, 21, 12] := by decide +kernel

end Directory

end St4sd.C19.Witness
