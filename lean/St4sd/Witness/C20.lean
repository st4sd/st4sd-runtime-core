import St4sd.Model.Weights
/-!
Witnesses for C20: the algorithm *before* the repair (`keptOld`: keep iff the truncated
thousandths `int(w*1000)` sum to 1000) violates the property.  The `ts` below are the values
CPython computes for the weights named in the comment; the harness replays the same weights
on the real loader.
-/
namespace St4sd.C20.Witness
open St4sd.Weights

/-- (0.5004, 0.5004): truncated to (500, 500): kept although the sum is 1.0008 -/
theorem old_keeps_sum_above_one : keptOld [500, 500] = true ∧ sum [500400000, 500400000] ≠ one := by decide
/-- (-0.5, 1.5): kept although one weight is negative -/
theorem old_keeps_negative : keptOld [-500, 1500] = true ∧ allNonneg [-500000000, 1500000000] = false := by decide
/-- (0.3333, 0.3333, 0.3334) sums to one but is replaced -/
theorem old_replaces_proper : keptOld [333, 333, 333] = false ∧ sum [333300000, 333300000, 333400000] = one := by decide

/-! Reading the in-transit list and the finished list at two different instants (not inside
one `comp_lock` critical section) breaks the hypothesis of `progress_of_partition_le_one`. -/

/-- weights (0.1, 0.8, 0.1), current stage 0 complete; stage 1 is read as in transit (its
progress already 1.0), completes, and is then read as finished too: it is counted twice and
the reported total is 1.7 > 1. -/
theorem double_count_without_disjointness :
    checkTotal 1000 0 [1] [1] (readOf [1000, 1000, 0]) [100000000, 800000000, 100000000] = 1700 * one ∧
    ¬ (checkTotal 1000 0 [1] [1] (readOf [1000, 1000, 0]) [100000000, 800000000, 100000000]
        ≤ 1000 * sum [100000000, 800000000, 100000000]) := by decide +kernel

/-- the other order (finished list first, in-transit list later): a stage that completes in
between is in neither list and its weight is lost: the total (0.1) is below the progress of
every state the controller went through (0.9). -/
theorem lost_stage_without_snapshot :
    checkTotal 1000 0 [] [] (readOf [1000, 0, 0]) [100000000, 800000000, 100000000] = 100 * one ∧
    wsum (readOf [1000, 1000, 0]) [100000000, 800000000, 100000000] = 900 * one := by decide +kernel

/-- a finished list with a repetition counts the stage twice as well -/
theorem double_count_with_repetition :
    ¬ (checkTotal 1000 0 [] [1, 1] (readOf [0, 0]) [200000000, 800000000] ≤ 1000 * sum [200000000, 800000000]) := by
  decide +kernel

/-- Twelve stages lined up by the lexicographic order of their names (stage0, stage1, stage10,
stage11, stage2, …): the list passes `StatusMonitor`'s re-check (`proper`) but position 2 holds
the weight of stage 10 — not what `monitor_keeps_loaded` states. -/
theorem lexicographic_order_passes_recheck :
    let loaded : List Int := [10, 10, 10, 10, 10, 10, 10, 10, 10, 10, 10, 890].map (· * 1000000)
    let lex : List Int := [10, 10, 10, 890, 10, 10, 10, 10, 10, 10, 10, 10].map (· * 1000000)
    proper loaded = true ∧ proper lex = true ∧ monitorWeights loaded = some loaded ∧ lex ≠ loaded := by decide +kernel

/-- A loader that validates with the default 0.0 but does not store it: package weights
(0.4, 0.6, missing) sum to one, yet `StatusMonitor` meets a stage without `stage-weight`, puts its
sentinel there, fails its own test and falls back to `1/n` for ALL stages — whereas the report of
the real loader (`loadReport`) gives (0.4, 0.6, 0.0). -/
theorem report_without_default_falls_back :
    monitorFromReport (loadReportNoDefault [some 400000000, some 600000000, none]) = none ∧
    monitorFromReport (loadReport [some 400000000, some 600000000, none]) = some [400000000, 600000000, 0] := by
  decide +kernel

/-- A denominator remembered at the first query goes stale when the stage grows: one component,
queried, finished; the DoWhile adds two components which finish too: 3 finished over the
remembered population 1 (progress 3.0), where the current population gives 3/3. -/
theorem stale_population_exceeds_one :
    let c := run ⟨[[false], [false]], [none, none]⟩ [.query 1, .fin 1 0, .grow 1 2, .fin 1 1, .fin 1 2]
    queryStageStale c 1 = (3, 1) ∧ queryStage c 1 = (3, 3) := by decide +kernel

/-- An in-transit list that skips nodes by their STATE being FINISHED (instead of by `comp_done`
membership) puts a stage that completed with a SHUTDOWN component into BOTH lists: its weight is
counted 1 + 1/2 times (0.3 instead of 0.2 while stage 1 runs) and the total exceeds one (1.1) once every
stage has completed — `compTotal` (lists from `comp_done`) reports 0.2 and 1.0 on the same states. -/
theorem by_state_in_transit_double_counts :
    let ws := [200000000, 300000000, 500000000]
    let s1 : List (List Comp) := [[⟨some .finished, true⟩, ⟨some .shutdown, true⟩], [Comp.fresh], [Comp.fresh]]
    let s2 : List (List Comp) := [[⟨some .finished, true⟩, ⟨some .shutdown, true⟩], [⟨some .finished, true⟩], [⟨some .finished, true⟩]]
    (0 ∈ inTransitByStateOf s1 ∧ 0 ∈ finishedOf s1) ∧
    compTotalByState 1 s1 ws = 2 * 300000000 ∧ compTotal 1 s1 ws = 2 * 200000000 ∧
    compTotalByState 2 s2 ws = 2 * 1100000000 ∧ compTotal 2 s2 ws = 2 * one := by decide +kernel

/-- The code that exists reports the FINISHED fraction for the CURRENT stage even when all of its
components terminated: a last stage that was stopped (one component FINISHED, one SHUTDOWN) keeps the
total at 0.75 although every stage has terminated (hypothesis `hcur` of `comp_total_complete`). -/
theorem current_stage_with_stopped_component_stays_below_one :
    compTotal 1 [[⟨some .finished, true⟩], [⟨some .finished, true⟩, ⟨some .shutdown, true⟩]]
      [500000000, 500000000] = 2 * 750000000 := by decide +kernel

end St4sd.C20.Witness
