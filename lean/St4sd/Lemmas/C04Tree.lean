import St4sd.Model.Resolve
/-!
# Association lists of C04 / C08: `get` through `++`, `erase`, `set`, `update`, `override`

Layering two collections is `Option.or` on what they say about one key: the later (higher) one first.
Last, what `resolveCompF` reads of a description.
-/
namespace St4sd.Tree
open St4sd.Str

theorem get_append (a b : Fields) (k : S) : get (a ++ b) k = (get a k).or (get b k) := by
  induction a with
  | nil => rfl
  | cons h t ih =>
    simp only [List.cons_append, get, ih]
    split <;> rfl

theorem get_filter_absent (a b : Fields) (k : S) :
    get (b.filter (fun kv => (get a kv.1).isNone)) k = if (get a k).isNone then get b k else none := by
  induction b with
  | nil => simp [get]
  | cons h t ih => grind [get]

/-- `override_object` on two values neither of which is a dictionary: `new` unless it is `None` -/
theorem override_leaf (a b : Val) (ha : isDict a = false) (hb : isDict b = false) :
    override a b = (match b with | .null => a | _ => b) ∧ isDict (override a b) = false := by
  cases a with
  | dict _ => cases ha
  | _ =>
    cases b with
    | dict _ => cases hb
    | _ => exact ⟨rfl, rfl⟩

theorem get_overrideFields (a b : Fields) (k : S) :
    get (overrideFields a b) k =
      (get a k).map fun x => match get b k with | some y => override x y | none => x := by
  induction a with
  | nil => rfl
  | cons h t ih =>
    obtain ⟨k', v⟩ := h
    simp only [overrideFields, get]
    by_cases hk : k' = k
    · subst hk; simp; cases get b k' <;> rfl
    · simp [hk, ih]

/-- one key of `override_object` on two dictionaries -/
theorem get_override_dict (a b : Fields) (k : S) :
    get (overrideFields a b ++ b.filter (fun kv => (get a kv.1).isNone)) k =
      match get a k, get b k with
      | some x, some y => some (override x y)
      | some x, none => some x
      | none, y => y := by
  rw [get_append, get_overrideFields, get_filter_absent]
  cases get a k <;> cases get b k <;> rfl

theorem get_update (a b : Fields) (k : S) : get (update a b) k = (get b k).or (get a k) := by
  rw [update, get_append, get_filter_absent]
  cases get b k <;> cases get a k <;> rfl

theorem get_erase (d : Fields) (k k' : S) : get (erase d k) k' = if k = k' then none else get d k' := by
  induction d with
  | nil => simp [erase, get]
  | cons h t ih => grind [erase, get]

theorem get_set (d : Fields) (k : S) (v : Val) (k' : S) :
    get (set d k v) k' = if k = k' then some v else get d k' := by
  rw [set, get_append, get_erase]
  by_cases hk : k = k' <;> simp [hk, get]

theorem resolveCompF_congr {d d' : Desc} (h1 : d'.platforms = d.platforms) (h2 : d'.blueprint = d.blueprint)
    (h3 : d'.variables = d.variables) (P : S) (c : Comp) (f : Flags) (fuel : Nat) :
    resolveCompF d' P c f fuel = resolveCompF d P c f fuel := by
  obtain ⟨_, _, _, _⟩ := d
  obtain ⟨_, _, _, _⟩ := d'
  cases h1; cases h2; cases h3
  rfl

end St4sd.Tree
