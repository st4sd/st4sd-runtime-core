import St4sd.Model.CtrlSplit
/-!
# The operations of the stage-controller model, one component at a time (C01, C02)

Every primitive operation of `St4sd.Ctrl` rewrites one component (`St.upd`) and queues at most one
notification about it (`St.push`); the compound ones (`stopStage`, `killAll`, `deliverFin`, …) are folds of
`finish` / `fakeFinish`.  This file proves, once for both properties, what all of them except the launches of a
scheduler pass and the stage transition guarantee (`step_quiet`):

* `Core` — per-component facts (`ctrl.isSome → finishCalled ∧ exit.isSome`, `pendingFinal.isSome → finishCalled`),
  `done c → ctrl.isSome`, `fin c` queued → `ctrl.isSome`;
* `Quiet s s'` — final states, `staged` and `finishCalled` are kept, `ran`, `watch`, the log and the current
  stage are untouched.  `Ext` is the part of it that the launch rules of C01 need.

A scheduler pass is described by what it is made of: the shutdown rule (`rule_eq_false`), an induction principle
for its first phase (`visit_fold_rec`) and the closed form of its second phase (`launch_comp`, `launch_rest`,
`launch_log`).
-/
namespace St4sd.C01L
open St4sd.Ctrl

/-! ## `upd` and `push` -/

@[simp] theorem upd_comp (s : St) (c : Nat) (f : CompS → CompS) (j : Nat) :
    (s.upd c f).comp j = if j = c then f (s.comp j) else s.comp j := rfl
@[simp] theorem upd_done (s : St) (c : Nat) (f : CompS → CompS) : (s.upd c f).done = s.done := rfl
@[simp] theorem upd_pending (s : St) (c : Nat) (f : CompS → CompS) : (s.upd c f).pending = s.pending := rfl
@[simp] theorem upd_log (s : St) (c : Nat) (f : CompS → CompS) : (s.upd c f).log = s.log := rfl
@[simp] theorem upd_stop (s : St) (c : Nat) (f : CompS → CompS) : (s.upd c f).stop = s.stop := rfl
@[simp] theorem upd_cur (s : St) (c : Nat) (f : CompS → CompS) : (s.upd c f).cur = s.cur := rfl
@[simp] theorem push_comp (s : St) (n : Notif) : (s.push n).comp = s.comp := rfl
@[simp] theorem push_done (s : St) (n : Notif) : (s.push n).done = s.done := rfl
@[simp] theorem push_pending (s : St) (n : Notif) : (s.push n).pending = s.pending ++ [n] := rfl
@[simp] theorem push_log (s : St) (n : Notif) : (s.push n).log = s.log := rfl
@[simp] theorem push_stop (s : St) (n : Notif) : (s.push n).stop = s.stop := rfl
@[simp] theorem push_cur (s : St) (n : Notif) : (s.push n).cur = s.cur := rfl

theorem upd_congr {s : St} {c : Nat} {f g : CompS → CompS} (h : f (s.comp c) = g (s.comp c)) :
    s.upd c f = s.upd c g := by
  unfold St.upd
  congr 1
  funext j
  split
  · next e => subst e; exact h
  · rfl

theorem upd_upd (s : St) (c : Nat) (f g : CompS → CompS) : (s.upd c f).upd c g = s.upd c (g ∘ f) := by
  unfold St.upd
  congr 1
  funext j
  split <;> simp [*]

/-! ## the invariant and the two-state relations -/

structure Good (cs : CompS) : Prop where
  fc : cs.ctrl.isSome = true → cs.finishCalled = true
  ex : cs.ctrl.isSome = true → cs.exit.isSome = true
  pf : cs.pendingFinal.isSome = true → cs.finishCalled = true

structure Core (s : St) : Prop where
  good : ∀ c, Good (s.comp c)
  done : ∀ c, s.done c = true → (s.comp c).ctrl.isSome = true
  pend : ∀ c, Notif.fin c ∈ s.pending → (s.comp c).ctrl.isSome = true

/-- final states are kept by `t` -/
def Keeps (s t : St) : Prop := ∀ c f, (s.comp c).ctrl = some f → (t.comp c).ctrl = some f

theorem Keeps.isSome {s t : St} (h : Keeps s t) (c : Nat) (hs : (s.comp c).ctrl.isSome = true) :
    (t.comp c).ctrl.isSome = true := by
  cases hc : (s.comp c).ctrl with
  | none => simp [hc] at hs
  | some f => simp [h c f hc]

structure Ext (s s' : St) : Prop where
  ctrl : ∀ c f, (s.comp c).ctrl = some f → (s'.comp c).ctrl = some f
  staged : ∀ c, (s.comp c).staged = true → (s'.comp c).staged = true
  log : s'.log = s.log
  ran : ∀ c, (s'.comp c).ran = (s.comp c).ran

theorem Ext.refl (s : St) : Ext s s := ⟨fun _ _ h => h, fun _ h => h, rfl, fun _ => rfl⟩

theorem Ext.trans {a b c : St} (h1 : Ext a b) (h2 : Ext b c) : Ext a c :=
  ⟨fun j f h => h2.ctrl j f (h1.ctrl j f h), fun j h => h2.staged j (h1.staged j h),
   h2.log.trans h1.log, fun j => (h2.ran j).trans (h1.ran j)⟩

theorem Ext.isSome {s s' : St} (h : Ext s s') (c : Nat) (hs : (s.comp c).ctrl.isSome = true) :
    (s'.comp c).ctrl.isSome = true :=
  Keeps.isSome h.ctrl c hs

/-- `y` is a later state of the component `x`, not across a launch -/
structure Later (x y : CompS) : Prop where
  ctrl : ∀ f, x.ctrl = some f → y.ctrl = some f
  staged : x.staged = true → y.staged = true
  fc : x.finishCalled = true → y.finishCalled = true
  ran : y.ran = x.ran
  watch : y.watch = x.watch

theorem Later.refl (x : CompS) : Later x x := ⟨fun _ h => h, id, id, rfl, rfl⟩

structure Quiet (s s' : St) : Prop where
  comp : ∀ c, Later (s.comp c) (s'.comp c)
  log : s'.log = s.log
  cur : s'.cur = s.cur

theorem Quiet.refl (s : St) : Quiet s s := ⟨fun _ => .refl _, rfl, rfl⟩

theorem Quiet.trans {a b c : St} (h1 : Quiet a b) (h2 : Quiet b c) : Quiet a c :=
  ⟨fun j => ⟨fun f h => (h2.comp j).ctrl f ((h1.comp j).ctrl f h), fun h => (h2.comp j).staged ((h1.comp j).staged h),
      fun h => (h2.comp j).fc ((h1.comp j).fc h), (h2.comp j).ran.trans (h1.comp j).ran,
      (h2.comp j).watch.trans (h1.comp j).watch⟩,
   h2.log.trans h1.log, h2.cur.trans h1.cur⟩

theorem Quiet.ext {s s' : St} (h : Quiet s s') : Ext s s' :=
  ⟨fun c => (h.comp c).ctrl, fun c => (h.comp c).staged, h.log, fun c => (h.comp c).ran⟩

theorem Quiet.of_eq {s s' : St} (hc : s'.comp = s.comp) (hl : s'.log = s.log) (hk : s'.cur = s.cur) : Quiet s s' :=
  ⟨fun c => by rw [hc]; exact .refl _, hl, hk⟩

theorem Core.ctrl_none_of_not_fc {s : St} (h : Core s) (c : Nat) (hf : (s.comp c).finishCalled = false) :
    (s.comp c).ctrl = none := by
  cases hc : (s.comp c).ctrl with
  | none => rfl
  | some f => have := (h.good c).fc (by simp [hc]); simp [hf] at this

theorem Core.ctrl_none_of_exit_none {s : St} (h : Core s) (c : Nat) (he : (s.comp c).exit = none) :
    (s.comp c).ctrl = none := by
  cases hc : (s.comp c).ctrl with
  | none => rfl
  | some f => have := (h.good c).ex (by simp [hc]); simp [he] at this

theorem upd_spec {s : St} (hc : Core s) (c : Nat) (f : CompS → CompS)
    (hg : Good (f (s.comp c))) (hl : Later (s.comp c) (f (s.comp c))) :
    Core (s.upd c f) ∧ Quiet s (s.upd c f) := by
  have hq : Quiet s (s.upd c f) := by
    refine ⟨fun j => ?_, rfl, rfl⟩
    simp only [upd_comp]; split
    · next e => subst e; exact hl
    · exact .refl _
  refine ⟨⟨fun j => ?_, fun j hj => hq.ext.isSome j (hc.done j hj), fun j hj => hq.ext.isSome j (hc.pend j hj)⟩, hq⟩
  simp only [upd_comp]; split
  · next e => subst e; exact hg
  · exact hc.good j

theorem push_spec {s s' : St} (h : Core s' ∧ Quiet s s') (n : Notif)
    (hn : ∀ c, n = .fin c → (s'.comp c).ctrl.isSome = true) :
    Core (s'.push n) ∧ Quiet s (s'.push n) := by
  refine ⟨⟨h.1.good, h.1.done, fun j hj => ?_⟩, ⟨h.2.comp, h.2.log, h.2.cur⟩⟩
  simp only [push_pending, List.mem_append, List.mem_singleton] at hj
  rcases hj with hj | hj
  · exact h.1.pend j hj
  · exact hn j hj.symm

theorem spec_trans {a b c : St} (h1 : Core b ∧ Quiet a b) (h2 : Core c ∧ Quiet b c) : Core c ∧ Quiet a c :=
  ⟨h2.1, h1.2.trans h2.2⟩

theorem foldl_pres {α : Type} (f : St → α → St)
    (hf : ∀ s x, Core s → Core (f s x) ∧ Quiet s (f s x)) (l : List α) (s : St) (hs : Core s) :
    Core (l.foldl f s) ∧ Quiet s (l.foldl f s) :=
  List.foldlRecOn (motive := fun t => Core t ∧ Quiet s t) l f ⟨hs, .refl s⟩
    fun t ht x _ => spec_trans ht (hf t x ht.1)

/-! ## `finish`, `fakeFinish` -/

/-- what `ComponentState.finish(st)` does to the component itself -/
def finishC (st : Fin3) (x : CompS) : CompS :=
  if x.ctrl.isSome || x.exit.isSome then { x with finishCalled := true, ctrl := some st }
  else if x.ran then { x with finishCalled := true, pendingFinal := some st }
  else { x with finishCalled := true, ctrl := some st, exit := some .killed }

theorem finish_eq (s : St) (c : Nat) (st : Fin3) :
    finish s c st =
      if (s.comp c).staged && (s.comp c).ctrl.isNone && (finishC st (s.comp c)).ctrl.isSome then
        (s.upd c (finishC st)).push (.fin c)
      else s.upd c (finishC st) := by
  have key : ∀ f : CompS → CompS, f (s.comp c) = finishC st (s.comp c) → s.upd c f = s.upd c (finishC st) :=
    fun f h => upd_congr h
  unfold finish
  dsimp only
  cases hx : (s.comp c).ctrl with
  | some v => rw [key _ (by simp [finishC, hx])]; simp
  | none =>
    simp only [Option.isSome_none, Bool.false_eq_true, if_false]
    split
    · next he => rw [key _ (by simp [finishC, he])]; simp [finishC, hx, he]
    · next he =>
      split
      · next hr => rw [key _ (by simp [finishC, hx, he, hr]), if_neg (by simp [finishC, hx, he, hr])]
      · next hr => rw [key _ (by simp [finishC, hx, he, hr])]; simp [finishC, hx, he, hr]

theorem finishC_later (st : Fin3) {x : CompS} (hn : x.ctrl = none) : Later x (finishC st x) := by
  unfold finishC
  split
  · exact ⟨by simp [hn], id, fun _ => rfl, rfl, rfl⟩
  · split <;> exact ⟨by simp [hn], id, fun _ => rfl, rfl, rfl⟩

theorem finishC_good (st : Fin3) {x : CompS} (hn : x.ctrl = none) : Good (finishC st x) := by
  unfold finishC
  split
  · next h => exact ⟨fun _ => rfl, fun _ => by simpa [hn] using h, fun _ => rfl⟩
  · split
    · exact ⟨fun _ => rfl, by simp [hn], fun _ => rfl⟩
    · exact ⟨fun _ => rfl, fun _ => rfl, fun _ => rfl⟩

theorem finish_spec {s : St} (hc : Core s) (c : Nat) (st : Fin3) (hn : (s.comp c).ctrl = none) :
    Core (finish s c st) ∧ Quiet s (finish s c st) := by
  have h := upd_spec hc c (finishC st) (finishC_good st hn) (finishC_later st hn)
  rw [finish_eq]
  split
  · next hp =>
    refine push_spec h _ fun j e => ?_
    cases e
    simp only [Bool.and_eq_true] at hp
    simpa using hp.2
  · exact h

theorem finish_comp (s : St) (c : Nat) (st : Fin3) (j : Nat) :
    (finish s c st).comp j = if j = c then finishC st (s.comp j) else s.comp j := by
  rw [finish_eq]; split <;> rfl

theorem finish_other (s : St) (c : Nat) (st : Fin3) (j : Nat) (hj : j ≠ c) :
    ((finish s c st).comp j) = s.comp j := by
  rw [finish_comp, if_neg hj]

theorem finish_done (s : St) (c : Nat) (st : Fin3) : (finish s c st).done = s.done := by
  rw [finish_eq]; split <;> rfl

theorem finish_staged (s : St) (c : Nat) (st : Fin3) (j : Nat) :
    ((finish s c st).comp j).staged = (s.comp j).staged := by
  rw [finish_comp]
  split
  · unfold finishC; split
    · rfl
    · split <;> rfl
  · rfl

/-- `finish` in POSTMORTEM -/
theorem finishC_pm (st : Fin3) {x : CompS} (hex : x.exit.isSome = true) :
    finishC st x = { x with finishCalled := true, ctrl := some st } := by
  simp [finishC, hex]

theorem fakeFinish_spec {s : St} (hc : Core s) (c : Nat) (st : Fin3) (hn : (s.comp c).ctrl = none) :
    Core (fakeFinish s c st) ∧ Quiet s (fakeFinish s c st) := by
  -- `comp_staged_in.add(component)`, then `finish`
  have h1 := upd_spec hc c (fun x => { x with staged := true }) ⟨(hc.good c).fc, (hc.good c).ex, (hc.good c).pf⟩
    ⟨fun _ h => h, fun _ => rfl, id, rfl, rfl⟩
  exact spec_trans h1 (finish_spec h1.1 c st (by simp [hn]))

theorem fakeFinish_other (s : St) (c : Nat) (st : Fin3) (j : Nat) (hj : j ≠ c) :
    ((fakeFinish s c st).comp j) = s.comp j := by
  unfold fakeFinish
  rw [finish_other _ _ _ _ hj]; simp [hj]

theorem fakeFinish_done (s : St) (c : Nat) (st : Fin3) : (fakeFinish s c st).done = s.done := by
  unfold fakeFinish; rw [finish_done]; rfl

/-- `_fake_finish_with_state` of a component that is alive and was never launched -/
theorem fakeFinish_eq {s : St} {c : Nat} {st : Fin3} (hct : (s.comp c).ctrl = none)
    (hex : (s.comp c).exit = none) (hr : (s.comp c).ran = false) :
    fakeFinish s c st =
      (s.upd c fun x => { x with staged := true, finishCalled := true, ctrl := some st, exit := some .killed }).push
        (.fin c) := by
  simp [fakeFinish, finish, hct, hex, hr, upd_upd, Function.comp_def]

/-! ## the operations that are `Quiet` -/

theorem killAll_spec (wf : Wf) {s : St} (hc : Core s) :
    Core (killAll wf s) ∧ Quiet s (killAll wf s) := by
  unfold killAll
  have h0 : Core { s with stop := true } := ⟨hc.good, hc.done, hc.pend⟩
  have h2 := foldl_pres _ (fun s c (hs : Core s) => by
    show Core (if !(s.comp c).finishCalled && (s.comp c).ctrl.isNone then
        if (s.comp c).staged then finish s c .shutdown else fakeFinish s c .shutdown
      else s) ∧ Quiet s _
    split
    · next h =>
      simp only [Bool.and_eq_true, Option.isNone_iff_eq_none] at h
      split
      · exact finish_spec hs c _ h.2
      · exact fakeFinish_spec hs c _ h.2
    · exact ⟨hs, .refl s⟩) wf.order _ h0
  exact ⟨h2.1, (Quiet.of_eq (s := s) (s' := { s with stop := true }) rfl rfl rfl).trans h2.2⟩

/-- `_stopComponents`: `finish(SHUTDOWN)` for every component of the stage that is alive and was not asked to
finish -/
theorem stopAlive_spec (l : List Nat) {s : St} (hc : Core s) :
    Core (l.foldl (fun s c => if (s.comp c).ctrl.isNone && !(s.comp c).finishCalled then finish s c .shutdown else s) s) ∧
    Quiet s (l.foldl (fun s c => if (s.comp c).ctrl.isNone && !(s.comp c).finishCalled then finish s c .shutdown else s) s) :=
  foldl_pres _ (fun s c (hs : Core s) => by
    show Core (if (s.comp c).ctrl.isNone && !(s.comp c).finishCalled then finish s c .shutdown else s) ∧ Quiet s _
    split
    · next h =>
      simp only [Bool.and_eq_true, Option.isNone_iff_eq_none] at h
      exact finish_spec hs c _ h.1
    · exact ⟨hs, .refl s⟩) l s hc

theorem stopComponents_spec (wf : Wf) {s : St} (hc : Core s) (k : Nat) :
    Core (stopComponents wf s k) ∧ Ext s (stopComponents wf s k) :=
  ⟨(stopAlive_spec _ hc).1, (stopAlive_spec _ hc).2.ext⟩

theorem stopStage_spec (wf : Wf) {s : St} (hc : Core s) (k : Nat) :
    Core (stopStage wf s k) ∧ Quiet s (stopStage wf s k) := by
  unfold stopStage
  have h1 := foldl_pres _ (fun s c (hs : Core s) => by
    show Core (if !(s.comp c).staged && !(s.comp c).finishCalled then fakeFinish s c .shutdown else s) ∧ Quiet s _
    split
    · next h =>
      simp only [Bool.and_eq_true, Bool.not_eq_true'] at h
      exact fakeFinish_spec hs c _ (hs.ctrl_none_of_not_fc c h.2)
    · exact ⟨hs, .refl s⟩) (inStage wf k) s hc
  exact spec_trans h1 (stopAlive_spec (inStage wf k) h1.1)

/-- the component after its task exited: exit reason from the script, counters -/
def exited (wf : Wf) (c : Nat) (cs : CompS) : CompS :=
  { cs with exit := some ((wf.cdef c).script.getD cs.execs .success), execs := cs.execs + 1,
            resub := if (wf.cdef c).script.getD cs.execs .success = .success then 0 else cs.resub }

/-- the outcomes of a task exit: nothing (no live task, or a repeating engine that was not told to end); the
final state that a `finish` during the run has fixed; POSTMORTEM, with a notification unless `finish` was called -/
theorem taskExit_cases {P : St → Prop} (wf : Wf) (s : St) (c : Nat) (idle : P s)
    (fin : (s.comp c).ran = true → (s.comp c).exit = none → ∀ st, (s.comp c).pendingFinal = some st →
      P (if (s.comp c).staged then
          (s.upd c fun _ => { exited wf c (s.comp c) with ctrl := some st, pendingFinal := none }).push (.fin c)
        else s.upd c fun _ => { exited wf c (s.comp c) with ctrl := some st, pendingFinal := none }))
    (pm : (s.comp c).ran = true → (s.comp c).exit = none → (s.comp c).pendingFinal = none →
      P (if (s.comp c).finishCalled then s.upd c fun _ => exited wf c (s.comp c)
        else (s.upd c fun _ => exited wf c (s.comp c)).push (.pm c))) :
    P (taskExit wf s c) := by
  unfold taskExit
  split
  · unfold taskExitCore
    dsimp only
    by_cases h : ((s.comp c).ran && (s.comp c).exit.isNone) = true
    · rw [if_pos h]
      simp only [Bool.and_eq_true, Option.isNone_iff_eq_none] at h
      split
      · next st hpf => exact fin h.1 h.2 st hpf
      · next hpf => exact pm h.1 h.2 hpf
    · rw [if_neg h]; exact idle
  · exact idle

theorem taskExit_spec (wf : Wf) {s : St} (hc : Core s) (c : Nat) :
    Core (taskExit wf s c) ∧ Quiet s (taskExit wf s c) := by
  have hg := hc.good c
  refine taskExit_cases (P := fun t => Core t ∧ Quiet s t) wf s c ⟨hc, .refl s⟩
    (fun _ he st hpf => ?_) (fun _ _ _ => ?_)
  · have hcn := hc.ctrl_none_of_exit_none c he
    have h := upd_spec hc c (fun _ => { exited wf c (s.comp c) with ctrl := some st, pendingFinal := none })
      ⟨fun _ => hg.pf (by simp [hpf]), fun _ => rfl, fun h => nomatch h⟩ ⟨by simp [hcn], id, id, rfl, rfl⟩
    split
    · exact push_spec h _ fun j e => by cases e; simp
    · exact h
  · have h := upd_spec hc c (fun _ => exited wf c (s.comp c)) ⟨hg.fc, fun _ => rfl, hg.pf⟩
      ⟨fun _ h => h, id, id, rfl, rfl⟩
    split
    · exact h
    · exact push_spec h _ fun j e => nomatch e

theorem erase_spec {s : St} (hc : Core s) (n : Notif) :
    Core { s with pending := s.pending.erase n } ∧ Quiet s { s with pending := s.pending.erase n } :=
  ⟨⟨hc.good, hc.done, fun c h => hc.pend c (List.mem_of_mem_erase h)⟩, .of_eq rfl rfl rfl⟩

/-- the outcomes of `postMortemCheck`: nothing queued; nothing to do (`finish` was called, or the engine is alive
again); restart; final state -/
theorem deliverPM_cases {P : St → Prop} (wf : Wf) (s : St) (c : Nat) (idle : P s)
    (drop : ((s.comp c).finishCalled = true ∨ (s.comp c).exit = none) →
      P { s with pending := s.pending.erase (.pm c) })
    (restart : ∀ r, (s.comp c).finishCalled = false → (s.comp c).exit = some r →
      restartable wf (wf.cdef c) (s.comp c) r = true →
      P (({ s with pending := s.pending.erase (.pm c) } : St).upd c fun x =>
        { x with exit := none, launches := x.launches + 1,
                 restarts := if r = .submissionFailed then x.restarts else x.restarts + 1,
                 resub := if r = .submissionFailed then x.resub + 1 else x.resub }))
    (final : ∀ r, (s.comp c).finishCalled = false → (s.comp c).exit = some r →
      restartable wf (wf.cdef c) (s.comp c) r = false →
      P (finish { s with pending := s.pending.erase (.pm c) } c (finalOf (wf.cdef c) r))) :
    P (deliverPM wf s c) := by
  unfold deliverPM
  dsimp only
  by_cases hp : Notif.pm c ∈ s.pending
  · rw [if_pos hp]
    cases hfc : (s.comp c).finishCalled with
    | true => exact drop (.inl hfc)
    | false =>
      cases hex : (s.comp c).exit with
      | none => exact drop (.inr hex)
      | some r =>
        dsimp only
        cases hr : restartable wf (wf.cdef c) (s.comp c) r with
        | true => exact restart r hfc hex hr
        | false => exact final r hfc hex hr
  · rw [if_neg hp]; exact idle

theorem deliverPM_spec (wf : Wf) {s : St} (hc : Core s) (c : Nat) :
    Core (deliverPM wf s c) ∧ Quiet s (deliverPM wf s c) := by
  have h0 := erase_spec hc (Notif.pm c)
  refine deliverPM_cases (P := fun t => Core t ∧ Quiet s t) wf s c ⟨hc, .refl s⟩ (fun _ => h0)
    (fun r hfc _ _ => ?_) (fun r hfc _ _ => ?_)
  · have hcn := hc.ctrl_none_of_not_fc c hfc
    exact spec_trans h0 (upd_spec h0.1 c _ ⟨by simp [hcn], by simp [hcn], (hc.good c).pf⟩
      ⟨fun _ h => h, id, id, rfl, rfl⟩)
  · exact spec_trans h0 (finish_spec h0.1 c _ (hc.ctrl_none_of_not_fc c hfc))

/-- the `finally:` block of `finishedCheck` for a component that is final -/
theorem finRecord_spec {s : St} (hc : Core s) (c : Nat) (hs : (s.comp c).ctrl.isSome = true) :
    Core (finRecord s c) ∧ Quiet s (finRecord s c) := by
  refine ⟨⟨hc.good, fun j hj => ?_, hc.pend⟩, .of_eq rfl rfl rfl⟩
  simp only [finRecord, Bool.or_eq_true, decide_eq_true_eq] at hj
  rcases hj with hj | hj
  · subst hj; exact hs
  · exact hc.done j hj

theorem finCritical_spec (wf : Wf) {s : St} (hc : Core s) (c : Nat) :
    Core (finCritical wf s c) ∧ Quiet s (finCritical wf s c) := by
  unfold finCritical
  split
  · split
    · exact killAll_spec wf hc
    · exact stopStage_spec wf hc _
  · exact ⟨hc, .refl s⟩

theorem deliverFin_spec (wf : Wf) {s : St} (hc : Core s) (c : Nat) :
    Core (deliverFin wf s c) ∧ Quiet s (deliverFin wf s c) := by
  rw [deliverFin_eq]
  split
  · next hm =>
    have h0 := erase_spec hc (Notif.fin c)
    have h1 := finCritical_spec wf h0.1 c
    exact spec_trans h0 (spec_trans h1
      (finRecord_spec h1.1 c (h1.2.ext.isSome c (h0.2.ext.isSome c (hc.pend c hm)))))
  · exact ⟨hc, .refl s⟩

theorem step_quiet (wf : Wf) {s : St} (hc : Core s) {op : Op} (h1 : op ≠ .sched) (h2 : op ≠ .next) :
    Core (step wf s op) ∧ Quiet s (step wf s op) := by
  cases op with
  | sched => exact absurd rfl h1
  | exit c => exact taskExit_spec wf hc c
  | fin c => exact deliverFin_spec wf hc c
  | pm c => exact deliverPM_spec wf hc c
  | kill => exact killAll_spec wf hc
  | tick c => exact ⟨hc, .refl s⟩
  | next => exact absurd rfl h2

/-! ## a scheduler pass: the shutdown rule and the first phase -/

/-- common shape of `mustShutdown` and `ruleShutdown`: `isF p` / `isS p` = producer `p` counts as failed / shut down -/
def rule (wf : Wf) (c : Nat) (isF isS : Nat → Bool) : Bool :=
  let d := wf.cdef c
  if d.preds.any isF then true
  else if d.isAgg then
    let repl := d.preds.filter fun p => (wf.cdef p).isRepl
    let nonrepl := d.preds.filter fun p => !(wf.cdef p).isRepl
    if nonrepl.any isS then true
    else !repl.isEmpty && repl.all isS
  else d.preds.any isS

theorem mustShutdown_eq (wf : Wf) (s : St) (c : Nat) :
    mustShutdown wf s c =
      rule wf c (fun p => predState s p == some .failed) (fun p => predState s p == some .shutdown) := rfl

theorem ruleShutdown_eq (wf : Wf) (t : Nat → Fin3) (c : Nat) :
    ruleShutdown wf t c = rule wf c (fun p => t p == .failed) (fun p => t p == .shutdown) := rfl

theorem rule_eq_false {wf : Wf} {c : Nat} {isF isS : Nat → Bool} :
    rule wf c isF isS = false ↔
      (∀ p ∈ (wf.cdef c).preds, isF p = false) ∧
      ((wf.cdef c).isAgg = false → ∀ p ∈ (wf.cdef c).preds, isS p = false) ∧
      ((wf.cdef c).isAgg = true →
        (∀ p ∈ (wf.cdef c).preds, (wf.cdef p).isRepl = false → isS p = false) ∧
        ((∃ p ∈ (wf.cdef c).preds, (wf.cdef p).isRepl = true) →
          ∃ p ∈ (wf.cdef c).preds, (wf.cdef p).isRepl = true ∧ isS p = false)) := by
  unfold rule
  cases h : (wf.cdef c).isAgg <;> simp [h, List.filter_eq_nil_iff]

theorem visit_fold_rec {wf : Wf} {P : St × List Nat → Prop} (l : List Nat) {a : St × List Nat} (h0 : P a)
    (shut : ∀ a c, c ∈ l → P a → a.1.done c = false → (a.1.comp c).ctrl = none → (a.1.comp c).staged = false →
      depsSatisfied wf a.1 c = true → mustShutdown wf a.1 c = true → P (fakeFinish a.1 c .shutdown, a.2))
    (ready : ∀ a c, c ∈ l → P a → depsSatisfied wf a.1 c = true → mustShutdown wf a.1 c = false →
      P (a.1, a.2 ++ [c])) :
    P (l.foldl (visit wf) a) :=
  List.foldlRecOn l (visit wf) h0 fun a ha c hc => by
    unfold visit
    split
    · next he =>
      simp only [eligible, Bool.and_eq_true, Bool.not_eq_true', Option.isNone_iff_eq_none] at he
      split
      · next hm => exact shut a c hc ha he.1.1.1 he.1.1.2 he.1.2 he.2 hm
      · next hm => exact ready a c hc ha he.2 (by simpa using hm)
    · exact ha

/-! ## the stage transition and the launches of a scheduler pass

They are not `Quiet`: `advance` moves `cur`, `stageIn` subscribes (`watch`), `runComp` sets `ran` and writes the log.
A pass stages the whole ready list in and then launches it (`launch`); `launch_comp`, `launch_rest` and `launch_log`
say what that does to every component, to the rest of the state and to the log. -/

theorem advance_spec (wf : Wf) {s : St} (hc : Core s) :
    Core (advance wf s) ∧ Ext s (advance wf s) := by
  unfold advance
  split
  · exact ⟨⟨hc.good, hc.done, hc.pend⟩, ⟨fun _ _ h => h, fun _ h => h, rfl, fun _ => rfl⟩⟩
  · exact ⟨hc, .refl s⟩

theorem stageIn_ctrl (wf : Wf) (s : St) (a j : Nat) : ((stageIn wf s a).comp j).ctrl = (s.comp j).ctrl := by
  simp only [stageIn, upd_comp]; split <;> rfl

theorem stageIn_fc (wf : Wf) (s : St) (a j : Nat) :
    ((stageIn wf s a).comp j).finishCalled = (s.comp j).finishCalled := by
  simp only [stageIn, upd_comp]; split <;> rfl

/-- the list a repeating component subscribes to in state `s` -/
def aliveProducers (wf : Wf) (s : St) (c : Nat) : List Nat :=
  (wf.cdef c).preds.filter fun p => (s.comp p).ctrl.isNone

/-- the subscription of `c` after `stageIn` in state `s` -/
def watchAfter (wf : Wf) (s : St) (c : Nat) : Option (List Nat) :=
  if (wf.cdef c).isRepeat && !(s.comp c).finishCalled then some (aliveProducers wf s c) else (s.comp c).watch

theorem stageIn_comp (wf : Wf) (s : St) (a j : Nat) :
    (stageIn wf s a).comp j =
      if j = a then { s.comp j with staged := true, watch := watchAfter wf s j } else s.comp j := by
  simp only [stageIn, upd_comp]
  split
  · next e => subst e; rfl
  · rfl

theorem watchAfter_stageIn (wf : Wf) (s : St) (a j : Nat) :
    watchAfter wf (stageIn wf s a) j = watchAfter wf s j := by
  have ha : aliveProducers wf (stageIn wf s a) j = aliveProducers wf s j := by
    unfold aliveProducers
    congr 1
    funext p
    rw [stageIn_ctrl]
  unfold watchAfter
  rw [ha, stageIn_fc]
  split
  · rfl
  · next h =>
    rw [stageIn_comp]
    split
    · simp [watchAfter, h]
    · rfl

theorem foldl_stageIn_comp (wf : Wf) (l : List Nat) (s : St) (j : Nat) :
    (l.foldl (stageIn wf) s).comp j =
      if j ∈ l then { s.comp j with staged := true, watch := watchAfter wf s j } else s.comp j := by
  induction l generalizing s with
  | nil => simp
  | cons a l ih =>
    simp only [List.foldl_cons, ih, watchAfter_stageIn, stageIn_comp, List.mem_cons]
    by_cases h1 : j ∈ l <;> by_cases h2 : j = a <;> simp [h1, h2]

theorem foldl_stageIn_rest (wf : Wf) (l : List Nat) (s : St) :
    (l.foldl (stageIn wf) s).done = s.done ∧ (l.foldl (stageIn wf) s).pending = s.pending ∧
    (l.foldl (stageIn wf) s).cur = s.cur ∧ (l.foldl (stageIn wf) s).stop = s.stop := by
  induction l generalizing s with
  | nil => simp
  | cons a l ih => simp only [List.foldl_cons, ih, stageIn, upd_done, upd_pending, upd_cur, upd_stop, and_self]

theorem runComp_comp (wf : Wf) (s : St) (c j : Nat) :
    ((runComp wf s c).comp j) =
      if j = c then { (s.comp j) with ran := true, launches := (s.comp j).launches + 1 } else s.comp j := rfl

theorem foldl_runComp_comp (wf : Wf) (l : List Nat) (s : St) (j : Nat) :
    ∃ k, ((l.foldl (runComp wf) s).comp j) =
      if j ∈ l then { s.comp j with ran := true, launches := k } else s.comp j := by
  induction l generalizing s with
  | nil => simp
  | cons a l ih =>
    obtain ⟨k, hk⟩ := ih (runComp wf s a)
    simp only [List.foldl_cons, hk, List.mem_cons]
    by_cases h1 : j ∈ l <;> by_cases h2 : j = a
    · subst h2; exact ⟨k, by simp [h1, runComp]⟩
    · exact ⟨k, by simp [h1, h2, runComp]⟩
    · subst h2; exact ⟨(s.comp j).launches + 1, by simp [h1, runComp]⟩
    · exact ⟨0, by simp [h1, h2, runComp]⟩

theorem foldl_runComp_rest (wf : Wf) (l : List Nat) (s : St) :
    (l.foldl (runComp wf) s).done = s.done ∧ (l.foldl (runComp wf) s).pending = s.pending ∧
    (l.foldl (runComp wf) s).cur = s.cur ∧ (l.foldl (runComp wf) s).stop = s.stop := by
  induction l generalizing s with
  | nil => simp
  | cons a l ih => simp [List.foldl_cons, ih, runComp]

/-- the second phase of a scheduler pass (`finalize_submit_components`): the ready list is staged in, then launched -/
def launch (wf : Wf) (l : List Nat) (s : St) : St := l.foldl (runComp wf) (l.foldl (stageIn wf) s)

theorem launch_comp (wf : Wf) (l : List Nat) (s : St) (j : Nat) :
    ∃ k, ((launch wf l s).comp j) =
      if j ∈ l then { s.comp j with staged := true, ran := true, launches := k, watch := watchAfter wf s j }
      else s.comp j := by
  obtain ⟨k, hk⟩ := foldl_runComp_comp wf l (l.foldl (stageIn wf) s) j
  refine ⟨k, ?_⟩
  rw [launch, hk, foldl_stageIn_comp]
  split <;> rfl

theorem launch_ctrl (wf : Wf) (l : List Nat) (s : St) (j : Nat) :
    ((launch wf l s).comp j).ctrl = (s.comp j).ctrl := by
  obtain ⟨k, hk⟩ := launch_comp wf l s j
  rw [hk]; split <;> rfl

theorem launch_rest (wf : Wf) (l : List Nat) (s : St) :
    (launch wf l s).done = s.done ∧ (launch wf l s).pending = s.pending ∧
    (launch wf l s).cur = s.cur ∧ (launch wf l s).stop = s.stop := by
  obtain ⟨a, b, c, d⟩ := foldl_runComp_rest wf l (l.foldl (stageIn wf) s)
  obtain ⟨a', b', c', d'⟩ := foldl_stageIn_rest wf l s
  exact ⟨a.trans a', b.trans b', c.trans c', d.trans d'⟩

theorem foldl_stageIn_log (wf : Wf) (l : List Nat) (s : St) : (l.foldl (stageIn wf) s).log = s.log := by
  induction l generalizing s with
  | nil => rfl
  | cons a l ih => exact ih _

theorem foldl_runComp_log (wf : Wf) (l : List Nat) (s : St) :
    (l.foldl (runComp wf) s).log = s.log ++ l.map fun c => (c, (wf.cdef c).preds.map (viewOf s)) := by
  induction l generalizing s with
  | nil => simp
  | cons a l ih =>
    -- a launch changes `ran`, `launches` and the log: the views of the later launches are those of `s`
    have hv : viewOf (runComp wf s a) = viewOf s := by
      funext p
      simp only [viewOf, predState, runComp_comp]
      split <;> rfl
    rw [List.foldl_cons, ih, hv]
    simp [runComp]

theorem launch_log (wf : Wf) (l : List Nat) (s : St) :
    (launch wf l s).log = s.log ++ l.map fun c => (c, (wf.cdef c).preds.map (viewOf (l.foldl (stageIn wf) s))) := by
  rw [launch, foldl_runComp_log, foldl_stageIn_log]

end St4sd.C01L
