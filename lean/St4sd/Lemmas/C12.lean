import St4sd.Model.Restart
/-!
Helper lemmas for C12: what one restart attempt may do to the counters (`Sound`), established for
`Engine.restart`, `RepeatingEngine.restart`, `ComponentState.restart` and lifted to the controller step (`StepOK`);
a hook answer that refuses starts nothing.
-/
namespace St4sd.Restart
open St4sd.Gen

/-- Relation between the state before (`s`) and after (`s'`) one restart attempt with answer `code`
(`none` = the attempt raised). -/
structure Sound (c : Cfg) (s : St) (i : Inp) (s' : St) (code : Option Code) : Prop where
  restarts_mono : s.restarts ≤ s'.restarts
  restarts_step : s'.restarts ≤ s.restarts + 1
  budget : effMax c ≠ C12.unlimited → (s.restarts : Int) ≤ effMax c → (s'.restarts : Int) ≤ effMax c
  listed : s.runs < s'.runs → i.reason = .submissionFailed ∨ i.reason ∈ c.hookOn
  consumed : s.runs < s'.runs → i.reason ≠ .submissionFailed → s'.restarts = s.restarts + 1
  runs_mono : s.runs ≤ s'.runs
  runs_step : s'.runs ≤ s.runs + 1
  init_runs : code = some .initiated → s'.runs = s.runs + 1
  resub_init : code = some .initiated → i.reason = .submissionFailed → s'.resub = s.resub + 1
  resub_else : ¬ (code = some .initiated ∧ i.reason = .submissionFailed) → s'.resub = s.resub
  shutdown_eq : s'.shutdown = s.shutdown

theorem Sound.refl (c : Cfg) (s : St) (i : Inp) (code : Option Code) (h : code ≠ some .initiated) :
    Sound c s i s code := by
  constructor <;> simp_all

theorem Sound.congr_code {c : Cfg} {s : St} {i : Inp} {s' : St} {code code' : Option Code} (h : Sound c s i s' code)
    (hc : code' = some .initiated ↔ code = some .initiated) : Sound c s i s' code' :=
  { h with init_runs := fun e => h.init_runs (hc.mp e)
           resub_init := fun e => h.resub_init (hc.mp e)
           resub_else := fun n => h.resub_else fun ⟨e, r⟩ => n ⟨hc.mpr e, r⟩ }

/-- exact description of the tail of `Engine.restart` -/
theorem launch_spec (s : St) (i : Inp) (x : RCtx) :
    ∃ s' code, launch s i x = (s', code) ∧ s'.restarts = s.restarts ∧ s'.shutdown = s.shutdown ∧
      s.runs ≤ s'.runs ∧ s'.runs ≤ s.runs + 1 ∧ (code = some .initiated → s'.runs = s.runs + 1) ∧
      (code = some .initiated → i.reason = .submissionFailed → s'.resub = s.resub + 1) ∧
      (¬ (code = some .initiated ∧ i.reason = .submissionFailed) → s'.resub = s.resub) := by
  unfold launch
  split
  · split
    · exact ⟨_, _, rfl, by simp⟩
    · split <;> exact ⟨_, _, rfl, by simp_all⟩
  · rename_i h; exact ⟨_, _, rfl, by simp_all⟩

theorem launch_of_refused (s : St) (i : Inp) {x : RCtx} (h : ctxToCode x ≠ .initiated) :
    launch s i x = (s, some (ctxToCode x)) := by
  unfold launch
  split
  · contradiction
  · rfl

theorem sound_of_launch (c : Cfg) (s : St) (i : Inp) (s1 : St) (x : RCtx)
    (hr : s1.restarts = s.restarts ∨ s1.restarts = s.restarts + 1)
    (hruns : s1.runs = s.runs) (hresub : s1.resub = s.resub) (hsh : s1.shutdown = s.shutdown)
    (hb : effMax c ≠ C12.unlimited → (s.restarts : Int) ≤ effMax c → (s1.restarts : Int) ≤ effMax c)
    (hl : i.reason = .submissionFailed ∨ i.reason ∈ c.hookOn)
    (hc : i.reason ≠ .submissionFailed → s1.restarts = s.restarts + 1) :
    Sound c s i (launch s1 i x).1 (launch s1 i x).2 := by
  obtain ⟨s', code, he, h1, h2, h3, h4, h5, h6, h7⟩ := launch_spec s1 i x
  rw [he]
  show Sound c s i s' code
  constructor
  · omega
  · omega
  · intro a b; rw [h1]; exact hb a b
  · intro _; exact hl
  · intro _ hne; rw [h1]; exact hc hne
  · omega
  · omega
  · intro h; rw [h5 h]; omega
  · intro h hr'; rw [h6 h hr']; omega
  · intro h; rw [h7 h]; omega
  · rw [h2]; exact hsh

theorem budgetLeft_spec (c : Cfg) (s : St) (h : budgetLeft c s = true) :
    effMax c ≠ C12.unlimited → (s.restarts : Int) + 1 ≤ effMax c := by
  intro hne
  simp only [budgetLeft, Bool.or_eq_true, beq_iff_eq, decide_eq_true_eq] at h
  rcases h with h | h
  · exact absurd h hne
  · exact h

theorem engineRestart_sound (c : Cfg) (s : St) (i : Inp) :
    Sound c s i (engineRestart c s i).1 (engineRestart c s i).2 := by
  unfold engineRestart
  split
  · exact Sound.refl c s i _ (by simp)
  · rename_i hb
    have hbud := budgetLeft_spec c s (by simpa using hb)
    -- a failed submission is launched again without counting; any other listed exit counts the attempt first, and
    -- by the budget check the limit still holds
    have resubmit : ∀ x, i.reason = .submissionFailed → Sound c s i (launch s i x).1 (launch s i x).2 := fun x hsf =>
      sound_of_launch c s i s x (Or.inl rfl) rfl rfl rfl (fun _ b => b) (Or.inl hsf) (fun h => absurd hsf h)
    have counted : ∀ x, i.reason ∈ c.hookOn → Sound c s i (launch { s with restarts := s.restarts + 1 } i x).1
        (launch { s with restarts := s.restarts + 1 } i x).2 := fun x hon =>
      sound_of_launch c s i _ x (Or.inr rfl) rfl rfl rfl (fun a _ => by simpa using hbud a) (Or.inr hon) (fun _ => rfl)
    split
    · rename_i hsim
      split
      · exact resubmit _ ‹_›
      · exact counted _ (of_decide_eq_true (Bool.and_eq_true_iff.mp hsim).2)
    · split
      · exact resubmit _ ‹_›
      · split
        · rename_i hon
          split
          · -- a hook module that cannot be imported: counted, then the exception; nothing is launched, as for a refusal
            have := counted .notPossible hon
            rw [launch_of_refused _ i (by decide)] at this
            exact this.congr_code (by simp [ctxToCode])
          · exact counted _ hon
          · exact counted _ hon
        · rw [launch_of_refused s i (x := .conditionsNotMet) (by decide)]
          exact Sound.refl c s i _ (by simp [ctxToCode])

/-- the default maxima leave room for the single restart of a RepeatingEngine (uses the generated values) -/
theorem default_room (c : Cfg) (h : c.maxRestarts = none) (hne : effMax c ≠ C12.unlimited) : 1 ≤ effMax c := by
  unfold effMax at *
  rw [h] at hne ⊢
  simp only at hne ⊢
  split at hne <;> simp_all [C12.defaultMaxRestarts, C12.defaultMaxRestartsWithHookFile, C12.unlimited]

theorem repeatingRestart_cases (c : Cfg) (s : St) (i : Inp) :
    (i.reason = .resourceExhausted ∧ s.restarts = 0 ∧ i.reason ∈ c.hookOn ∧ repeatingBudgetLeft c s = true ∧
      repeatingRestart c s i = ({ s with restarts := s.restarts + 1, runs := s.runs + 1 }, some .initiated)) ∨
    ∃ code, code ≠ .initiated ∧ repeatingRestart c s i = (s, some code) := by
  unfold repeatingRestart
  split
  · exact .inr ⟨_, by decide, rfl⟩
  · rename_i hb
    split
    · rename_i hc
      split
      · exact .inr ⟨_, by decide, rfl⟩
      · exact .inl ⟨hc.1, hc.2.1, hc.2.2, by simpa using hb, rfl⟩
    · exact .inr ⟨_, by decide, rfl⟩

theorem repeatingRestart_sound (c : Cfg) (s : St) (i : Inp) :
    Sound c s i (repeatingRestart c s i).1 (repeatingRestart c s i).2 := by
  rcases repeatingRestart_cases c s i with ⟨hre, h0, hon, hb, h⟩ | ⟨code, hne, h⟩ <;> rw [h]
  · have hne : i.reason ≠ .submissionFailed := by rw [hre]; decide
    have hbud : effMax c ≠ C12.unlimited → ((s.restarts + 1 : Nat) : Int) ≤ effMax c := by
      intro hne'
      cases hm : c.maxRestarts with
      | none => have := default_room c hm hne'; rw [h0]; simpa using this
      | some m =>
        have he : effMax c = m := by simp [effMax, hm]
        simp only [repeatingBudgetLeft, hm, Bool.or_eq_true, beq_iff_eq, decide_eq_true_eq] at hb
        rcases hb with hb | hb
        · exact absurd (he.trans hb) hne'
        · rw [he]; simpa using hb
    constructor <;> simp_all
  · exact Sound.refl c s i _ (by simpa using hne)

/-- `ComponentState.restart` in front of the (repaired) engines -/
theorem compRestart_sound (c : Cfg) (s : St) (i : Inp) :
    Sound c s i (compRestart false c s i).1 (compRestart false c s i).2 := by
  unfold compRestart
  split
  · exact Sound.refl c s i _ (by simp)
  · split
    · simpa using repeatingRestart_sound c s i
    · exact engineRestart_sound c s i

theorem compRestart_shutdown (old : Bool) (c : Cfg) (s : St) (i : Inp) (h : s.shutdown = true) :
    compRestart old c s i = (s, none) := by
  simp [compRestart, h]

theorem guarded_sound (c : Cfg) (s : St) (i : Inp) (r : St × Option Code) (h : Sound c s i r.1 r.2) :
    Sound c s i (guarded r).1 (some (guarded r).2) := by
  obtain ⟨s', code⟩ := r
  cases code with
  | none => exact h.congr_code (by simp [guarded])
  | some cd => exact h

theorem ctrlRestart_cases (c : Cfg) (s : St) (i : Inp) :
    (ctrlRestart c s i = guarded (compRestart false c s i) ∧ (i.reason = .submissionFailed → s.resub < cap)) ∨
    ∃ code, code ≠ .initiated ∧ ctrlRestart c s i = (s, code) := by
  generalize h : ctrlRestart c s i = r
  unfold ctrlRestart at h
  split at h
  · split at h
    · rename_i hc; exact .inl ⟨h.symm, fun _ => hc⟩
    · exact .inr ⟨_, by decide, h.symm⟩
  · rename_i hsf
    split at h
    · exact .inl ⟨h.symm, fun h => absurd h hsf⟩
    · split at h
      · split at h
        · exact .inr ⟨_, by decide, h.symm⟩
        · exact .inl ⟨h.symm, fun h => absurd h hsf⟩
      · exact .inr ⟨_, by decide, h.symm⟩

theorem ctrlRestart_sound (c : Cfg) (s : St) (i : Inp) :
    Sound c s i (ctrlRestart c s i).1 (some (ctrlRestart c s i).2) := by
  rcases ctrlRestart_cases c s i with ⟨h, _⟩ | ⟨code, hne, h⟩ <;> rw [h]
  · exact guarded_sound c s i _ (compRestart_sound c s i)
  · exact Sound.refl c s i _ (by simpa using hne)

theorem ctrlRestart_cap (c : Cfg) (s : St) (i : Inp) (hr : i.reason = .submissionFailed)
    (hi : (ctrlRestart c s i).2 = .initiated) : s.resub < cap := by
  rcases ctrlRestart_cases c s i with ⟨_, h⟩ | ⟨code, hne, h⟩
  · exact h hr
  · rw [h] at hi; exact absurd hi hne

theorem ctrlRestart_shutdown (c : Cfg) (s : St) (i : Inp) (h : s.shutdown = true) :
    (ctrlRestart c s i).1 = s ∧ (ctrlRestart c s i).2 ≠ .initiated := by
  rcases ctrlRestart_cases c s i with ⟨h', _⟩ | ⟨code, hne, h'⟩ <;> rw [h']
  · rw [compRestart_shutdown _ c s i h]; exact ⟨rfl, by simp [guarded]⟩
  · exact ⟨rfl, hne⟩

theorem ctrlRestart_repeating (c : Cfg) (s : St) (i : Inp) (hc : c.repeating = true) :
    (i.reason = .resourceExhausted ∧ s.restarts = 0 ∧
      ctrlRestart c s i = ({ s with restarts := s.restarts + 1, runs := s.runs + 1 }, .initiated)) ∨
    ∃ code, code ≠ .initiated ∧ ctrlRestart c s i = (s, code) := by
  rcases ctrlRestart_cases c s i with ⟨h, _⟩ | h
  · simp only [h, compRestart, hc, if_true, Bool.false_eq_true, if_false]
    split
    · exact .inr ⟨.couldNotInitiate, by decide, rfl⟩
    · rcases repeatingRestart_cases c s i with ⟨hre, h0, _, _, h'⟩ | ⟨code, hne, h'⟩ <;> rw [h']
      · exact .inl ⟨hre, h0, rfl⟩
      · exact .inr ⟨code, hne, rfl⟩
  · exact .inr h

theorem exit_fields (c : Cfg) (s : St) (r : Reason) :
    (exit c s r).restarts = s.restarts ∧ (exit c s r).runs = s.runs ∧ (exit c s r).shutdown = s.shutdown ∧
    (exit c s r).resub ≤ s.resub ∧ (r ≠ .success → (exit c s r).resub = s.resub) := by
  unfold exit
  split <;> simp_all

theorem taskCreated_eq (c : Cfg) (s : St) : taskCreated c s = s := rfl

/-- the launch touches no counter (`taskCreated` is the identity): the controller decides on the state the exit left -/
theorem arrive_eq (c : Cfg) (s : St) (i : Inp) : arrive c s i = exit c s i.reason := by
  unfold arrive; cases i.launch <;> rfl

/-- a step is the controller's decision on the state the exit left; `postMortemCheck` adds the final state -/
theorem step_eq (fin : Bool) (c : Cfg) (s : St) (i : Inp) :
    step fin c s i =
      let q := ctrlRestart c (exit c s i.reason) i
      ({ q.1 with shutdown := q.1.shutdown || (fin && decide (q.2 ≠ .initiated)) }, q.2) := by
  unfold step stepWith stepGen
  rw [arrive_eq]
  generalize ctrlRestart c (exit c s i.reason) i = q
  obtain ⟨⟨_, _, _, sd⟩, code⟩ := q
  cases fin <;> cases sd <;> cases code <;> rfl

/-- What one step (task exit + controller decision [+ final state]) guarantees. -/
structure StepOK (fin : Bool) (c : Cfg) (s : St) (i : Inp) (s' : St) (code : Code) : Prop where
  restarts_mono : s.restarts ≤ s'.restarts
  budget : effMax c ≠ C12.unlimited → (s.restarts : Int) ≤ effMax c → (s'.restarts : Int) ≤ effMax c
  listed : s.runs < s'.runs ∨ code = .initiated → i.reason = .submissionFailed ∨ i.reason ∈ c.hookOn
  consumed : code = .initiated → i.reason ≠ .submissionFailed → s'.restarts = s.restarts + 1
  runs_mono : s.runs ≤ s'.runs
  init_runs : code = .initiated → s'.runs = s.runs + 1
  resub_inv : s.resub ≤ cap → s'.resub ≤ cap
  resub_window : code = .initiated → i.reason = .submissionFailed → s.resub < cap ∧ s'.resub = s.resub + 1
  resub_keep : i.reason ≠ .success → s.resub ≤ s'.resub
  absorbing : s.shutdown = true → code ≠ .initiated ∧ s'.runs = s.runs ∧ s'.restarts = s.restarts ∧ s'.shutdown = true
  refused_final : fin = true → code ≠ .initiated → s'.shutdown = true
  repeating_once : c.repeating = true → s.restarts ≤ 1 → s'.restarts ≤ 1

theorem step_ok (fin : Bool) (c : Cfg) (s : St) (i : Inp) :
    StepOK fin c s i (step fin c s i).1 (step fin c s i).2 := by
  have hs := ctrlRestart_sound c (exit c s i.reason) i
  have hcap := ctrlRestart_cap c (exit c s i.reason) i
  have hsh := ctrlRestart_shutdown c (exit c s i.reason) i
  have hrep := ctrlRestart_repeating c (exit c s i.reason) i
  obtain ⟨e1, e2, e3, e4, e5⟩ := exit_fields c s i.reason
  rw [step_eq]
  generalize ctrlRestart c (exit c s i.reason) i = q at *
  generalize exit c s i.reason = a at *
  have hinit : q.2 = .initiated → q.1.runs = a.runs + 1 := fun h => hs.init_runs (congrArg some h)
  -- an initiated re-submission was below the cap and is counted; nothing else changes the streak
  have hresub : (q.2 = .initiated ∧ i.reason = .submissionFailed ∧ q.1.resub = a.resub + 1 ∧ a.resub < cap) ∨
      (¬ (q.2 = .initiated ∧ i.reason = .submissionFailed) ∧ q.1.resub = a.resub) := by
    by_cases hh : q.2 = .initiated ∧ i.reason = .submissionFailed
    · exact .inl ⟨hh.1, hh.2, hs.resub_init (congrArg some hh.1) hh.2, hcap hh.2 hh.1⟩
    · exact .inr ⟨hh, hs.resub_else (by simpa using hh)⟩
  -- in terms of the state `a` the exit left (it differs from `s` in `resub` only) and of the decision `q`
  constructor <;> simp only [← e1, ← e2, ← e3]
  · exact hs.restarts_mono
  · exact hs.budget
  · rintro (h | h)
    · exact hs.listed h
    · exact hs.listed (by have := hinit h; omega)
  · exact fun h hne => hs.consumed (by have := hinit h; omega) hne
  · exact hs.runs_mono
  · exact hinit
  · omega
  · intro h hr
    have := e5 (by rw [hr]; decide)
    rcases hresub with ⟨_, _, _, _⟩ | ⟨hn, _⟩
    · omega
    · exact absurd ⟨h, hr⟩ hn
  · intro hne
    have := e5 hne
    omega
  · intro h
    obtain ⟨h1, h2⟩ := hsh h
    exact ⟨h2, by rw [h1], by rw [h1], by simp [h1, h]⟩
  · intro h1 h2; simp [h1, h2]
  · intro hc h
    rcases hrep hc with ⟨_, h0, h'⟩ | ⟨_, _, h'⟩ <;> rw [h'] <;> simp only <;> omega

/-! ## Restart-hook outcomes that refuse the restart -/

theorem refuses_not_initiated (a : HookAns) (h : a.refuses = true) : ctxToCode (answerCtx a) ≠ .initiated := by
  cases a with
  | ctx x => cases x <;> simp_all [HookAns.refuses, answerCtx, ctxToCode]
  | _ => simp_all [HookAns.refuses, answerCtx, ctxToCode]

theorem engineRestart_refusing (c : Cfg) (s : St) (i : Inp) (hsim : c.simulator = false)
    (hm : c.hookModule = .scripted) (hsf : i.reason ≠ .submissionFailed) (hr : i.hook.refuses = true) :
    (engineRestart c s i).2 ≠ some .initiated ∧ (engineRestart c s i).1.runs = s.runs := by
  have h1 := refuses_not_initiated i.hook hr
  unfold engineRestart
  split
  · simp
  · simp only [hsim, Bool.false_and, Bool.false_eq_true, if_false]
    split
    · simpa [hm, launch_of_refused _ i h1] using h1
    · rw [launch_of_refused s i (x := .conditionsNotMet) (by decide)]
      simp [ctxToCode]

theorem engineAsksHook_spec (c : Cfg) (s : St) (i : Inp) (h : engineAsksHook c s i = true) :
    i.reason ∈ c.hookOn ∧ i.reason ≠ .submissionFailed ∧ budgetLeft c s = true ∧ c.hookModule = .scripted := by
  simp only [engineAsksHook, Bool.and_eq_true, decide_eq_true_eq] at h
  exact ⟨h.1.2, h.1.1.2, h.1.1.1.1, h.2⟩

end St4sd.Restart
