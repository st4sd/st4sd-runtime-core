import St4sd.Model.Ref
import St4sd.Gen.C09
/-!
Witnesses for C09.

`Manifest.top_level_folders` **before the repair** (`topLevelFoldersOld`: split on
`os.path.pathsep`, i.e. `:`) returns the nested key `foo/bar` whole, so the reference
`foo/bar/f:ref` into that manifest folder is classified as a reference to component `stage0.foo`
and `FlowIRConcrete.validate` reports an unknown component; with the repaired function
(`topLevelFolders`, split on `/`) the same reference is direct.  The harness replays exactly this
input on the real code (corpus entry 0 of `harness/c09.py`).

The remaining theorems record quirks that the model keeps (they delimit the hypotheses of
`Props/C09.lean`).

The string literals are rewritten to character lists (`simp -index only [String.toList_ofList]`) before the kernel
evaluates: its UTF-8 decoding of a literal is quadratic in the length (`Str.ofList_eq` in `Lemmas/Str.lean`).
-/
namespace St4sd.C09.Witness
open St4sd.Ref

private def sf := Gen.C09.specialFoldersC

/-- the old function does not extract the left-most folder of a nested key; the repaired one does -/
theorem old_nested_key_kept_whole :
    topLevelFoldersOld ["foo/bar".toList] = ["foo/bar".toList] ∧
    topLevelFolders ["foo/bar".toList] = ["foo".toList] := by
  simp -index only [String.toList_ofList]
  decide +kernel

/-- full statement "a reference whose first path segment is a manifest folder is never treated as a
component reference" is false for the old function … -/
theorem old_manifest_folder_reference_is_component :
    parseFullX sf "foo/bar/f:ref".toList (some 0) [] (topLevelFoldersOld ["foo/bar".toList])
      = some (some 0, "foo".toList, some "bar/f".toList, "ref".toList, false) := by
  simp -index only [String.toList_ofList]
  decide +kernel

/-- … it is expanded to `stage0.foo/bar/f:ref` and reported as a reference to the unknown component
`stage0.foo` by the checks of `validate`, while the repaired function accepts the workflow. -/
theorem old_validate_reports_unknown_component :
    validateMissing sf "foo/bar/f:ref".toList 0 [(0, ["c0".toList])] (topLevelFoldersOld ["foo/bar".toList])
      = some (some (0, "foo".toList)) ∧
    validateMissing sf "foo/bar/f:ref".toList 0 [(0, ["c0".toList])] (topLevelFolders ["foo/bar".toList])
      = some none := by
  simp -index only [String.toList_ofList]
  decide +kernel

/-- quirk: `stage([0-9]+)` is prefix-matched, so a non-canonical stage token is accepted and the
printed form differs from the input (hence `compile_parse` asks for a canonical prefix) -/
theorem sloppy_stage_prefix_not_reprinted :
    parseFull sf "stage01x.foo:ref".toList none [] [] = some (some 1, "foo".toList, none, "ref".toList) ∧
    compileReference "foo".toList none "ref".toList (some 1) = "stage1.foo:ref".toList := by
  simp -index only [String.toList_ofList]
  decide +kernel

/-- quirk: a component called like `stageN.x` cannot be spelled relatively (hence the hypothesis
`hasIndex = false` of `parse_compile_relative` / `relative_absolute_agree`) -/
theorem stage_like_name_is_not_relative :
    parseFull sf "stage1x.bar:ref".toList (some 0) [] [] = some (some 1, "bar".toList, none, "ref".toList) := by
  simp -index only [String.toList_ofList]
  decide +kernel

/-- quirk: `compile_reference` does not reprint a one-segment absolute path (`os.path.split('/a')`
is `('/', 'a')`); `DataReference.absoluteReference` (which joins with `os.path.join`) does -/
theorem one_segment_absolute_path :
    parseFull sf "/a:ref".toList none [] [] = some (none, ['/'], some ['a'], "ref".toList) ∧
    compileReference ['/'] (some ['a']) "ref".toList none = "//a:ref".toList ∧
    (dataRef sf Gen.C09.dataReferenceMethodsC "/a:ref".toList none).map DataRef.absolute = some "/a:ref".toList := by
  simp -index only [String.toList_ofList]
  decide +kernel

end St4sd.C09.Witness
