import St4sd.Model.FsConc
/-!
Lemmas for C14 about interleaved traces of several writers (`St4sd.FsConc`).  An event that the protocol checker accepts
keeps the invariant `Inv`, which ties the file system to the checker's state (`inv_step`); so after every accepted trace
the target holds its old content or a text the checker recorded as installed (`inv_run`, `Inv.tgt`).  The invariant has
three parts that are kept for different reasons: the directory (`NamesOk`: every event keeps it, whatever the checker
says), the checker's sessions (`SessOk`: a matter of the checker alone), and the link between the two (`Link`).
-/
namespace St4sd.FsConc
open St4sd.FsAtomic (Path Content)

@[simp] theorem upd_same {α β : Type} [DecidableEq α] (f : α → β) (k : α) (v : β) : upd f k v k = v := by simp [upd]

theorem upd_other {α β : Type} [DecidableEq α] (f : α → β) (k x : α) (v : β) (h : x ≠ k) : upd f k v x = f x := by
  simp [upd, h]

theorem upd_comm {α β : Type} [DecidableEq α] (f : α → β) {a b : α} (x y : β) (h : a ≠ b) :
    upd (upd f a x) b y = upd (upd f b y) a x := by
  funext q
  by_cases ha : q = a <;> by_cases hb : q = b <;> simp_all [upd]

theorem writeAt_end (d b : Content) : writeAt d d.length b = d ++ b := by
  cases b <;> simp [writeAt]

theorem crun_nil (s : St) : crun [] s = s := rfl
theorem crun_cons (e : Ev) (evs : List Ev) (s : St) : crun (e :: evs) s = crun evs (step s e) := rfl

/-! ### the directory: no file has two names, every file number is below the allocation counter -/

def NamesOk (names : Path → Option Nat) (next : Nat) : Prop :=
  (∀ p q i, names p = some i → names q = some i → p = q) ∧ ∀ p i, names p = some i → i < next

theorem NamesOk.delete {names : Path → Option Nat} {next : Nat} (h : NamesOk names next) (p : Path) :
    NamesOk (upd names p none) next := by
  have sub : ∀ q j, upd names p none q = some j → names q = some j := by
    intro q j hq
    by_cases e : q = p
    · rw [e, upd_same] at hq; cases hq
    · rwa [upd_other _ _ _ _ e] at hq
  exact ⟨fun q q' i h1 h2 => h.1 q q' i (sub _ _ h1) (sub _ _ h2), fun q i h1 => h.2 q i (sub _ _ h1)⟩

theorem NamesOk.bind {names : Path → Option Nat} {next next' : Nat} (h : NamesOk names next) (p : Path) (i : Nat)
    (hi : ∀ q, q ≠ p → names q ≠ some i) (hlt : i < next') (hle : next ≤ next') :
    NamesOk (upd names p (some i)) next' := by
  have key : ∀ q j, upd names p (some i) q = some j → (q = p ∧ j = i) ∨ (q ≠ p ∧ names q = some j) := by
    intro q j hq
    by_cases e : q = p
    · rw [e, upd_same] at hq; exact .inl ⟨e, (Option.some.inj hq).symm⟩
    · rw [upd_other _ _ _ _ e] at hq; exact .inr ⟨e, hq⟩
  constructor
  · intro q q' j h1 h2
    rcases key q j h1 with ⟨e1, ej⟩ | ⟨e1, h1⟩ <;> rcases key q' j h2 with ⟨e2, ej'⟩ | ⟨e2, h2⟩
    · rw [e1, e2]
    · exact absurd (ej ▸ h2) (hi q' e2)
    · exact absurd (ej' ▸ h1) (hi q e1)
    · exact h.1 q q' j h1 h2
  · intro q j h1
    rcases key q j h1 with ⟨_, ej⟩ | ⟨_, h1⟩
    · exact ej ▸ hlt
    · exact Nat.lt_of_lt_of_le (h.2 q j h1) hle

theorem names_step (s : St) (e : Ev) (h : NamesOk s.names s.next) : NamesOk (step s e).names (step s e).next := by
  cases e with
  | openW w p =>
    cases hp : s.names p with
    | some i => simp only [step, hp]; exact h
    | none =>
      simp only [step, hp]
      exact h.bind p s.next (fun q _ hq => Nat.lt_irrefl _ (h.2 q _ hq)) (Nat.lt_succ_self _) (Nat.le_succ _)
  | write w b => simp only [step]; split <;> exact h
  | close w => exact h
  | remove p => exact h.delete p
  | rename a b =>
    cases ha : s.names a with
    | none => simp only [step, ha]; exact h
    | some i =>
      simp only [step, ha]
      split
      · exact h
      · next hab =>
        -- the file loses its one name `a` first, so `b` may take it
        rw [← upd_comm _ _ _ hab]
        refine (h.delete a).bind b i (fun q _ hq => ?_) (h.2 a i ha) (Nat.le_refl _)
        by_cases e : q = a
        · rw [e, upd_same] at hq; cases hq
        · rw [upd_other _ _ _ _ e] at hq; exact e (h.1 q a i hq ha)

/-! ### what the checker accepts, event by event -/

/-- what `write` and `close` do to the checker's sessions: those of writer `w` are changed by `g`, the others stay -/
def onW (w : Nat) (g : Sess → Sess) (x : Sess) : Sess := if x.w = w then g x else x

theorem onW_eq {w : Nat} {g : Sess → Sess} {x : Sess} (h : x.w = w) : onW w g x = g x := if_pos h
theorem onW_ne {w : Nat} {g : Sess → Sess} {x : Sess} (h : x.w ≠ w) : onW w g x = x := if_neg h

theorem onW_keep {α : Type} {w : Nat} {g : Sess → Sess} (π : Sess → α) (hg : ∀ x, π (g x) = π x) (x : Sess) :
    π (onW w g x) = π x := by
  unfold onW; split
  · exact hg x
  · rfl

section Checker
variable {t : Path} {c c' : Chk}

theorem chkStep_openW {w : Nat} {p : Path} :
    chkStep t c (.openW w p) = some c' ↔
      p ≠ t ∧ (∀ x ∈ c.sess, x.w ≠ w ∧ x.p ≠ p) ∧ c' = { c with sess := ⟨w, p, true, []⟩ :: c.sess } := by
  simp only [chkStep, Bool.and_eq_true, bne_iff_ne, ne_eq, List.all_eq_true, Option.ite_none_right_eq_some,
    Option.some.injEq, eq_comm (b := c'), and_assoc]

theorem chkStep_write {w : Nat} {b : Content} :
    chkStep t c (.write w b) = some c' ↔
      (∃ x ∈ c.sess, x.w = w ∧ x.isOpen = true) ∧
        c' = { c with sess := c.sess.map (onW w fun x => { x with buf := x.buf ++ b }) } := by
  simp only [chkStep, Option.ite_none_right_eq_some, Option.some.injEq, List.any_eq_true, Bool.and_eq_true,
    beq_iff_eq, eq_comm (b := c')]
  rfl

theorem chkStep_close {w : Nat} :
    chkStep t c (.close w) = some c' ↔
      (∃ x ∈ c.sess, x.w = w ∧ x.isOpen = true) ∧
        c' = { c with sess := c.sess.map (onW w fun x => { x with isOpen := false }) } := by
  simp only [chkStep, Option.ite_none_right_eq_some, Option.some.injEq, List.any_eq_true, Bool.and_eq_true,
    beq_iff_eq, eq_comm (b := c')]
  rfl

theorem chkStep_remove {p : Path} :
    chkStep t c (.remove p) = some c' ↔
      p ≠ t ∧ (∀ x ∈ c.sess, x.p = p → x.isOpen = false) ∧ c' = { c with sess := c.sess.filter (fun y => y.p != p) } := by
  simp only [chkStep, Bool.and_eq_true, bne_iff_ne, ne_eq, List.all_eq_true, Bool.or_eq_true,
    Bool.not_eq_eq_eq_not, Bool.not_true, ← Decidable.imp_iff_not_or, Option.ite_none_right_eq_some, Option.some.injEq,
    eq_comm (b := c'), and_assoc]

theorem chkStep_rename {a b : Path} :
    chkStep t c (.rename a b) = some c' ↔
      a ≠ t ∧ (∀ x ∈ c.sess, (x.p = a → x.isOpen = false) ∧ (x.p = b → a = b)) ∧
        if b = t then ∃ x, c.sess.find? (fun x => x.p == a) = some x ∧
            c' = ⟨c.sess.filter (fun y => y.p != a), x.buf :: c.installed⟩
        else c' = { c with sess := c.sess.filter fun y => y.p != a || a == b } := by
  simp only [chkStep, Option.ite_none_right_eq_some, Bool.and_eq_true, bne_iff_ne, ne_eq, List.all_eq_true,
    Bool.or_eq_true, Bool.not_eq_true', beq_iff_eq, ← Decidable.imp_iff_not_or, and_assoc]
  refine and_congr_right fun _ => and_congr_right fun _ => ?_
  split
  · cases c.sess.find? (fun x => x.p == a) <;> simp [eq_comm (b := c')]
  · simp [eq_comm (b := c')]

/-! ### runs of the checker -/

theorem chkStep_mono {e : Ev} (h : chkStep t c e = some c') :
    ∀ v ∈ c.installed, v ∈ c'.installed := by
  cases e with
  | openW w p => rw [(chkStep_openW.mp h).2.2]; exact fun _ hv => hv
  | write w b => rw [(chkStep_write.mp h).2]; exact fun _ hv => hv
  | close w => rw [(chkStep_close.mp h).2]; exact fun _ hv => hv
  | remove p => rw [(chkStep_remove.mp h).2.2]; exact fun _ hv => hv
  | rename a b =>
    obtain ⟨_, _, h⟩ := chkStep_rename.mp h
    split at h
    · obtain ⟨x, _, rfl⟩ := h
      exact fun _ hv => List.mem_cons_of_mem _ hv
    · rw [h]; exact fun _ hv => hv

theorem chkRun_mono (t : Path) (evs : List Ev) (c c' : Chk) (h : chkRun t c evs = some c') :
    ∀ v ∈ c.installed, v ∈ c'.installed := by
  induction evs generalizing c with
  | nil => cases h; exact fun _ hv => hv
  | cons e evs ih =>
    simp only [chkRun] at h
    split at h
    · next c1 hc1 => exact fun v hv => ih c1 h v (chkStep_mono hc1 v hv)
    · cases h

theorem chkRun_append (t : Path) (a b : List Ev) (c : Chk) :
    chkRun t c (a ++ b) = (chkRun t c a).bind fun c1 => chkRun t c1 b := by
  induction a generalizing c with
  | nil => rfl
  | cons e a ih => simp only [List.cons_append, chkRun]; cases chkStep t c e <;> simp [ih]

theorem chkRun_take (t : Path) (evs : List Ev) (c c' : Chk) (n : Nat) (h : chkRun t c evs = some c') :
    ∃ c1, chkRun t c (evs.take n) = some c1 ∧ ∀ v ∈ c1.installed, v ∈ c'.installed := by
  have happ := chkRun_append t (evs.take n) (evs.drop n) c
  rw [List.take_append_drop, h] at happ
  cases h1 : chkRun t c (evs.take n) with
  | none => rw [h1] at happ; cases happ
  | some c1 => rw [h1] at happ; exact ⟨c1, rfl, chkRun_mono t _ c1 c' happ.symm⟩

/-! ### the checker's sessions: told apart by their writer and by their staging path, which is never the target -/

def SessOk (t : Path) (l : List Sess) : Prop :=
  (∀ x ∈ l, ∀ y ∈ l, (x.w = y.w ∨ x.p = y.p) → x = y) ∧ ∀ x ∈ l, x.p ≠ t

theorem SessOk.filter {t : Path} {l : List Sess} (h : SessOk t l) (f : Sess → Bool) : SessOk t (l.filter f) :=
  ⟨fun x hx y hy => h.1 x (List.mem_filter.1 hx).1 y (List.mem_filter.1 hy).1, fun x hx => h.2 x (List.mem_filter.1 hx).1⟩

theorem SessOk.map {t : Path} {l : List Sess} (h : SessOk t l) (f : Sess → Sess) (hw : ∀ x, (f x).w = x.w)
    (hp : ∀ x, (f x).p = x.p) : SessOk t (l.map f) := by
  constructor
  · intro y1 hy1 y2 hy2 hy
    obtain ⟨x1, hx1, rfl⟩ := List.mem_map.1 hy1
    obtain ⟨x2, hx2, rfl⟩ := List.mem_map.1 hy2
    rw [hw, hw, hp, hp] at hy
    rw [h.1 x1 hx1 x2 hx2 hy]
  · intro y hy
    obtain ⟨x, hx, rfl⟩ := List.mem_map.1 hy
    rw [hp]
    exact h.2 x hx

theorem sess_step {e : Ev} (h : chkStep t c e = some c') (ok : SessOk t c.sess) :
    SessOk t c'.sess := by
  cases e with
  | write w b => rw [(chkStep_write.mp h).2]; exact ok.map _ (onW_keep Sess.w fun _ => rfl) (onW_keep Sess.p fun _ => rfl)
  | close w => rw [(chkStep_close.mp h).2]; exact ok.map _ (onW_keep Sess.w fun _ => rfl) (onW_keep Sess.p fun _ => rfl)
  | remove p => rw [(chkStep_remove.mp h).2.2]; exact ok.filter _
  | rename a b =>
    obtain ⟨_, _, h⟩ := chkStep_rename.mp h
    split at h
    · obtain ⟨x, _, rfl⟩ := h; exact ok.filter _
    · rw [h]; exact ok.filter _
  | openW w p =>
    obtain ⟨hpt, hall, rfl⟩ := chkStep_openW.mp h
    constructor
    · intro x hx y hy hxy
      rcases List.mem_cons.1 hx with rfl | hx <;> rcases List.mem_cons.1 hy with rfl | hy
      · rfl
      · exact absurd hxy (not_or.mpr ⟨Ne.symm (hall y hy).1, Ne.symm (hall y hy).2⟩)
      · exact absurd hxy (not_or.mpr (hall x hx))
      · exact ok.1 x hx y hy hxy
    · intro x hx
      rcases List.mem_cons.1 hx with rfl | hx
      · exact hpt
      · exact ok.2 x hx

end Checker

/-! ### the invariant -/

/-- the invariant that ties the file system state to the state of the protocol checker -/
structure Inv (t : Path) (old : Option Content) (s : St) (c : Chk) : Prop where
  inj : ∀ p q i, s.names p = some i → s.names q = some i → p = q
  fresh : ∀ p i, s.names p = some i → i < s.next
  distinct : ∀ x ∈ c.sess, ∀ y ∈ c.sess, (x.w = y.w ∨ x.p = y.p) → x = y
  notT : ∀ x ∈ c.sess, x.p ≠ t
  held : ∀ x ∈ c.sess, ∃ i, s.names x.p = some i ∧ s.data i = x.buf ∧
    s.fds x.w = if x.isOpen then some (i, x.buf.length) else none
  idle : ∀ w, (∀ x ∈ c.sess, x.w ≠ w) → s.fds w = none
  tgt : content s t = old ∨ ∃ v ∈ c.installed, content s t = some v

/-- the file of session `x` (the body of `Inv.held`): named `x.p`, holding `x.buf`, and open at its end in writer `x.w`
exactly while the session is open -/
def Held (s : St) (x : Sess) : Prop :=
  ∃ i, s.names x.p = some i ∧ s.data i = x.buf ∧ s.fds x.w = if x.isOpen then some (i, x.buf.length) else none

theorem Held.frame {s s' : St} {x : Sess} (h : Held s x) (hn : s'.names x.p = s.names x.p)
    (hd : ∀ i, s.names x.p = some i → s'.data i = s.data i) (hf : s'.fds x.w = s.fds x.w) : Held s' x := by
  obtain ⟨i, h1, h2, h3⟩ := h
  exact ⟨i, hn.trans h1, (hd i h1).trans h2, hf.trans h3⟩

theorem tgt_congr {t : Path} {old : Option Content} {s s' : St} {inst : List Content}
    (hn : s'.names t = s.names t) (hd : ∀ k, s.names t = some k → s'.data k = s.data k)
    (h : content s t = old ∨ ∃ v ∈ inst, content s t = some v) :
    content s' t = old ∨ ∃ v ∈ inst, content s' t = some v := by
  have : content s' t = content s t := by
    unfold content
    rw [hn]
    cases hk : s.names t with
    | none => rfl
    | some k => simp [hd k hk]
  rwa [this]

/-- the part of `Inv` that ties the file system to the checker -/
def Link (t : Path) (old : Option Content) (s : St) (c : Chk) : Prop :=
  (∀ x ∈ c.sess, Held s x) ∧ (∀ w, (∀ x ∈ c.sess, x.w ≠ w) → s.fds w = none) ∧
    (content s t = old ∨ ∃ v ∈ c.installed, content s t = some v)

variable {t : Path} {old : Option Content} {s : St} {c : Chk}

theorem step_openW (s : St) (w : Nat) (p : Path) :
    ∃ i, (s.names p = some i ∨ i = s.next) ∧ (step s (.openW w p)).names p = some i ∧
      (∀ q, q ≠ p → (step s (.openW w p)).names q = s.names q) ∧
      (step s (.openW w p)).data = upd s.data i [] ∧ (step s (.openW w p)).fds = upd s.fds w (some (i, 0)) := by
  cases hp : s.names p with
  | some i =>
    refine ⟨i, ?_⟩
    simp [step, hp]
  | none =>
    refine ⟨s.next, ?_⟩
    simp only [step, hp, upd_same, and_true, or_true, true_and]
    exact fun q hq => upd_other _ _ _ _ hq

theorem link_open (inv : Inv t old s c) (w : Nat) (p : Path)
    (hpt : p ≠ t) (hall : ∀ x ∈ c.sess, x.w ≠ w ∧ x.p ≠ p) :
    Link t old (step s (.openW w p)) { c with sess := ⟨w, p, true, []⟩ :: c.sess } := by
  obtain ⟨i, hi, hnp, hnq, hdata, hfds⟩ := step_openW s w p
  -- no other path names the opened file: it had the one name `p`, or none at all
  have hne : ∀ q j, q ≠ p → s.names q = some j → j ≠ i := by
    intro q j hq hj e
    rcases hi with hi | hi
    · exact hq (inv.inj q p i (e ▸ hj) hi)
    · exact Nat.lt_irrefl _ (hi ▸ e ▸ inv.fresh q j hj)
  refine ⟨?_, ?_, ?_⟩
  · intro x hx
    rcases List.mem_cons.1 hx with rfl | hx
    · exact ⟨i, hnp, by rw [hdata, upd_same], by rw [hfds, upd_same]; rfl⟩
    · exact Held.frame (inv.held x hx) (hnq _ (hall x hx).2)
        (fun j hj => by rw [hdata, upd_other _ _ _ _ (hne _ j (hall x hx).2 hj)])
        (by rw [hfds, upd_other _ _ _ _ (hall x hx).1])
  · intro w' hw'
    rw [hfds, upd_other _ _ _ _ (Ne.symm (hw' _ List.mem_cons_self))]
    exact inv.idle w' fun x hx => hw' x (List.mem_cons_of_mem _ hx)
  · exact tgt_congr (hnq t (Ne.symm hpt)) (fun k hk => by rw [hdata, upd_other _ _ _ _ (hne t k (Ne.symm hpt) hk)])
      inv.tgt

/-- A `write` or a `close`: writer `x0.w` acts through its own handle on the file of its own session `x0`, which the checker
changes by `g`.  The other sessions, the writers without a session and the target are out of its reach. -/
theorem link_own (inv : Inv t old s c) {x0 : Sess} (hx0 : x0 ∈ c.sess) (g : Sess → Sess) (hg : ∀ x, (g x).w = x.w)
    {s' : St} (hn : s'.names = s.names) (hd : ∀ j, s.names x0.p ≠ some j → s'.data j = s.data j)
    (hf : ∀ w, w ≠ x0.w → s'.fds w = s.fds w) (hown : Held s' (g x0)) :
    Link t old s' { c with sess := c.sess.map (onW x0.w g) } := by
  -- the file of `x0` has no other name
  have hne : ∀ q j, q ≠ x0.p → s.names q = some j → s.names x0.p ≠ some j :=
    fun q j hq hj e => hq (inv.inj q _ j hj e)
  refine ⟨?_, ?_, tgt_congr (congrFun hn t) (fun k hk => hd k (hne t k (Ne.symm (inv.notT x0 hx0)) hk)) inv.tgt⟩
  · intro y hy
    obtain ⟨x, hx, rfl⟩ := List.mem_map.1 hy
    by_cases hxw : x.w = x0.w
    · rw [onW_eq hxw, inv.distinct x hx x0 hx0 (.inl hxw)]
      exact hown
    · rw [onW_ne hxw]
      have hp : x.p ≠ x0.p := fun e => hxw (congrArg Sess.w (inv.distinct x hx x0 hx0 (.inr e)))
      exact Held.frame (inv.held x hx) (congrFun hn _) (fun j hj => hd j (hne _ j hp hj)) (hf _ hxw)
  · intro w hw
    have hold : ∀ x ∈ c.sess, x.w ≠ w :=
      fun x hx e => hw _ (List.mem_map.2 ⟨x, hx, rfl⟩) (by rw [onW_keep Sess.w hg, e])
    rw [hf w fun e => hold x0 hx0 e.symm]
    exact inv.idle w hold

theorem inv_drop (inv : Inv t old s c) (f : Sess → Bool) (hcl : ∀ x ∈ c.sess, f x = false → x.isOpen = false) :
    Inv t old s { c with sess := c.sess.filter f } := by
  have ok := SessOk.filter ⟨inv.distinct, inv.notT⟩ f
  refine ⟨inv.inj, inv.fresh, ok.1, ok.2, fun x hx => inv.held x (List.mem_filter.1 hx).1, ?_, inv.tgt⟩
  intro w' hw'
  by_cases hex : ∃ x ∈ c.sess, x.w = w'
  · -- a writer whose session is abandoned has closed its file
    obtain ⟨x, hx, rfl⟩ := hex
    have hfx : f x = false := Bool.eq_false_iff.2 fun hfx => hw' x (List.mem_filter.2 ⟨hx, hfx⟩) rfl
    obtain ⟨_, _, _, hf⟩ := inv.held x hx
    simpa [hcl x hx hfx] using hf
  · exact inv.idle w' fun x hx e => hex ⟨x, hx, e⟩

theorem link_names (inv : Inv t old s c) (names' : Path → Option Nat) (hs : ∀ x ∈ c.sess, names' x.p = s.names x.p)
    {inst : List Content}
    (htgt : content { s with names := names' } t = old ∨ ∃ v ∈ inst, content { s with names := names' } t = some v) :
    Link t old { s with names := names' } ⟨c.sess, inst⟩ :=
  ⟨fun x hx => Held.frame (inv.held x hx) (hs x hx) (fun _ _ => rfl) rfl, inv.idle, htgt⟩

theorem step_rename (s : St) (a b : Path) :
    ∃ names', step s (.rename a b) = { s with names := names' } ∧
      (∀ q, (q ≠ a ∧ q ≠ b) ∨ a = b → names' q = s.names q) ∧ ∀ i, s.names a = some i → a ≠ b → names' b = some i := by
  cases ha : s.names a with
  | none => exact ⟨s.names, by simp only [step, ha], fun _ _ => rfl, fun _ h => nomatch h⟩
  | some i =>
    by_cases hab : a = b
    · exact ⟨s.names, by simp only [step, ha, if_pos hab], fun _ _ => rfl, fun _ _ h => absurd hab h⟩
    · refine ⟨upd (upd s.names b (some i)) a none, by simp only [step, ha, if_neg hab], fun q hq => ?_,
        fun j hj _ => ?_⟩
      · obtain ⟨hqa, hqb⟩ := hq.resolve_right hab
        rw [upd_other _ _ _ _ hqa, upd_other _ _ _ _ hqb]
      · rw [upd_other _ _ _ _ (Ne.symm hab), upd_same, ← hj]

theorem link_step {c' : Chk} {e : Ev} (inv : Inv t old s c)
    (h : chkStep t c e = some c') : Link t old (step s e) c' := by
  cases e with
  | openW w p =>
    obtain ⟨hpt, hall, rfl⟩ := chkStep_openW.mp h
    exact link_open inv w p hpt hall
  | write w b =>
    obtain ⟨⟨x0, hx0, rfl, ho0⟩, rfl⟩ := chkStep_write.mp h
    obtain ⟨i, hn0, hd0, hf0⟩ := inv.held x0 hx0
    rw [ho0, if_pos rfl] at hf0
    simp only [step, hf0]
    refine link_own inv hx0 (fun x => { x with buf := x.buf ++ b }) (fun _ => rfl) rfl
      (fun j hj => upd_other _ _ _ _ fun e => hj (e ▸ hn0))
      (fun w h => upd_other _ _ _ _ h) ⟨i, hn0, ?_, ?_⟩
    · show upd s.data i _ i = x0.buf ++ b
      rw [upd_same, hd0, writeAt_end]
    · show upd s.fds x0.w _ x0.w = if x0.isOpen then some (i, (x0.buf ++ b).length) else none
      rw [upd_same, ho0, List.length_append]
      rfl
  | close w =>
    obtain ⟨⟨x0, hx0, rfl, _⟩, rfl⟩ := chkStep_close.mp h
    obtain ⟨i, hn0, hd0, _⟩ := inv.held x0 hx0
    exact link_own inv hx0 (fun x => { x with isOpen := false }) (fun _ => rfl) rfl (fun _ _ => rfl)
      (fun w h => upd_other _ _ _ _ h)
      ⟨i, hn0, hd0, upd_same _ _ _⟩
  | remove p =>
    obtain ⟨hpt, hcl, rfl⟩ := chkStep_remove.mp h
    exact link_names (inv_drop inv _ fun x hx hf => hcl x hx (by simpa using hf)) _
      (fun x hx => upd_other _ _ _ _ (by simpa using (List.mem_filter.1 hx).2))
      (tgt_congr (s := s) (upd_other _ _ _ _ (Ne.symm hpt)) (fun _ _ => rfl) inv.tgt)
  | rename a b =>
    obtain ⟨hat, hall, h⟩ := chkStep_rename.mp h
    obtain ⟨names', hs', hkeep, hmove⟩ := step_rename s a b
    rw [hs']
    split at h
    · -- a complete staging file is renamed over the target: its text is installed
      next hbt =>
      obtain ⟨x0, hfind, rfl⟩ := h
      subst hbt
      have inv1 := inv_drop inv (fun y => y.p != a) fun x hx hf => (hall x hx).1 (by simpa using hf)
      obtain ⟨i, hn0, hd0, _⟩ := inv.held x0 (List.mem_of_find?_eq_some hfind)
      rw [show x0.p = a by simpa using List.find?_some hfind] at hn0
      refine link_names inv1 names'
        (fun x hx => hkeep _ (.inl ⟨by simpa using (List.mem_filter.1 hx).2, inv1.notT x hx⟩))
        (.inr ⟨_, List.mem_cons_self, ?_⟩)
      show (names' b).map s.data = some x0.buf
      rw [hmove i hn0 hat, ← hd0]
      rfl
    · next hbt =>
      subst h
      have inv1 := inv_drop inv (fun y => y.p != a || a == b) fun x hx hf => (hall x hx).1 (by simp at hf; exact hf.1)
      refine link_names inv1 names' (fun x hx => hkeep _ ?_)
        (tgt_congr (s := s) (hkeep t (.inl ⟨Ne.symm hat, Ne.symm hbt⟩)) (fun _ _ => rfl) inv.tgt)
      -- a session that stays is staged elsewhere, unless nothing is renamed
      by_cases hab : a = b
      · exact .inr hab
      · obtain ⟨hx, hf⟩ := List.mem_filter.1 hx
        exact .inl ⟨by simpa [hab] using hf, fun e => hab ((hall x hx).2 e)⟩

theorem inv_step (t : Path) (old : Option Content) (s : St) (c c' : Chk) (e : Ev)
    (inv : Inv t old s c) (h : chkStep t c e = some c') : Inv t old (step s e) c' := by
  obtain ⟨inj, fresh⟩ := names_step s e ⟨inv.inj, inv.fresh⟩
  obtain ⟨distinct, notT⟩ := sess_step h ⟨inv.distinct, inv.notT⟩
  obtain ⟨held, idle, tgt⟩ := link_step inv h
  exact ⟨inj, fresh, distinct, notT, held, idle, tgt⟩

theorem inv_run (t : Path) (old : Option Content) (evs : List Ev) (s : St) (c c' : Chk)
    (inv : Inv t old s c) (h : chkRun t c evs = some c') : Inv t old (crun evs s) c' := by
  induction evs generalizing s c with
  | nil => cases h; exact inv
  | cons e evs ih =>
    simp only [chkRun] at h
    split at h
    · next c1 hc1 => exact ih _ _ (inv_step t old s c c1 e inv hc1) h
    · cases h

theorem Inv.init (t : Path) (s : St) (h : WF s) : Inv t (content s t) s chk0 :=
  ⟨h.inj, h.fresh, fun _ hx => absurd hx List.not_mem_nil, fun _ hx => absurd hx List.not_mem_nil,
    fun _ hx => absurd hx List.not_mem_nil, fun w _ => h.nofd w, .inl rfl⟩

end St4sd.FsConc
