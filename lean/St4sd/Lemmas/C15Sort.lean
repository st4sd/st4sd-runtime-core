import St4sd.Model.Layer
import St4sd.Lemmas.Str
/-!
`leS` (code point order of Python strings) is a total order, and an insertion sort by a string key gives the same
list for every order of its input as long as items with equal keys are equal.  `sortByKey`, `sortS` of
`Model/Layer.lean` and `DslLoad.sortE` are instances of that one sort (`insertK` / `sortK`).
-/
namespace St4sd.Sort
open St4sd.Str St4sd.Layer

theorem lexLt_irrefl : ∀ a : S, lexLt a a = false := Str.lexLt_irrefl

theorem leS_total (a b : S) : leS a b = true ∨ leS b a = true := not_lexLt_total a b

theorem leS_antisymm (a b : S) (h1 : leS a b = true) (h2 : leS b a = true) : a = b := not_lexLt_antisymm h1 h2

theorem leS_trans (a b c : S) (h1 : leS a b = true) (h2 : leS b c = true) : leS a c = true := not_lexLt_trans h1 h2

variable {α : Type} (key : α → S)

def insertK (a : α) : List α → List α
  | [] => [a]
  | b :: r => if leS (key a) (key b) then a :: b :: r else b :: insertK a r

def sortK : List α → List α
  | [] => []
  | a :: r => insertK key a (sortK r)

/-- two insertions commute: the item with the smaller key ends up first whichever goes in first, and items with
the same key are the same item -/
theorem insertK_comm (a b : α) (h : key a = key b → a = b) (l : List α) :
    insertK key a (insertK key b l) = insertK key b (insertK key a l) := by
  have pair : ∀ r, (if leS (key a) (key b) then a :: b :: r else b :: a :: r) =
      if leS (key b) (key a) then b :: a :: r else a :: b :: r := by
    intro r
    cases hab : leS (key a) (key b) <;> cases hba : leS (key b) (key a)
    · cases leS_total (key a) (key b) with
      | inl h => exact absurd (hab.symm.trans h) (by simp)
      | inr h => exact absurd (hba.symm.trans h) (by simp)
    · rfl
    · rfl
    · rw [h (leS_antisymm _ _ hab hba)]
  induction l with
  | nil => simpa only [insertK] using pair []
  | cons c r ih =>
    cases hbc : leS (key b) (key c) <;> cases hac : leS (key a) (key c)
    · simp only [insertK, hbc, hac, ih, Bool.false_eq_true, if_false]
    · have : leS (key b) (key a) = false :=
        Bool.eq_false_iff.mpr fun h' => by simp [leS_trans _ _ _ h' hac] at hbc
      simp only [insertK, hbc, hac, this, Bool.false_eq_true, if_false, if_true]
    · have : leS (key a) (key b) = false :=
        Bool.eq_false_iff.mpr fun h' => by simp [leS_trans _ _ _ h' hbc] at hac
      simp only [insertK, hbc, hac, this, Bool.false_eq_true, if_false, if_true]
    · simpa only [insertK, hbc, hac, if_true] using pair (c :: r)

theorem sortK_perm {l₁ l₂ : List α} (h : l₁.Perm l₂)
    (hk : ∀ a ∈ l₁, ∀ b ∈ l₁, key a = key b → a = b) : sortK key l₁ = sortK key l₂ := by
  induction h with
  | nil => rfl
  | cons x _ ih =>
    simp only [sortK]
    rw [ih fun a ha b hb => hk a (List.mem_cons_of_mem _ ha) b (List.mem_cons_of_mem _ hb)]
  | swap x y l => exact insertK_comm key y x (hk y (by simp) x (by simp)) _
  | trans p₁ _ ih₁ ih₂ =>
    rw [ih₁ hk, ih₂ fun a ha b hb => hk a (p₁.mem_iff.mpr ha) b (p₁.mem_iff.mpr hb)]

theorem sortK_perm_self : ∀ l : List α, (sortK key l).Perm l
  | [] => .nil
  | a :: r => (insertK_perm a (sortK key r)).trans ((sortK_perm_self r).cons a)
where
  insertK_perm (a : α) : ∀ l : List α, (insertK key a l).Perm (a :: l)
    | [] => .refl _
    | b :: r => by
      simp only [insertK]
      split
      · exact .refl _
      · exact ((insertK_perm a r).cons b).trans (.swap a b r)

theorem eq_of_nodup_keys : ∀ {l : List α}, (l.map key).Nodup → ∀ a ∈ l, ∀ b ∈ l, key a = key b → a = b
  | x :: l, hnd, a, ha, b, hb, e => by
    simp only [List.map_cons, List.nodup_cons, List.mem_map, not_exists, not_and] at hnd
    rcases List.mem_cons.mp ha with rfl | ha' <;> rcases List.mem_cons.mp hb with rfl | hb'
    · rfl
    · exact absurd e.symm (hnd.1 b hb')
    · exact absurd e (hnd.1 a ha')
    · exact eq_of_nodup_keys hnd.2 a ha' b hb' e

theorem insertBy_eq (a : S × S) (l : List (S × S)) : insertBy a l = insertK Prod.fst a l := by
  induction l with
  | nil => rfl
  | cons b r ih => simp only [insertBy, insertK, ih]

theorem sortByKey_eq (l : List (S × S)) : sortByKey l = sortK Prod.fst l := by
  induction l with
  | nil => rfl
  | cons a r ih => simp only [sortByKey, sortK, ih, insertBy_eq]

theorem insertS_eq (a : S) (l : List S) : insertS a l = insertK id a l := by
  induction l with
  | nil => rfl
  | cons b r ih => simp only [insertS, insertK, ih, id]

theorem sortS_eq (l : List S) : sortS l = sortK id l := by
  induction l with
  | nil => rfl
  | cons a r ih => simp only [sortS, sortK, ih, insertS_eq]

theorem sortByKey_perm (l₁ l₂ : List (S × S)) (h : l₁.Perm l₂) (hnd : (l₁.map Prod.fst).Nodup) :
    sortByKey l₁ = sortByKey l₂ := by
  rw [sortByKey_eq, sortByKey_eq, sortK_perm Prod.fst h (eq_of_nodup_keys Prod.fst hnd)]

theorem sortS_perm (l₁ l₂ : List S) (h : l₁.Perm l₂) : sortS l₁ = sortS l₂ := by
  rw [sortS_eq, sortS_eq, sortK_perm id h fun _ _ _ _ e => e]

end St4sd.Sort
