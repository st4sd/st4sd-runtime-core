import St4sd.Lemmas.C18Confine
import St4sd.Model.C18Keys
import St4sd.Model.C18Stagers
/-!
Witnesses for C18: the code before the repairs (`checkOld` = textual prefix test of data.py 227-232,
`validateOld` = `Manifest.validate` refusing absolute keys only, deployment without guard) violates the
confinement statement.  Sandbox: `/i/w` is the working / instance directory, `/o` with the file `/o/v` is
outside.  The harness replays the same inputs on the real code (corpus cases of `harness/c18.py`).
-/
namespace St4sd.C18.Witness
open St4sd.Confine

def fs0 : Fs := [([['w'], ['i']], Node.dir), ([['i']], Node.dir), ([['o']], Node.dir), ([['v'], ['o']], Node.file [['v'], ['o']])]
def dest : Path := [['w'], ['i']]

/-- does the log contain a location outside `dest`? -/
def escapes (r : St × Option Err) : Bool := r.1.log.any fun p => !under dest p

/-- C18a: member `../e` is accepted by the check before the repairs and created in `/i`, outside the working
directory -/
theorem old_parent_segment_escapes :
    let ms := [Member.file (parsePath ['.', '.', '/', 'e'])]
    checkOld dest ms = true ∧ (stageExtractOld dest ⟨fs0, []⟩ ms).1.log = [[['e'], ['i']]] ∧
    (stageExtractOld dest ⟨fs0, []⟩ ms).2 = none := by decide +kernel

/-- C18b: symlink member `l -> ..` followed by file member `l/e`: no `..` in any *name*, the file is written
through the link to `/i/e` -/
theorem old_symlink_then_file_escapes :
    let ms := [Member.sym (parsePath ['l']) (parsePath ['.', '.']), Member.file (parsePath ['l', '/', 'e'])]
    checkOld dest ms = true ∧ escapes (stageExtractOld dest ⟨fs0, []⟩ ms) = true ∧
    (stageExtractOld dest ⟨fs0, []⟩ ms).1.fs.get [['e'], ['i']] = some (Node.file [['e'], ['i']]) := by decide +kernel

/-- C18b': hard link member `h -> ../../o/v` followed by file member `h`: the content of `/o/v` is overwritten -/
theorem old_hardlink_then_file_modifies_outside :
    let ms := [Member.hard (parsePath ['h']) (parsePath ['.', '.', '/', '.', '.', '/', 'o', '/', 'v']),
               Member.file (parsePath ['h'])]
    checkOld dest ms = true ∧ (stageExtractOld dest ⟨fs0, []⟩ ms).2 = none ∧
    [['v'], ['o']] ∈ (stageExtractOld dest ⟨fs0, []⟩ ms).1.log := by decide +kernel

/-- why the repaired check does not merely normalise names (`os.path.normpath`): with the members
`a/b/` (dir), `a/b/c -> ../..` (a link to the working directory itself) and the file `a/b/c/../e`, every
normalised name and the normalised link target stay inside, yet the kernel writes `/i/e`. -/
theorem normpath_repair_would_be_unsound :
    let name := parsePath ['a', '/', 'b', '/', 'c', '/', '.', '.', '/', 'e']
    let ms := [Member.dir (parsePath ['a', '/', 'b']),
               Member.sym (parsePath ['a', '/', 'b', '/', 'c']) (parsePath ['.', '.', '/', '.', '.']),
               Member.file name]
    allNames (normalize false [] name.segs) = true ∧
    normalize false [] ([Seg.name ['a'], Seg.name ['b']] ++ [Seg.up, Seg.up]) = [] ∧
    escapes (extractAll dest ⟨fs0, []⟩ ms) = true ∧
    checkFixed dest ms = false := by decide +kernel

/-! ### the textual-normalisation rule for link targets (`checkNormpath`) is unsound

In each archive below no member name has a `..` component or is absolute, every link target is relative and
its `os.path.normpath` against the directory holding the link (archive root for a hard link) is still under
the destination, so `checkNormpath` accepts; extraction nevertheless creates a file outside `dest = /i/w`
without any error.  The repaired check refuses all of them before anything is touched. -/

/-- chain of two links, the second one placed *through* the first: `a/s -> ..` is the working directory; `a/s/esc -> ..` is textually `a`, but it is created as `/i/w/esc` and points to `/i`; the file member `a/s/esc/P` is written to `/i/P` -/
theorem normpath_link_rule_unsound_on_chain :
    let ms := [Member.sym (parsePath ['a', '/', 's']) (parsePath ['.', '.']),
               Member.sym (parsePath ['a', '/', 's', '/', 'e', 's', 'c']) (parsePath ['.', '.']),
               Member.file (parsePath ['a', '/', 's', '/', 'e', 's', 'c', '/', 'P'])]
    (ms.all fun m => descending m.name) = true ∧ checkNormpath dest ms = true ∧
    escapes (stageExtractNormpath dest ⟨fs0, []⟩ ms) = true ∧
    (stageExtractNormpath dest ⟨fs0, []⟩ ms).2 = none ∧
    (stageExtractNormpath dest ⟨fs0, []⟩ ms).1.fs.get [['P'], ['i']] = some (Node.file [['P'], ['i']]) ∧
    checkFixed dest ms = false ∧ (stageExtractFixed dest ⟨fs0, []⟩ ms).2 = some Err.rejected ∧
    (stageExtractFixed dest ⟨fs0, []⟩ ms).1.log = [] := by decide +kernel

/-- the same with three links, each placed through the previous one, below a deeper directory -/
theorem normpath_link_rule_unsound_on_chain_depth3 :
    let ms := [Member.sym (parsePath ['a', '/', 'b', '/', 's']) (parsePath ['.', '.']),
               Member.sym (parsePath ['a', '/', 'b', '/', 's', '/', 't']) (parsePath ['.', '.']),
               Member.sym (parsePath ['a', '/', 'b', '/', 's', '/', 't', '/', 'u']) (parsePath ['.', '.']),
               Member.file (parsePath ['a', '/', 'b', '/', 's', '/', 't', '/', 'u', '/', 'P'])]
    (ms.all fun m => descending m.name) = true ∧ checkNormpath dest ms = true ∧
    escapes (stageExtractNormpath dest ⟨fs0, []⟩ ms) = true ∧
    (stageExtractNormpath dest ⟨fs0, []⟩ ms).2 = none ∧
    (stageExtractNormpath dest ⟨fs0, []⟩ ms).1.fs.get [['P'], ['i']] = some (Node.file [['P'], ['i']]) ∧
    checkFixed dest ms = false ∧ (stageExtractFixed dest ⟨fs0, []⟩ ms).2 = some Err.rejected ∧
    (stageExtractFixed dest ⟨fs0, []⟩ ms).1.log = [] := by decide +kernel

/-- a hard link member copies an earlier link into another directory: `a/b/s -> ../..` is the working directory, its second name `h` (no `..` in the hard link target `a/b/s`) has the same text `../..` one directory higher and points to `/`; `h/P` is written to `/P` -/
theorem normpath_link_rule_unsound_on_hardlinked_link :
    let ms := [Member.dir (parsePath ['a', '/', 'b']),
               Member.sym (parsePath ['a', '/', 'b', '/', 's']) (parsePath ['.', '.', '/', '.', '.']),
               Member.hard (parsePath ['h']) (parsePath ['a', '/', 'b', '/', 's']),
               Member.file (parsePath ['h', '/', 'P'])]
    (ms.all fun m => descending m.name) = true ∧ checkNormpath dest ms = true ∧
    escapes (stageExtractNormpath dest ⟨fs0, []⟩ ms) = true ∧
    (stageExtractNormpath dest ⟨fs0, []⟩ ms).2 = none ∧
    (stageExtractNormpath dest ⟨fs0, []⟩ ms).1.fs.get [['P']] = some (Node.file [['P']]) ∧
    checkFixed dest ms = false ∧ (stageExtractFixed dest ⟨fs0, []⟩ ms).2 = some Err.rejected ∧
    (stageExtractFixed dest ⟨fs0, []⟩ ms).1.log = [] := by decide +kernel

/-- a link whose *target* passes through an earlier link: `a/s -> ..`, `m -> a/s/..` is textually `a`, really the parent of the working directory; `m/P` is written to `/i/P` -/
theorem normpath_link_rule_unsound_on_target_through_link :
    let ms := [Member.sym (parsePath ['a', '/', 's']) (parsePath ['.', '.']),
               Member.sym (parsePath ['m']) (parsePath ['a', '/', 's', '/', '.', '.']),
               Member.file (parsePath ['m', '/', 'P'])]
    (ms.all fun m => descending m.name) = true ∧ checkNormpath dest ms = true ∧
    escapes (stageExtractNormpath dest ⟨fs0, []⟩ ms) = true ∧
    (stageExtractNormpath dest ⟨fs0, []⟩ ms).2 = none ∧
    (stageExtractNormpath dest ⟨fs0, []⟩ ms).1.fs.get [['P'], ['i']] = some (Node.file [['P'], ['i']]) ∧
    checkFixed dest ms = false ∧ (stageExtractFixed dest ⟨fs0, []⟩ ms).2 = some Err.rejected ∧
    (stageExtractFixed dest ⟨fs0, []⟩ ms).1.log = [] := by decide +kernel

/-! ### the hypothesis `Safe` of `extract_confined` is needed: inputs staged by `link` into the same directory

`Job.stageIn` stages every reference of a component into the same working directory.  A reference staged with
`:link` leaves an *absolute* symbolic link there (`stageLink`), so the state is not `Safe`; an archive extracted
afterwards whose member is named `<that link>/evil` has no `..`, nothing absolute — the repaired check accepts
it — and `tarfile` writes through the link into the linked source directory.  Recorded as known finding
`C18-extract-through-staged-link`; the harness replays the same input on the real code. -/

/-- the working directory `/i/w` after link-staging the input `/o` -/
def fsLinked : Fs := (stageLink dest ⟨fs0, []⟩ ['/', 'o']).1.fs

/-- link-staging `/o`, then extracting `[file o/evil]`: accepted, no error, `/o/evil` is created outside the
working directory -/
theorem link_then_extract_escapes :
    let ms := [Member.file (parsePath ['o', '/', 'e', 'v', 'i', 'l'])]
    (stageLink dest ⟨fs0, []⟩ ['/', 'o']).2 = none ∧
    fsLinked.get [['o'], ['w'], ['i']] = some (Node.link true [Seg.name ['o']]) ∧
    checkFixed dest ms = true ∧ (stageExtractFixed dest ⟨fsLinked, []⟩ ms).2 = none ∧
    escapes (stageExtractFixed dest ⟨fsLinked, []⟩ ms) = true ∧
    (stageExtractFixed dest ⟨fsLinked, []⟩ ms).1.fs.get [['e', 'v', 'i', 'l'], ['o']] =
      some (Node.file [['e', 'v', 'i', 'l'], ['o']]) := by decide +kernel

/-- the same through a *descending* archive link to the staged name: `x -> o`, `x/evil` -/
theorem link_then_extract_escapes_via_descending_member_link :
    let ms := [Member.sym (parsePath ['x']) (parsePath ['o']), Member.file (parsePath ['x', '/', 'e', 'v', 'i', 'l'])]
    checkFixed dest ms = true ∧ (stageExtractFixed dest ⟨fsLinked, []⟩ ms).2 = none ∧
    escapes (stageExtractFixed dest ⟨fsLinked, []⟩ ms) = true := by decide +kernel

/-- that state violates the hypothesis of `extract_confined` (the link under `dest` is absolute) … -/
theorem linked_state_not_safe : ¬ Safe dest fsLinked := by
  intro h
  have := h [['o'], ['w'], ['i']] (Node.link true [Seg.name ['o']]) (by decide +kernel) (by decide +kernel)
  simp [NodeOk] at this

/-- … whereas copy-staging the same input keeps the later extraction inside: the member lands in `/i/w/o/evil` -/
theorem copy_then_extract_stays_inside :
    let ms := [Member.file (parsePath ['o', '/', 'e', 'v', 'i', 'l'])]
    let st := (stageCopy dest ⟨fs0, []⟩ ['/', 'o'] RefKind.dir).1
    (stageExtractFixed dest ⟨st.fs, []⟩ ms).2 = none ∧ escapes (stageExtractFixed dest ⟨st.fs, []⟩ ms) = false := by decide +kernel

/-- C18c: manifest key `../x` passes `Manifest.validate` before the repairs and is deployed to `/i/x` -/
theorem old_manifest_parent_key_escapes :
    let es := [Entry.mk (parsePath ['.', '.', '/', 'x']) [Seg.name ['o']] Method.copy]
    validateOld es = true ∧ escapes (deployAll false dest ⟨fs0, []⟩ es) = true ∧
    (deployAll false dest ⟨fs0, []⟩ es).1.fs.get [['x'], ['i']] = some Node.dir := by decide +kernel

/-- C18d: no `..` anywhere: key `a` linked to `/o`, key `a/b` copied — the copy lands in the *source* folder `/o/b` -/
theorem old_manifest_nested_under_link_escapes :
    let es := [Entry.mk (parsePath ['a']) [Seg.name ['o']] Method.link,
               Entry.mk (parsePath ['a', '/', 'b']) [Seg.name ['o']] Method.copy]
    validateOld es = true ∧ validateFixed es = true ∧
    (deployAll false dest ⟨fs0, []⟩ es).1.fs.get [['b'], ['o']] = some Node.dir ∧
    (deployAll true dest ⟨fs0, []⟩ es).2 = some Err.rejected ∧
    escapes (deployAll true dest ⟨fs0, []⟩ es) = false := by decide +kernel

/-- C18e: key `conf` linked to `/o`: the package file is written to `/o/flowir_package.yaml` -/
theorem old_manifest_conf_link_escapes :
    let es := [Entry.mk (parsePath ['c', 'o', 'n', 'f']) [Seg.name ['o']] Method.link]
    escapes (deploy false dest ⟨fs0, []⟩ es true) = true ∧ (deploy false dest ⟨fs0, []⟩ es true).2 = none ∧
    (deploy true dest ⟨fs0, []⟩ es true).2 = some Err.rejected ∧
    escapes (deploy true dest ⟨fs0, []⟩ es true) = false := by decide +kernel

/-! ### a string-prefix test without the separator

`/i/w-s` is a sibling of the target `/i/w` whose NAME extends the target's name.  Component-wise it is not under
`/i/w`; as text `/i/w-s` starts with `/i/w`. -/

def sib : Path := [['w', '-', 's'], ['i']]
def fsSib : Fs := (sib, Node.dir) :: fs0

/-- the separator-less test accepts the sibling (and everything in it); the test of the repaired code (with the
separator) and the model's `under` do not -/
theorem string_prefix_accepts_sibling :
    underText dest sib = true ∧ underText dest (['e'] :: sib) = true ∧
    underTextSep dest sib = false ∧ under dest sib = false ∧ underTextSep dest (['x'] :: dest) = true := by decide +kernel

/-- **Deployment guarded by the separator-less test writes outside the instance directory**: key `d` linked to the
sibling `/i/w-s`, then the nested key `d/e` copied — its real parent `/i/w-s` passes the string test, the copy
lands in `/i/w-s/e`; no error.  The guard of the repaired code (`under`, = `underTextSep` by
`Props.C18.underTextSep_eq_under`) rejects the manifest and nothing outside changes. -/
theorem string_prefix_guard_deploys_into_sibling :
    let es := [Entry.mk (parsePath ['d']) [Seg.name ['i'], Seg.name ['w', '-', 's']] Method.link,
               Entry.mk (parsePath ['d', '/', 'e']) [Seg.name ['o']] Method.copy]
    validateFixed es = true ∧
    (deployAllWith underText dest ⟨fsSib, []⟩ es).2 = none ∧
    (deployAllWith underText dest ⟨fsSib, []⟩ es).1.fs.get (['e'] :: sib) = some Node.dir ∧
    escapes (deployAllWith underText dest ⟨fsSib, []⟩ es) = true ∧
    (deployAll true dest ⟨fsSib, []⟩ es).2 = some Err.rejected ∧
    escapes (deployAll true dest ⟨fsSib, []⟩ es) = false := by decide +kernel

/-- the same for extraction: the absolute member name `/i/w-s/e` starts, as text, with `/i/w`; a name check without
the separator accepts it and the file is written into the sibling, the repaired check refuses the archive -/
theorem string_prefix_check_extracts_into_sibling :
    let ms := [Member.file (parsePath ['/', 'i', '/', 'w', '-', 's', '/', 'e'])]
    (stageExtractText dest ⟨fsSib, []⟩ ms).2 = none ∧
    (stageExtractText dest ⟨fsSib, []⟩ ms).1.log = [['e'] :: sib] ∧
    escapes (stageExtractText dest ⟨fsSib, []⟩ ms) = true ∧
    (stageExtractFixed dest ⟨fsSib, []⟩ ms).2 = some Err.rejected ∧
    escapes (stageExtractFixed dest ⟨fsSib, []⟩ ms) = false := by decide +kernel

/-! ### a copy entry that merges into an existing destination (`copytree(..., dirs_exist_ok=True)`)

NOT the code: `shutil.copytree(src, dst)` refuses an existing destination, and that refusal is what keeps a copy
entry from being written through a link that an earlier entry (another spelling of the same key) or an earlier
deployment left at the destination — the guard of `expandPackageToDirectory` looks at the PARENT of the
destination only.  `deployOneOverlay` is the guarded step with a merging copy. -/

/-- `k` linked to `/o`, then `k/` copied (`k/` parses to the same entry as `k`): the guard passes (the parent is
the instance directory), the merging copy follows the link and creates `/o/f`; no error.  The repaired code
(`deployAllK true`) answers the second entry with an error and touches nothing outside. -/
theorem overlay_copy_writes_through_link_of_alias_key :
    let es := [KEntry.mk ['k'] [Seg.name ['o']] Method.link, KEntry.mk ['k', '/'] [Seg.name ['o']] Method.copy]
    validateK true es = true ∧
    (deployAllOverlay dest ⟨fs0, []⟩ (es.map KEntry.entry)).2 = none ∧
    (deployAllOverlay dest ⟨fs0, []⟩ (es.map KEntry.entry)).1.fs.get [['f'], ['o']] = some (Node.file [['f'], ['o']]) ∧
    escapes (deployAllOverlay dest ⟨fs0, []⟩ (es.map KEntry.entry)) = true ∧
    (deployAllK true dest ⟨fs0, []⟩ es).2 = some Err.os ∧
    escapes (deployAllK true dest ⟨fs0, []⟩ es) = false := by decide +kernel

/-- the same through a history: the instance directory was deployed with `k` linked to `/o`; the manifest
changes to `k: …:copy` and is deployed into the same directory again -/
theorem overlay_copy_writes_through_link_of_earlier_deployment :
    let st1 := (deployK true dest ⟨fs0, []⟩ [KEntry.mk ['k'] [Seg.name ['o']] Method.link]).1
    let e2 := Entry.mk (parsePath ['k']) [Seg.name ['o']] Method.copy
    (deployK true dest ⟨fs0, []⟩ [KEntry.mk ['k'] [Seg.name ['o']] Method.link]).2 = none ∧
    (deployOneOverlay dest ⟨st1.fs, []⟩ e2).2 = none ∧
    escapes (deployOneOverlay dest ⟨st1.fs, []⟩ e2) = true ∧
    (deployOne true dest ⟨st1.fs, []⟩ e2).2 = some Err.os ∧
    (deployOne true dest ⟨st1.fs, []⟩ e2).1.log = [] := by decide +kernel

/-- a merging copy is harmless where the existing destination is a real directory of the instance -/
theorem overlay_copy_onto_directory_stays_inside :
    let es := [Entry.mk (parsePath ['k']) [Seg.name ['o']] Method.copy,
               Entry.mk (parsePath ['k']) [Seg.name ['o']] Method.copy]
    (deployAllOverlay dest ⟨fs0, []⟩ es).2 = none ∧ escapes (deployAllOverlay dest ⟨fs0, []⟩ es) = false := by decide +kernel

/-! ### extraction relative to a process-wide `chdir`

NOT the code: `tar.extractall(dest)` gets the absolute working directory.  `CStager` does
`previous = getcwd(); chdir(dest); extractall(); chdir(previous)`; the current directory belongs to the process,
so when a second component stages at the same time the members are created wherever the cwd points at that
moment.  `/i/w` and `/i/u` are the two working directories, the process starts in `/o`. -/

def fs2 : Fs := ([['u'], ['i']], Node.dir) :: fs0
def dest2 : Path := [['u'], ['i']]
def cwd0 : Path := [['o']]

/-- two harmless one-member archives (`a`, `b`).  Schedule: first `chdir`, second `chdir`, first extracts and
restores, second extracts and restores.  The first stager's member lands in the SECOND working directory, the
second stager's member in `/o` (outside both), neither component receives its own file, and the process is left
in the first working directory. -/
theorem shared_cwd_interleaving_escapes :
    let w := runCStagers fs2 cwd0 dest dest2 [Member.file (parsePath ['a'])] [Member.file (parsePath ['b'])]
      [false, true, false, false, true, true]
    w.a.res = none ∧ w.b.res = none ∧ w.a.prog.isEmpty = true ∧ w.b.prog.isEmpty = true ∧
    w.a.log = [[['a'], ['u'], ['i']]] ∧ w.b.log = [[['b'], ['o']]] ∧
    w.fs.get [['a'], ['w'], ['i']] = none ∧ w.fs.get [['b'], ['u'], ['i']] = none ∧
    w.cwd = dest ∧ w.cwd ≠ cwd0 := by decide +kernel

/-- one after the other (no interleaving) the same two stagers are fine — which is why no single-threaded run
can tell the difference -/
theorem shared_cwd_sequential_is_confined :
    let w := runCStagers fs2 cwd0 dest dest2 [Member.file (parsePath ['a'])] [Member.file (parsePath ['b'])]
      [false, false, false, true, true, true]
    w.a.log = [[['a'], ['w'], ['i']]] ∧ w.b.log = [[['b'], ['u'], ['i']]] ∧ w.cwd = cwd0 := by decide +kernel

/-- a properly nested preemption is fine too (the second stager runs completely between the first one's `chdir`
and its extraction: it restores the cwd to the first working directory) — two preemptions are needed -/
theorem shared_cwd_nested_is_confined :
    let w := runCStagers fs2 cwd0 dest dest2 [Member.file (parsePath ['a'])] [Member.file (parsePath ['b'])]
      [false, true, true, true, false, false]
    w.a.log = [[['a'], ['w'], ['i']]] ∧ w.b.log = [[['b'], ['u'], ['i']]] ∧ w.cwd = cwd0 := by decide +kernel

/-- the repaired code (absolute destinations, `runStagers`) under the corresponding member schedule -/
theorem absolute_destinations_same_schedule_confined :
    let w := runStagers fs2 dest dest2 [Member.file (parsePath ['a'])] [Member.file (parsePath ['b'])] [false, true]
    w.a.log = [[['a'], ['w'], ['i']]] ∧ w.b.log = [[['b'], ['u'], ['i']]] := by decide +kernel

end St4sd.C18.Witness
