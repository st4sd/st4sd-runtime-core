import St4sd.Lemmas.C11Expand
import St4sd.Lemmas.C11Loop
import St4sd.Gen.C11
/-!
# C11 — A workflow that loads is structurally executable; a broken one is rejected

`validate tbl sch d = []` is "the workflow loads with validation enabled" (model: `Model/Validate.lean`,
tied to the real loader by `harness/c11.py` on every run).  All theorems are for every conversion table,
every schema and every document, unless they mention the generated `Gen.C11` constants (pin theorems).
-/
namespace St4sd.C11
open St4sd.ValSchema St4sd.Validate

/-! ## Specification-side notions (independent of the algorithms in the model) -/

/-- `Resolves defs v`: `%(v)s` can be substituted completely — `v` is defined and every variable its value
mentions resolves (a finite derivation, so no circular definition is involved). -/
inductive Resolves (defs : List (S × List S)) : S → Prop where
  | mk (v : S) (used : List S) : lookup v defs = some used → (∀ u ∈ used, Resolves defs u) → Resolves defs v

/-- one or more edges lead from `a` to `b` -/
inductive Reach (es : List (Id × Id)) : Id → Id → Prop where
  | edge {a b} : (a, b) ∈ es → Reach es a b
  | step {a b c} : (a, b) ∈ es → Reach es b c → Reach es a c

/-- the fault classes of the property text -/
def dangling (d : Doc) : Prop := ∃ c ∈ d.comps, ∃ r ∈ c.refs, refResolves d r = false
def duplicate (d : Doc) : Prop := ¬ (ids d).Nodup
def cyclic (d : Doc) : Prop := ∃ v, Reach (edges d) v v
def undefinedVar (d : Doc) : Prop := ∃ c ∈ d.comps, ∃ v ∈ c.uses, ¬ Resolves (defsOf d c) v
/-- some option tree of the document, after the type conversion, has a key its schema does not know (at the top
level or anywhere below known keys), or cannot be converted at all -/
inductive UnknownKey : Schema → Val → Prop where
  | here {entries kvs k v} : (k, v) ∈ kvs → (keysOf entries).contains k = false →
      UnknownKey (.dict entries) (.dict kvs)
  | deeper {entries kvs k o s v} : (k, o, s) ∈ entries → lookup k kvs = some v → UnknownKey s v →
      UnknownKey (.dict entries) (.dict kvs)
def unknownKey (tbl : List (S × Conv)) (sch : Schema) (d : Doc) : Prop :=
  ∃ c ∈ d.comps, ∀ o, convert (.node tbl) c.opts = some o → UnknownKey sch o

/-- "the value has a type its declaration admits", one level deep: constants/types/predicates by kind, a
collection where a collection is declared, some alternative of a `ValidateOr` validates the value.
(`ValidateOptional` values are not judged.) -/
def admits : Schema → Val → Bool
  | .null, v => (match v with | .null => true | _ => false)
  | .const c, v => (match v with | .str s => s = c | _ => false)
  | .ty ts, v => ts.any (·.admits v)
  | .pred p, v => p.holds v
  | .opt _, _ => true
  | .or alts, v => checkAny alts v
  | .many _, v => (match v with | .list _ => true | _ => false)
  | .dict _, v => (match v with | .dict _ => true | _ => false)

/-- a wrongly typed value somewhere in an option tree (below known keys) -/
inductive WrongType : Schema → Val → Prop where
  | here {s v} : admits s v = false → WrongType s v
  | deeper {entries kvs k o s v} : (k, o, s) ∈ entries → lookup k kvs = some v → v ≠ .null → WrongType s v →
      WrongType (.dict entries) (.dict kvs)
def wrongType (tbl : List (S × Conv)) (sch : Schema) (d : Doc) : Prop :=
  ∃ c ∈ d.comps, ∀ o, convert (.node tbl) c.opts = some o → WrongType sch o

/-! ## Kahn's algorithm -/

private def Inv (es : List (Id × Id)) (ranks : List (Id × Nat)) (r : Nat) : Prop :=
  (∀ v k, rankOf ranks v = some k → k < r) ∧
  (∀ e ∈ es, ∀ k, rankOf ranks e.2 = some k → ∃ j, rankOf ranks e.1 = some j ∧ j < k)

private theorem rankOf_new (new : List Id) (r : Nat) (ranks : List (Id × Nat)) (v : Id) :
    rankOf (new.map (fun x => (x, r)) ++ ranks) v = if v ∈ new then some r else rankOf ranks v := by
  induction new with
  | nil => rfl
  | cons x xs ih =>
    simp only [rankOf, List.map_cons, List.cons_append, List.find?_cons, List.mem_cons] at ih ⊢
    by_cases h : x = v
    · simp [h]
    · simpa [beq_false_of_ne h, Ne.symm h] using ih

private theorem mem_ready {es ranks nodes v} (h : v ∈ ready es ranks nodes) :
    rankOf ranks v = none ∧ ∀ e ∈ es, e.2 = v → ∃ j, rankOf ranks e.1 = some j := by
  simp only [ready, isRanked, List.mem_filter, Bool.and_eq_true, Bool.not_eq_true', Option.isSome_eq_false_iff,
    Option.isNone_iff_eq_none, List.all_eq_true, Bool.or_eq_true, beq_eq_false_iff_ne, Option.isSome_iff_exists] at h
  exact ⟨h.2.1, fun e he hv => (h.2.2 e he).resolve_left (fun hne => hne hv)⟩

private theorem inv_step {es ranks r nodes} (hinv : Inv es ranks r) :
    Inv es ((ready es ranks nodes).map (fun x => (x, r)) ++ ranks) (r + 1) := by
  obtain ⟨h1, h2⟩ := hinv
  refine ⟨fun v k hk => ?_, fun e he k hk => ?_⟩
  · rw [rankOf_new] at hk
    split at hk
    · cases hk; omega
    · have := h1 v k hk; omega
  · -- the producer has a rank already, so it is not ranked anew
    have hprod : ∃ j, rankOf ranks e.1 = some j ∧ j < k := by
      rw [rankOf_new] at hk
      split at hk
      · rename_i hmem
        cases hk
        obtain ⟨j, hj⟩ := (mem_ready hmem).2 e he rfl
        exact ⟨j, hj, h1 _ _ hj⟩
      · exact h2 e he k hk
    obtain ⟨j, hj, hlt⟩ := hprod
    rw [rankOf_new, if_neg (fun hm => by rw [(mem_ready hm).1] at hj; cases hj)]
    exact ⟨j, hj, hlt⟩

private theorem kahn_inv (es : List (Id × Id)) (nodes : List Id) (fuel r : Nat) (ranks : List (Id × Nat))
    (hinv : Inv es ranks r) : ∃ r', Inv es (kahn es nodes fuel r ranks) r' := by
  induction fuel generalizing r ranks with
  | zero => exact ⟨r, hinv⟩
  | succ n ih =>
    unfold kahn
    split
    · exact ⟨r, hinv⟩
    · rename_i v vs hready
      have := inv_step (nodes := nodes) hinv
      rw [hready] at this
      exact ih (r + 1) _ this

/-- **kahn_sound** (full): whatever the fuel, the ranks computed by Kahn's algorithm increase strictly along
every edge whose consumer got a rank. -/
theorem kahn_sound (es : List (Id × Id)) (nodes : List Id) (fuel : Nat) :
    ∀ e ∈ es, ∀ k, rankOf (kahn es nodes fuel 0 []) e.2 = some k →
      ∃ j, rankOf (kahn es nodes fuel 0 []) e.1 = some j ∧ j < k := by
  have h0 : Inv es [] 0 := ⟨fun v k h => by simp [rankOf] at h, fun e _ k h => by simp [rankOf] at h⟩
  obtain ⟨_, _, h⟩ := kahn_inv es nodes fuel 0 [] h0
  exact h

/-- if every node is ranked there is a rank function that increases strictly along every edge -/
theorem acyclicB_rank (d : Doc) (h : acyclicB d = true) :
    ∃ rank : Id → Nat, ∀ e ∈ edges d, rank e.1 < rank e.2 := by
  refine ⟨fun v => (rankOf (kahnRanks d) v).getD 0, fun e he => ?_⟩
  have hr := List.all_eq_true.mp h _ (edge_target_mem he)
  obtain ⟨k, hk⟩ := Option.isSome_iff_exists.mp hr
  obtain ⟨j, hj, hlt⟩ := kahn_sound (edges d) (ids d) (ids d).length e he k hk
  show (rankOf (kahnRanks d) e.1).getD 0 < (rankOf (kahnRanks d) e.2).getD 0
  rw [hk, kahnRanks, hj]
  exact hlt

private theorem reach_rank {es : List (Id × Id)} {rank : Id → Nat} (h : ∀ e ∈ es, rank e.1 < rank e.2)
    {a b : Id} (hr : Reach es a b) : rank a < rank b := by
  induction hr with
  | edge he => exact h _ he
  | step he _ ih => exact Nat.lt_trans (h _ he) ih

theorem rank_excludes_cycle {es : List (Id × Id)} {rank : Id → Nat} (h : ∀ e ∈ es, rank e.1 < rank e.2) :
    ¬ ∃ v, Reach es v v := fun ⟨_, hr⟩ => Nat.lt_irrefl _ (reach_rank h hr)

/-! ## variables -/

theorem resolveVar_sound (defs : List (S × List S)) (fuel : Nat) (v : S) (h : resolveVar defs fuel v = true) :
    Resolves defs v := by
  induction fuel generalizing v with
  | zero => simp [resolveVar] at h
  | succ n ih =>
    unfold resolveVar at h
    split at h
    · cases h
    · rename_i used hl
      rw [List.all_eq_true] at h
      exact Resolves.mk v used hl (fun u hu => ih u (h u hu))

/-! ## what `validate d = []` says, check by check -/

structure Accepted (tbl : List (S × Conv)) (sch : Schema) (d : Doc) : Prop where
  nodup : (ids d).Nodup
  opts : ∀ c ∈ d.comps, optErrors tbl sch c.opts = []
  refs : ∀ c ∈ d.comps, ∀ r ∈ c.refs, r ∈ ids d ∨ r ∈ placeholders d
  argRefs : ∀ c ∈ d.comps, ∀ r ∈ c.argRefs, r ∈ c.refs
  vars : ∀ c ∈ d.comps, ∀ v ∈ c.uses, Resolves (defsOf d c) v
  acyclic : acyclicB d = true
  repl : ∀ c ∈ d.comps, replOk d c = true
  nodupExpanded : (ids (expandDoc d)).Nodup

theorem accepted {tbl sch} {d : Doc} (h : validate tbl sch d = []) : Accepted tbl sch d := by
  simp only [validate, compErrors, refErrors, varErrors, replErrors, List.append_eq_nil_iff, List.flatMap_eq_nil_iff,
    List.map_eq_nil_iff, List.filter_eq_nil_iff] at h
  obtain ⟨⟨⟨⟨h1, h2⟩, h3⟩, h4⟩, h5⟩ := h
  exact
    { nodup := nodup_of_dups_nil Err.duplicate (fun _ _ => rfl) h1
      opts := fun c hc => (h2 c hc).1.1
      refs := fun c hc r hr => by simpa [refResolves, Decidable.or_iff_not_imp_left] using (h2 c hc).1.2.1 r hr
      argRefs := fun c hc r hr => by simpa using (h2 c hc).1.2.2 r hr
      vars := fun c hc v hv => resolveVar_sound _ _ _ (by simpa using (h2 c hc).2 v hv)
      acyclic := by revert h3; cases acyclicB d <;> simp
      repl := fun c hc => by simpa using h4 c hc
      nodupExpanded := nodup_of_dups_nil Err.duplicateAfterReplication (fun _ _ => rfl) h5 }

/-! ## Soundness: accepted implies usable -/

/-- **accepted_is_usable** (full): if the workflow loads then its identifiers are unique, every declared
component reference points to an existing component or loop placeholder, every component reference used in a
command line is declared, the graph is acyclic (a rank function increases strictly along every producer →
consumer edge, hence no cycle), every variable a component mentions resolves, and the options of every
component convert and satisfy the schema. -/
theorem accepted_is_usable (tbl : List (S × Conv)) (sch : Schema) (d : Doc) (h : validate tbl sch d = []) :
    (ids d).Nodup ∧
    (∀ c ∈ d.comps, ∀ r ∈ c.refs, r ∈ ids d ∨ r ∈ placeholders d) ∧
    (∀ c ∈ d.comps, ∀ r ∈ c.argRefs, r ∈ c.refs) ∧
    (∃ rank : Id → Nat, ∀ e ∈ edges d, rank e.1 < rank e.2) ∧
    (¬ ∃ v, Reach (edges d) v v) ∧
    (∀ c ∈ d.comps, ∀ v ∈ c.uses, Resolves (defsOf d c) v) ∧
    (∀ c ∈ d.comps, optErrors tbl sch c.opts = []) := by
  have a := accepted h
  obtain ⟨rank, hrank⟩ := acyclicB_rank d a.acyclic
  exact ⟨a.nodup, a.refs, a.argRefs, ⟨rank, hrank⟩,
    rank_excludes_cycle hrank, a.vars, a.opts⟩

/-! ## Completeness per fault class -/

theorem dangling_rejected (tbl sch) (d : Doc) (hf : dangling d) : validate tbl sch d ≠ [] := by
  intro h
  obtain ⟨c, hc, r, hr, hres⟩ := hf
  simp only [refResolves, Bool.or_eq_false_iff, List.contains_eq_mem, decide_eq_false_iff_not] at hres
  exact ((accepted h).refs c hc r hr).elim hres.1 hres.2

theorem duplicate_rejected (tbl sch) (d : Doc) (hf : duplicate d) : validate tbl sch d ≠ [] :=
  fun h => hf (accepted h).nodup

theorem cyclic_rejected (tbl sch) (d : Doc) (hf : cyclic d) : validate tbl sch d ≠ [] := by
  intro h
  obtain ⟨rank, hrank⟩ := acyclicB_rank d (accepted h).acyclic
  exact rank_excludes_cycle hrank hf

theorem undefinedVar_rejected (tbl sch) (d : Doc) (hf : undefinedVar d) : validate tbl sch d ≠ [] := by
  intro h
  obtain ⟨c, hc, v, hv, hn⟩ := hf
  exact hn ((accepted h).vars c hc v hv)

/-! ## The scope of a variable: stage sections of the workflow, of the platform and of the user's files -/

theorem not_resolves_of_lookup_none {defs : List (S × List S)} {v : S} (h : lookup v defs = none) :
    ¬ Resolves defs v := by
  intro hr
  cases hr with
  | mk _ used hl _ => rw [h] at hl; cases hl

/-- **scope_ignores_other_stages** (full): the variable scope of a component is the same when every stage
section (of the workflow's `default` variables, of the active platform, of each user variables file) that is not
for the component's own stage is dropped: nothing defined for another stage is visible. -/
theorem scope_ignores_other_stages (d : Doc) (c : Comp) : defsOf (onlyStage c.stage d) c = defsOf d c := by
  unfold defsOf
  rw [userStage_onlyStage, userGlobals_onlyStage]
  show c.vars ++ userStage d c.stage ++ userGlobals d ++
      sectionOf (d.platStageVars.filter (fun p => p.1 == c.stage)) c.stage ++ d.platGlobals ++
      sectionOf (d.stageVars.filter (fun p => p.1 == c.stage)) c.stage ++ d.globals = _
  rw [sectionOf_filter, sectionOf_filter]

/-- **varOfOtherStage_unresolved** (full): a variable that is defined neither by the component, nor globally
(workflow, active platform, any user variables file), nor by a section FOR THE COMPONENT'S STAGE (workflow, active
platform, any user variables file) does not resolve in the scope of the component — whatever the sections of
other stages define. -/
theorem varOfOtherStage_unresolved (d : Doc) (c : Comp) (v : S)
    (hown : lookup v c.vars = none) (hg : lookup v d.globals = none) (hpg : lookup v d.platGlobals = none)
    (hug : ∀ f ∈ d.userFiles, lookup v f.globals = none)
    (hs : ∀ sec ∈ d.stageVars, sec.1 = c.stage → lookup v sec.2 = none)
    (hps : ∀ sec ∈ d.platStageVars, sec.1 = c.stage → lookup v sec.2 = none)
    (hus : ∀ f ∈ d.userFiles, ∀ sec ∈ f.stages, sec.1 = c.stage → lookup v sec.2 = none) :
    ¬ Resolves (defsOf d c) v := by
  have h1 : lookup v (userStage d c.stage) = none :=
    lookup_flatMap_none _ _ _ fun f hf => lookup_sectionOf_none _ _ _ (hus f (List.mem_reverse.mp hf))
  have h2 : lookup v (userGlobals d) = none := lookup_flatMap_none _ _ _ fun f hf => hug f (List.mem_reverse.mp hf)
  apply not_resolves_of_lookup_none
  simp only [defsOf, lookup_append, hown, h1, h2, lookup_sectionOf_none v _ c.stage hps, hpg,
    lookup_sectionOf_none v _ c.stage hs, hg, Option.or_self]

/-- **varOfOtherStage_rejected** (full): a workflow one of whose components mentions such a variable — e.g. one
that only a section of ANOTHER stage defines, in the workflow or in a user variables file — is rejected. -/
theorem varOfOtherStage_rejected (tbl sch) (d : Doc) (c : Comp) (v : S) (hc : c ∈ d.comps) (hv : v ∈ c.uses)
    (hown : lookup v c.vars = none) (hg : lookup v d.globals = none) (hpg : lookup v d.platGlobals = none)
    (hug : ∀ f ∈ d.userFiles, lookup v f.globals = none)
    (hs : ∀ sec ∈ d.stageVars, sec.1 = c.stage → lookup v sec.2 = none)
    (hps : ∀ sec ∈ d.platStageVars, sec.1 = c.stage → lookup v sec.2 = none)
    (hus : ∀ f ∈ d.userFiles, ∀ sec ∈ f.stages, sec.1 = c.stage → lookup v sec.2 = none) :
    validate tbl sch d ≠ [] :=
  undefinedVar_rejected tbl sch d ⟨c, hc, v, hv, varOfOtherStage_unresolved d c v hown hg hpg hug hs hps hus⟩

/-! ## Replication: the expanded graph of an accepted workflow -/

/-- the fault classes of the property text on the EXPANDED graph -/
def cyclicExpanded (d : Doc) : Prop := ∃ v, Reach (edges (expandDoc d)) v v
def duplicateExpanded (d : Doc) : Prop := ¬ (ids (expandDoc d)).Nodup
def danglingExpanded (d : Doc) : Prop := ∃ c ∈ (expandDoc d).comps, ∃ r ∈ c.refs, r ∉ ids (expandDoc d)
/-- a replicated producer feeds a consumer whose `replicate` count is different -/
def inconsistentReplicate (d : Doc) : Prop := ∃ c ∈ d.comps, replOk d c = false
/-- every declared reference is a component of the document (none goes through a loop placeholder) -/
def refsAreComponents (d : Doc) : Prop := ∀ c ∈ d.comps, ∀ r ∈ c.refs, r ∈ ids d

/-- **expansion_projects** (full): if the identifiers of the expanded document are unique, the `replicate`
counts are consistent and every reference is a component, then no reference of an expanded component dangles
and every producer → consumer edge of the expanded graph lies over an edge of the blueprint graph (the graph
the loader's cycle check runs on). -/
theorem expansion_projects (d : Doc) (hn : (ids (expandDoc d)).Nodup) (hok : ∀ c ∈ d.comps, replOk d c = true)
    (href : refsAreComponents d) :
    (∀ c' ∈ (expandDoc d).comps, ∀ x ∈ c'.refs, x ∈ ids (expandDoc d)) ∧
    (∀ e ∈ edges (expandDoc d), (bpOf (bpList d) e.1, bpOf (bpList d) e.2) ∈ edges d) := by
  have hfirst : ∀ c' ∈ (expandDoc d).comps, ∀ x ∈ c'.refs, x ∈ ids (expandDoc d) := by
    intro c' hc' x hx
    obtain ⟨c, hc, hc'⟩ := List.mem_flatMap.mp hc'
    obtain ⟨r, _, hm⟩ := ref_projects hc hc' (hok c hc) (href c hc) hx
    rw [ids_expandDoc]
    exact List.mem_map.mpr ⟨(x, r), hm, rfl⟩
  refine ⟨hfirst, fun e he => ?_⟩
  rcases List.mem_append.mp he with he | he
  · obtain ⟨c', hc', x, hx, _, rfl⟩ := mem_compEdges.mp he
    obtain ⟨c, hc, hcc⟩ := List.mem_flatMap.mp hc'
    obtain ⟨r, hr, hm⟩ := ref_projects hc hcc (hok c hc) (href c hc) hx
    show (bpOf (bpList d) x, bpOf (bpList d) c'.id) ∈ edges d
    rw [bpOf_of_mem hn hm, bpOf_of_mem hn (mem_bpList hc hcc)]
    exact List.mem_append_left _ (mem_compEdges.mpr ⟨c, hc, r, hr, href c hc r hr, rfl⟩)
  · -- no reference of the expanded document goes through a placeholder: every one is a component
    obtain ⟨c', hc', x, hx, hn', _⟩ := mem_placeholderEdges he
    exact absurd (hfirst c' hc' x hx) hn'

private theorem Reach.map {es es' : List (Id × Id)} (f : Id → Id) (h : ∀ e ∈ es, (f e.1, f e.2) ∈ es') {a b : Id}
    (hr : Reach es a b) : Reach es' (f a) (f b) := by
  induction hr with
  | edge he => exact .edge (h _ he)
  | step he _ ih => exact .step (h _ he) ih

/-- **expanded_cycle_lies_over_blueprint_cycle** (full, under the hypotheses of `expansion_projects`): a cycle of
the expanded graph projects to a cycle of the blueprint graph. -/
theorem expanded_cycle_lies_over_blueprint_cycle (d : Doc) (hn : (ids (expandDoc d)).Nodup)
    (hok : ∀ c ∈ d.comps, replOk d c = true) (href : refsAreComponents d) (hc : cyclicExpanded d) : cyclic d := by
  obtain ⟨v, hv⟩ := hc
  exact ⟨_, hv.map _ (expansion_projects d hn hok href).2⟩

/-- **accepted_expansion_is_usable_partial**: if the workflow loads then the EXPANDED graph (replicas and
aggregating components written out, what the workflow graph is built from) has unique identifiers, none of its
references dangles, a rank function increases strictly along every one of its producer → consumer edges, hence it
has no cycle, and every expanded component has the options, variables and variable uses of a component of the
document (whose configuration resolves by `accepted_is_usable`).
Partial: for documents without loop instances (`placeholders d = []`, no component is named `<k>#<name>`); the
expansion of DoWhile documents is the subject of C05. -/
theorem accepted_expansion_is_usable_partial (tbl : List (S × Conv)) (sch : Schema) (d : Doc)
    (h : validate tbl sch d = []) (hp : placeholders d = []) :
    (ids (expandDoc d)).Nodup ∧
    (∀ c' ∈ (expandDoc d).comps, ∀ x ∈ c'.refs, x ∈ ids (expandDoc d)) ∧
    (∃ rank : Id → Nat, ∀ e ∈ edges (expandDoc d), rank e.1 < rank e.2) ∧
    (¬ ∃ v, Reach (edges (expandDoc d)) v v) ∧
    (∀ c' ∈ (expandDoc d).comps, ∃ c ∈ d.comps, c'.stage = c.stage ∧ c'.opts = c.opts ∧ c'.vars = c.vars ∧
        c'.uses = c.uses) := by
  have a := accepted h
  have href : refsAreComponents d := fun c hc r hr => by simpa [hp] using a.refs c hc r hr
  obtain ⟨hdang, hproj⟩ := expansion_projects d a.nodupExpanded a.repl href
  obtain ⟨rank, hrank⟩ := acyclicB_rank d a.acyclic
  have hrank' : ∀ e ∈ edges (expandDoc d), rank (bpOf (bpList d) e.1) < rank (bpOf (bpList d) e.2) :=
    fun e he => hrank _ (hproj e he)
  refine ⟨a.nodupExpanded, hdang, ⟨fun x => rank (bpOf (bpList d) x), hrank'⟩,
    rank_excludes_cycle (rank := fun x => rank (bpOf (bpList d) x)) hrank', fun c' hc' => ?_⟩
  obtain ⟨c, hc, hcc⟩ := List.mem_flatMap.mp hc'
  refine ⟨c, hc, ?_⟩
  unfold expandComp at hcc
  split at hcc
  · obtain ⟨k, _, rfl⟩ := List.mem_map.mp hcc
    exact ⟨rfl, rfl, rfl, rfl⟩
  · split at hcc <;> (rw [List.mem_singleton] at hcc; subst hcc; exact ⟨rfl, rfl, rfl, rfl⟩)

/-- a cycle of the expanded graph — through replicas, through aggregating components, anywhere — is rejected -/
theorem cyclicExpanded_rejected_partial (tbl sch) (d : Doc) (hp : placeholders d = []) (hf : cyclicExpanded d) :
    validate tbl sch d ≠ [] := fun h =>
  have ⟨_, _, _, hacyclic, _⟩ := accepted_expansion_is_usable_partial tbl sch d h hp
  hacyclic hf

/-- a reference of an expanded component that dangles is rejected -/
theorem danglingExpanded_rejected_partial (tbl sch) (d : Doc) (hp : placeholders d = [])
    (hf : danglingExpanded d) : validate tbl sch d ≠ [] := by
  intro h
  obtain ⟨c, hc, r, hr, hn⟩ := hf
  obtain ⟨_, hrefs, _⟩ := accepted_expansion_is_usable_partial tbl sch d h hp
  exact hn (hrefs c hc r hr)

/-- identifiers that collide after the expansion (a hand-written `prep1` next to a replicated `prep`) are
rejected (full) -/
theorem duplicateExpanded_rejected (tbl sch) (d : Doc) (hf : duplicateExpanded d) : validate tbl sch d ≠ [] :=
  fun h => hf (accepted h).nodupExpanded

/-- inconsistent `replicate` counts are rejected (full) -/
theorem inconsistentReplicate_rejected (tbl sch) (d : Doc) (hf : inconsistentReplicate d) :
    validate tbl sch d ≠ [] := by
  intro h
  obtain ⟨c, hc, hb⟩ := hf
  rw [(accepted h).repl c hc] at hb
  cases hb

/-! ## options: unknown keys and wrongly typed values -/

private theorem unknownKey_hard {s : Schema} {v : Val} (h : UnknownKey s v) :
    ∃ e ∈ check s v, e.isMissing = false := by
  induction h with
  | @here entries kvs k v hm hk =>
    refine ⟨.keyUnknown k, ?_, rfl⟩
    rw [check]
    exact List.mem_append_left _ (List.mem_map.mpr ⟨(k, v), List.mem_filter.mpr ⟨hm, by simpa using hk⟩, rfl⟩)
  | deeper hm hl hu ih =>
    obtain ⟨e, he, hh⟩ := ih
    exact ⟨e, mem_check_dict hm hl (by cases hu <;> exact fun h => by cases h) he, hh⟩

private theorem not_admits_hard {s : Schema} {v : Val} (h : admits s v = false) :
    SErr.valueInvalid ∈ check s v := by
  cases s with
  | opt s => cases h
  | ty _ | pred _ | or _ => simp only [admits] at h; simp [check, h]
  | _ => cases v <;> simp_all [admits, check]

private theorem wrongType_hard {s : Schema} {v : Val} (h : WrongType s v) :
    ∃ e ∈ check s v, e.isMissing = false := by
  induction h with
  | here h => exact ⟨.valueInvalid, not_admits_hard h, rfl⟩
  | deeper hm hl hv _ ih =>
    obtain ⟨e, he, hh⟩ := ih
    exact ⟨e, mem_check_dict hm hl hv he, hh⟩

private theorem optErrors_ne_nil {tbl sch opts}
    (h : ∀ o, convert (.node tbl) opts = some o → ∃ e ∈ check sch o, e.isMissing = false) :
    optErrors tbl sch opts ≠ [] := by
  unfold optErrors
  split
  · exact List.cons_ne_nil _ _
  · rename_i o ho
    obtain ⟨e, he, hm⟩ := h o ho
    exact List.ne_nil_of_mem (List.mem_filter.mpr ⟨he, by rw [hm]; rfl⟩)

private theorem rejected_of_reported {tbl sch} {d : Doc} {c : Comp} (hc : c ∈ d.comps)
    (h : ∀ o, convert (.node tbl) c.opts = some o → ∃ e ∈ check sch o, e.isMissing = false) :
    validate tbl sch d ≠ [] :=
  fun hv => optErrors_ne_nil h ((accepted hv).opts c hc)

theorem unknownKey_rejected (tbl sch) (d : Doc) (hf : unknownKey tbl sch d) : validate tbl sch d ≠ [] := by
  obtain ⟨c, hc, hu⟩ := hf
  exact rejected_of_reported hc fun o ho => unknownKey_hard (hu o ho)

theorem wrongType_rejected (tbl sch) (d : Doc) (hf : wrongType tbl sch d) : validate tbl sch d ≠ [] := by
  obtain ⟨c, hc, hu⟩ := hf
  exact rejected_of_reported hc fun o ho => wrongType_hard (hu o ho)

theorem unknownKey_treeAt {sch : Schema} {p : List S} (v : Val) (h : leavesSchema sch p = true) :
    UnknownKey sch (treeAt p v) := by
  induction p generalizing sch with
  | nil => cases sch <;> cases h
  | cons k rest ih =>
    cases sch with
    | dict entries =>
      rw [leavesSchema] at h
      cases he : entryOf k entries with
      | none => exact .here (.head _) (by simpa using entryOf_eq_none.mp he)
      | some s =>
        rw [he] at h
        obtain ⟨o, ho⟩ := entryOf_mem he
        exact .deeper ho (lookup_head ..) (ih h)
    | _ => cases h

theorem optErrors_treeAt_unknown (tbl : List (S × Conv)) {sch : Schema} {p : List S} (v : Val)
    (h : leavesSchema sch p = true) : optErrors tbl sch (treeAt p v) ≠ [] :=
  optErrors_ne_nil fun _ ho => by
    obtain ⟨v', rfl⟩ := convert_treeAt ho
    exact unknownKey_hard (unknownKey_treeAt v' h)

/-! ## a YAML float for an option whose declaration admits no float (`numberProcesses: 2.5`, `gpus: 3.0`) -/

/-- a float — whole or not — somewhere in an option tree AS WRITTEN (before the type conversion), below known keys,
at a key whose rule admits no float (`mayAdmitFloat`: no `float` type rule, no predicate that holds for floats, in
no alternative) -/
inductive FloatAt : Schema → Val → Prop where
  | here {s i f} : mayAdmitFloat s = false → FloatAt s (.float i f)
  | deeper {entries kvs k o s v} : (k, o, s) ∈ entries → lookup k kvs = some v → FloatAt s v →
      FloatAt (.dict entries) (.dict kvs)
def floatMistyped (sch : Schema) (d : Doc) : Prop := ∃ c ∈ d.comps, FloatAt sch c.opts

private theorem floatAt_hard {s : Schema} {v : Val} (h : FloatAt s v) :
    ∀ o, (o = v ∨ ∃ c, convert c v = some o) → (∃ e ∈ check s o, e.isMissing = false) ∧ o ≠ .null := by
  induction h with
  | @here s i f hm =>
    intro o ho
    obtain rfl : o = .float i f := by
      rcases ho with ho | ⟨c, ho⟩
      · exact ho
      · rw [convert_float] at ho; exact (Option.some.inj ho).symm
    exact ⟨⟨.valueInvalid, check_float s i f hm, rfl⟩, fun h => by cases h⟩
  | @deeper entries kvs k o' s v hm hl _ ih =>
    intro o ho
    -- the converted tree is a dictionary in which `k` carries the value of `k` converted (or untouched)
    have hshape : ∃ kvs' v', o = .dict kvs' ∧ lookup k kvs' = some v' ∧ (v' = v ∨ ∃ c, convert c v = some v') := by
      rcases ho with ho | ⟨c, ho⟩
      · exact ⟨kvs, v, ho, hl, .inl rfl⟩
      · cases c with
        | leaf ck => rw [convert_leaf_dict] at ho; cases ho; exact ⟨kvs, v, rfl, hl, .inl rfl⟩
        | node es =>
          rw [convert_node_dict] at ho
          obtain ⟨kvs', hm', rfl⟩ := Option.map_eq_some_iff.mp ho
          obtain ⟨v', h1, h2⟩ := lookup_mapKvs hm' hl
          exact ⟨kvs', v', rfl, h1, convLookup_cases es k v v' h2⟩
    obtain ⟨kvs', v', rfl, hl', hv'⟩ := hshape
    obtain ⟨⟨e, he, hh⟩, hnn⟩ := ih v' hv'
    exact ⟨⟨e, mem_check_dict hm hl' hnn he, hh⟩, fun h => by cases h⟩

/-- **floatMistype_rejected** (full): for EVERY conversion table, every schema and every document — a component
that gives a float, whole (`3.0`) or not (`2.5`), for an option whose declaration admits no float is rejected.  No
entry of the conversion table can rescue the value: the conversion pre-pass never turns a float into something
else (it would have to truncate `2.5` to `2`), so the schema check sees the float the author wrote. -/
theorem floatMistype_rejected (tbl sch) (d : Doc) (hf : floatMistyped sch d) : validate tbl sch d ≠ [] := by
  obtain ⟨c, hc, hu⟩ := hf
  exact rejected_of_reported hc fun o ho => (floatAt_hard hu o (.inr ⟨_, ho⟩)).1

/-- the option tree `{p₀: {… {pₙ: <float>}}}` along a path of the schema that ends at such a rule -/
theorem floatAt_treeAt (p : List S) (sch s : Schema) (i : Int) (f : Bool) (hs : schemaAt sch p = some s)
    (hm : mayAdmitFloat s = false) : FloatAt sch (treeAt p (.float i f)) := by
  induction p generalizing sch with
  | nil => rw [schemaAt] at hs; cases hs; exact .here hm
  | cons k rest ih =>
    cases sch with
    | dict entries =>
      rw [schemaAt] at hs
      cases he : entryOf k entries with
      | none => rw [he] at hs; cases hs
      | some s1 =>
        rw [he] at hs
        obtain ⟨o, ho⟩ := entryOf_mem he
        exact .deeper ho (lookup_head ..) (ih s1 hs)
    | _ => simp [schemaAt] at hs

/-- **float_for_option_rejected** (full): the single fault "mistype option `p` with a float" — for every table,
schema, path `p` of the schema whose rule admits no float, float value and document with a component whose options
are `{p: <float>}` -/
theorem float_for_option_rejected (tbl sch) (d : Doc) (c : Comp) (p : List S) (s : Schema) (i : Int) (f : Bool)
    (hc : c ∈ d.comps) (ho : c.opts = treeAt p (.float i f)) (hs : schemaAt sch p = some s)
    (hm : mayAdmitFloat s = false) : validate tbl sch d ≠ [] :=
  floatMistype_rejected tbl sch d ⟨c, hc, ho ▸ floatAt_treeAt p sch s i f hs hm⟩

/-! ## Packages with DoWhile documents (`Model/ValidateLoop.lean`) -/

/-- the fault classes of the property text inside a DoWhile document -/
def danglingLoopBinding (p : Package) : Prop :=
  ∃ l ∈ p.loops, ∃ kv ∈ l.loopBindings, offset l kv.2 ∉ tmplIds l
def danglingCondition (p : Package) : Prop := ∃ l ∈ p.loops, offset l l.cond ∉ tmplIds l
/-- a binding value that is no component of the main document, no importing component and no looped component
of any document -/
def danglingBinding (p : Package) : Prop :=
  ∃ l ∈ p.loops, ∃ kv ∈ l.bindings, kv.2 ∉ ids p.main ++ stubIds p ∧ ∀ l' ∈ p.loops, kv.2 ∉ tmplIds l'
def unboundInput (p : Package) : Prop := ∃ l ∈ p.loops, ∃ k ∈ l.inputs, lookup k l.bindings = none
def duplicateLooped (p : Package) : Prop := ∃ l ∈ p.loops, ¬ (tmplIds l).Nodup
/-- a reference of a looped component, as rewritten for iteration 0, is neither a component of the loaded
document nor a placeholder -/
def danglingLoopReference (p : Package) : Prop :=
  ∃ l ∈ p.loops, ∃ t ∈ l.comps, ∃ r ∈ t.refs, refResolves (flatten p) (rewriteRef l 0 r) = false

private theorem loopOk_of {tbl sch} {p : Package} (h : validateP tbl sch p = []) {l : Loop} (hl : l ∈ p.loops) :
    ∃ foreign, LoopOk foreign l ∧ ∀ i ∈ foreign, i ∈ ids p.main ++ stubIds p ∨ ∃ l' ∈ p.loops, i ∈ tmplIds l' :=
  loopErrorsFrom_nil (validateP_nil h).1 l hl

/-- **acceptedP_is_usable** (full): if a package with DoWhile documents loads then the document made of the main
components and iteration 0 of every loop is usable in the sense of `accepted_is_usable` (unique identifiers,
every reference a component or a loop placeholder, acyclic, variables resolve — the looped components in the
scope of their absolute stage —, options valid), and for every loop: the looped components have pairwise
different identifiers, every input binding has a value, every binding value is a component known outside the
loop or a looped component, every LOOP binding and the condition point to looped components of the same
document. -/
theorem acceptedP_is_usable (tbl : List (S × Conv)) (sch : Schema) (p : Package) (h : validateP tbl sch p = []) :
    validate tbl sch (flatten p) = [] ∧
    ∀ l ∈ p.loops,
      (tmplIds l).Nodup ∧
      (∀ k ∈ l.inputs, ∃ i, lookup k l.bindings = some i) ∧
      (∀ kv ∈ l.bindings, kv.2 ∈ ids p.main ++ stubIds p ∨ ∃ l' ∈ p.loops, kv.2 ∈ tmplIds l') ∧
      (∀ kv ∈ l.loopBindings, offset l kv.2 ∈ tmplIds l) ∧
      offset l l.cond ∈ tmplIds l := by
  refine ⟨(validateP_nil h).2, fun l hl => ?_⟩
  obtain ⟨foreign, hok, hsub⟩ := loopOk_of h hl
  exact ⟨hok.nodup, hok.bound, fun kv hkv => hsub _ (hok.bindings kv hkv), hok.loopBindings, hok.cond⟩

/-- **next_iteration_resolves** (full): an accepted package is structurally executable beyond iteration 0: for
every loop and every `k`, each reference of each component that iteration `k+1` adds (input bindings with a loop
binding now point to iteration `k`) is a component of the document with the iterations `1 … k+1` of that loop
added, or a placeholder of the loaded document; and the components of one iteration have pairwise different
identifiers.  Nothing is left to fail when the next iteration is instantiated at run time. -/
theorem next_iteration_resolves (tbl : List (S × Conv)) (sch : Schema) (p : Package)
    (h : validateP tbl sch p = []) (l : Loop) (hl : l ∈ p.loops) (k : Nat) :
    (∀ c' ∈ inst l (k + 1), ∀ r ∈ c'.refs,
      r ∈ ids (unrolled p l (k + 1)) ∨ r ∈ placeholders (flatten p)) ∧
    ((inst l (k + 1)).map Comp.id).Nodup := by
  obtain ⟨foreign, hok, _⟩ := loopOk_of h hl
  refine ⟨fun c' hc' r hr => ?_, nodup_ids_inst hok.nodup _⟩
  obtain ⟨t, ht, rfl⟩ := List.mem_map.mp hc'
  obtain ⟨r0, hr0, rfl⟩ := List.mem_map.mp hr
  -- iteration 0 carries the same reference of the template, rewritten for iteration 0: that one resolves
  obtain ⟨c0, hc0, hr0'⟩ := rewriteRef_mem_inst ht hr0 0
  have h0 := (accepted (validateP_nil h).2).refs c0 (inst0_sub_flatten hl hc0) _ hr0'
  unfold rewriteRef at h0 ⊢
  simp only at h0 ⊢
  split
  · -- the reference is to a looped component: to its instance of this iteration
    rename_i hc
    exact .inl (iter_mem_unrolled hl (by simpa using hc) (Nat.le_refl _))
  · rename_i hc
    rw [target_succ] at hc ⊢
    cases hlk : lookup r0.2 l.loopBindings with
    | some i0 => exact .inl (iter_mem_unrolled hl (hok.loopBindings _ (mem_of_lookup hlk)) (Nat.le_succ k))
    | none =>
      rw [hlk] at hc
      rw [if_neg hc] at h0
      exact h0.imp_left (ids_flatten_sub_unrolled p l _)

theorem danglingLoopBinding_rejected (tbl sch) (p : Package) (hf : danglingLoopBinding p) :
    validateP tbl sch p ≠ [] := by
  intro h
  obtain ⟨l, hl, kv, hkv, hn⟩ := hf
  obtain ⟨_, hok, _⟩ := loopOk_of h hl
  exact hn (hok.loopBindings kv hkv)

theorem danglingCondition_rejected (tbl sch) (p : Package) (hf : danglingCondition p) :
    validateP tbl sch p ≠ [] := by
  intro h
  obtain ⟨l, hl, hn⟩ := hf
  obtain ⟨_, hok, _⟩ := loopOk_of h hl
  exact hn hok.cond

theorem danglingBinding_rejected (tbl sch) (p : Package) (hf : danglingBinding p) :
    validateP tbl sch p ≠ [] := by
  intro h
  obtain ⟨l, hl, kv, hkv, hn1, hn2⟩ := hf
  obtain ⟨_, hok, hsub⟩ := loopOk_of h hl
  rcases hsub _ (hok.bindings kv hkv) with h1 | ⟨l', hl', h1⟩
  · exact hn1 h1
  · exact hn2 l' hl' h1

theorem unboundInput_rejected (tbl sch) (p : Package) (hf : unboundInput p) : validateP tbl sch p ≠ [] := by
  intro h
  obtain ⟨l, hl, k, hk, hn⟩ := hf
  obtain ⟨_, hok, _⟩ := loopOk_of h hl
  obtain ⟨i, hi⟩ := hok.bound k hk
  rw [hn] at hi; cases hi

theorem duplicateLooped_rejected (tbl sch) (p : Package) (hf : duplicateLooped p) : validateP tbl sch p ≠ [] := by
  intro h
  obtain ⟨l, hl, hn⟩ := hf
  obtain ⟨_, hok, _⟩ := loopOk_of h hl
  exact hn hok.nodup

theorem danglingLoopReference_rejected (tbl sch) (p : Package) (hf : danglingLoopReference p) :
    validateP tbl sch p ≠ [] := by
  intro h
  obtain ⟨l, hl, t, ht, r, hr, hn⟩ := hf
  obtain ⟨c, hc, hrc⟩ := rewriteRef_mem_inst ht hr 0
  exact dangling_rejected tbl sch (flatten p) ⟨c, inst0_sub_flatten hl hc, _, hrc, hn⟩ (validateP_nil h).2

/-! ### references to the importing (`$import`) entry

The entry of the main document that instantiates a DoWhile document (`name: refine, $import: dowhile.yaml`) is
not a component: the loaded document has the looped components (`stage1.0#work`) and their placeholders
(`stage1.work`) instead.  "Consume the output of the loop" written as a reference to the entry is a dangling
reference. -/

/-- a component of the loaded document (a component of the main document, or iteration 0 of a looped component with
its references rewritten: an input binding replaced by its value) declares a reference to an importing entry whose
identifier no component or placeholder of the main document and no looped component shares -/
def referenceToImportEntry (p : Package) : Prop :=
  ∃ c ∈ (flatten p).comps, ∃ r ∈ c.refs, r ∈ stubIds p ∧ afterHash r.2 = none ∧ r ∉ ids p.main ∧
    r ∉ placeholders p.main ∧ ∀ l ∈ p.loops, r ∉ tmplIds l

/-- **referenceToImportEntry_rejected** (full): for every package, a reference to an importing entry — from a
component of the main document, or from a looped component directly or through an input binding bound to the
entry — is reported when the package is loaded. -/
theorem referenceToImportEntry_rejected (tbl sch) (p : Package) (hf : referenceToImportEntry p) :
    validateP tbl sch p ≠ [] := by
  intro h
  obtain ⟨c, hc, r, hr, _, hn, hm, hph, ht⟩ := hf
  exact dangling_rejected tbl sch (flatten p) ⟨c, hc, r, hr, entry_not_resolved hn hm hph ht⟩ (validateP_nil h).2

/-- **accepted_references_are_graph_nodes** (full): every reference of every component of an accepted package
names a component of the main document, iteration 0 of a looped component, a placeholder of the main document or
(the placeholder of) a looped component — being the name of an importing entry is never enough. -/
theorem accepted_references_are_graph_nodes (tbl sch) (p : Package) (h : validateP tbl sch p = []) :
    ∀ c ∈ (flatten p).comps, ∀ r ∈ c.refs,
      r ∈ ids p.main ∨ (∃ l ∈ p.loops, ∃ j ∈ tmplIds l, r = (j.1, iterName 0 j.2)) ∨
      r ∈ placeholders p.main ∨ ∃ l ∈ p.loops, r ∈ tmplIds l := by
  intro c hc r hr
  rcases (accepted (validateP_nil h).2).refs c hc r hr with h1 | h1
  · rcases mem_ids_flatten h1 with h2 | h2
    · exact .inl h2
    · exact .inr (.inl h2)
  · rcases mem_placeholders_flatten h1 with h2 | h2
    · exact .inr (.inr (.inl h2))
    · exact .inr (.inr (.inr h2))

/-- the loop bindings and the condition can never name an importing entry that is no looped component (corollary
of `acceptedP_is_usable`; stated for the fault "the condition / a loop binding is renamed to the entry") -/
theorem conditionToImportEntry_rejected (tbl sch) (p : Package)
    (hf : ∃ l ∈ p.loops, offset l l.cond ∈ stubIds p ∧ offset l l.cond ∉ tmplIds l) : validateP tbl sch p ≠ [] := by
  obtain ⟨l, hl, _, hn⟩ := hf
  exact danglingCondition_rejected tbl sch p ⟨l, hl, hn⟩

theorem loopBindingToImportEntry_rejected (tbl sch) (p : Package)
    (hf : ∃ l ∈ p.loops, ∃ kv ∈ l.loopBindings, offset l kv.2 ∈ stubIds p ∧ offset l kv.2 ∉ tmplIds l) :
    validateP tbl sch p ≠ [] := by
  obtain ⟨l, hl, kv, hkv, _, hn⟩ := hf
  exact danglingLoopBinding_rejected tbl sch p ⟨l, hl, kv, hkv, hn⟩

/-! ### the bindings when the next iteration is instantiated

Before the repair (`fix:` commit fe06774 in /repo) the code compared the binding values with different sets at load time
(importing entries included) and at run time (`instantiate_dowhile_next_iteration`: components of the graph only).  Partial: under the decidable
hypothesis that no binding value of the loop names an importing entry or a placeholder, the binding check of every
later iteration passes for an accepted package.  `Witness.C11`: without the hypothesis it does not; with the repaired load-time check (`validatePFixed`) such a
package is rejected. -/

theorem ids_main_sub_flatten (p : Package) {i : Id} (h : i ∈ ids p.main) : i ∈ ids (flatten p) := by
  unfold ids flatten at *
  simp only [List.map_append]
  exact List.mem_append_left _ h

theorem next_iteration_bindings_known_partial (tbl : List (S × Conv)) (sch : Schema) (p : Package)
    (h : validateP tbl sch p = []) (l : Loop) (hl : l ∈ p.loops) (hb : bindingsAvoidImportEntries p l = true)
    (k : Nat) : nextBindingErrors p l k = [] := by
  unfold nextBindingErrors
  rw [List.map_eq_nil_iff, List.filter_eq_nil_iff]
  intro kv hkv
  obtain ⟨_, hok, hsub⟩ := loopOk_of h hl
  have h2 := List.all_eq_true.mp hb kv hkv
  simp only [Bool.and_eq_true, Bool.not_eq_true', List.contains_eq_mem, decide_eq_false_iff_not] at h2
  have h5 : kv.2 ∈ ids p.main := by
    rcases hsub _ (hok.bindings kv hkv) with h1 | ⟨l', hl', h1⟩
    · exact (List.mem_append.mp h1).resolve_right h2.1
    · exact absurd (List.mem_flatMap.mpr ⟨l', hl', h1⟩) h2.2
  simpa using ids_flatten_sub_unrolled p l k (ids_main_sub_flatten p h5)

/-- the hypothesis is satisfiable (every generated well-formed package satisfies it) -/
example : bindingsAvoidImportEntries
    { main := { comps := [], globals := [] },
      loops := [{ stage := 1, name := "loop0".toList, inputs := ["in0".toList],
                  bindings := [("in0".toList, (0, "ca".toList))], loopBindings := [], cond := (0, "la".toList),
                  comps := [] }] }
    { stage := 1, name := "loop0".toList, inputs := ["in0".toList],
      bindings := [("in0".toList, (0, "ca".toList))], loopBindings := [], cond := (0, "la".toList), comps := [] }
    = true := by decide +kernel

/-- **fixed_rejects_binding_to_nothing** (full, for the repaired load-time check): a binding value that is neither a
component of the main document nor a looped component — in particular an importing entry — is reported. -/
theorem fixed_rejects_binding_to_nothing (tbl sch) (p : Package)
    (hf : ∃ l ∈ p.loops, ∃ kv ∈ l.bindings, kv.2 ∉ ids p.main ∧ ∀ l' ∈ p.loops, kv.2 ∉ tmplIds l') :
    validatePFixed tbl sch p ≠ [] := by
  intro h
  unfold validatePFixed at h
  rw [List.append_eq_nil_iff] at h
  obtain ⟨l, hl, kv, hkv, hn1, hn2⟩ := hf
  obtain ⟨foreign, hok, hsub⟩ := loopErrorsFrom_nil h.1 l hl
  rcases hsub _ (hok.bindings kv hkv) with h1 | ⟨l', hl', h1⟩
  · exact hn1 h1
  · exact hn2 l' hl' h1

/-! ## Pin theorems on the constants regenerated from the source (`Gen/C11.lean`) -/

/-- may the rule at the end of an option path of the source's schema validate a float? -/
private def floatAdmittedAt (p : List S) : Bool :=
  match schemaAt Gen.C11.componentSchema p with
  | some s => mayAdmitFloat s
  | none => true

/-- What the theorems below use of the regenerated tables, read off in one evaluation: every option path is a
non-empty path of the schema, each key on it declared once, and leaves the schema when its last key is misspelled;
the statements about the options converted with `int`/`optional_int`.  (The string literals are turned into lists of
characters first: the kernel is slow at decoding them.) -/
private theorem optionPaths_facts :
    (∀ p ∈ Gen.C11.optionPaths,
      p ≠ [] ∧ (schemaAt Gen.C11.componentSchema p).isSome = true ∧ declaredOnce Gen.C11.componentSchema p = true ∧
        leavesSchema Gen.C11.componentSchema (misspellLast p) = true ∧
        ((convKindAt Gen.C11.convTable p == some .int || convKindAt Gen.C11.convTable p == some .optionalInt) = true →
          (p == ["workflowAttributes".toList, "repeatInterval".toList] || !floatAdmittedAt p) = true)) ∧
    (Gen.C11.optionPaths.filter (fun p =>
      (convKindAt Gen.C11.convTable p == some .int || convKindAt Gen.C11.convTable p == some .optionalInt)
        && !floatAdmittedAt p)).length ≥ 9 := by
  unfold floatAdmittedAt Gen.C11.optionPaths Gen.C11.componentSchema Gen.C11.convTable
  simp -index only [String.toList_ofList]
  decide +kernel

/-- Every option key of the schema in the source, misspelled (one letter appended) in an otherwise empty
component, is reported — "misspell each option" follows the code. -/
theorem every_misspelled_option_reported :
    ∀ p ∈ Gen.C11.optionPaths,
      (optErrors Gen.C11.convTable Gen.C11.componentSchema (treeAt (misspellLast p) (.str "word".toList))).isEmpty
        = false :=
  fun p hp =>
    have ⟨_, _, _, hleaves, _⟩ := optionPaths_facts.1 p hp
    List.isEmpty_eq_false_iff.mpr (optErrors_treeAt_unknown _ _ hleaves)

/-- … while no correctly spelled key is reported as unknown (value `None` = "not set"). -/
theorem no_correct_option_reported :
    ∀ p ∈ Gen.C11.optionPaths,
      optErrors Gen.C11.convTable Gen.C11.componentSchema (treeAt p .null) = [] := by
  intro p hp
  obtain ⟨hne, hs, h1, _⟩ := optionPaths_facts.1 p hp
  obtain ⟨s, hs⟩ := Option.isSome_iff_exists.mp hs
  exact optErrors_treeAt_null _ hne hs h1

/-- No option is converted with Python's builtin `bool`, for which `bool("no")`/`bool("zzz")` is `True`
(see `Witness/C11.lean`; repaired by `fixes/C11-bool-options.diff`). -/
theorem convTable_has_no_builtin_bool : usesBuiltinBoolList Gen.C11.convTable = false := by
  decide

/-- the repaired converter rejects every word that is not a boolean word -/
theorem toBool_rejects_words (s : S) (v : Val) (h : convLeaf .toBool (.str s) = some v) :
    lower s ∈ ["true".toList, "yes".toList, "false".toList, "no".toList] := by
  simp only [convLeaf] at h
  split at h
  · rename_i h1
    exact List.mem_append_left ["false".toList, "no".toList] (List.contains_iff_mem.mp h1)
  · split at h
    · rename_i _ h1
      exact List.mem_append_right ["true".toList, "yes".toList] (List.contains_iff_mem.mp h1)
    · cases h

/-- For every option key of the schema in the source and the floats 2.5, 0.5, 1.9, 3.0, -1.5: the float given for
that option (in an otherwise empty component) is reported exactly when the rule of the option admits no float. -/
theorem float_reported_iff_not_admitted :
    ∀ p ∈ Gen.C11.optionPaths,
      ∀ v ∈ [Val.float 2 true, Val.float 0 true, Val.float 1 true, Val.float 3 false, Val.float (-1) true],
        (optErrors Gen.C11.convTable Gen.C11.componentSchema (treeAt p v)).isEmpty = floatAdmittedAt p := by
  intro p hp v hv
  obtain ⟨hne, hs, h1, _⟩ := optionPaths_facts.1 p hp
  obtain ⟨s, hs⟩ := Option.isSome_iff_exists.mp hs
  rw [floatAdmittedAt, hs]
  simp only [List.mem_cons, List.not_mem_nil, or_false] at hv
  rcases hv with rfl | rfl | rfl | rfl | rfl <;> exact optErrors_treeAt_float _ _ _ hne hs h1

/-- Every option the source converts with `int`/`optional_int` (numberProcesses, numberThreads, ranksPerNode,
threadsPerCore, gpus, replicate, repeatRetries, maxRestarts, gracePeriod, …) has a rule that admits no float —
so `float_for_option_rejected` applies to it — except `repeatInterval`, whose rule lists `float`. -/
theorem int_converted_options_admit_no_float :
    ∀ p ∈ Gen.C11.optionPaths,
      (convKindAt Gen.C11.convTable p == some .int || convKindAt Gen.C11.convTable p == some .optionalInt) = true →
        (p == ["workflowAttributes".toList, "repeatInterval".toList] || !floatAdmittedAt p) = true :=
  fun p hp =>
    have ⟨_, _, _, _, hint⟩ := optionPaths_facts.1 p hp
    hint

/-- … and there are such options (the list is not empty: at least nine) -/
theorem int_converted_options_exist :
    (Gen.C11.optionPaths.filter (fun p =>
      (convKindAt Gen.C11.convTable p == some .int || convKindAt Gen.C11.convTable p == some .optionalInt)
        && !floatAdmittedAt p)).length ≥ 9 :=
  optionPaths_facts.2

/-! ## Non-vacuity: concrete documents -/

private def c (stage : Nat) (name : String) (refs : List Id) (vars : List (S × List S)) (uses : List S) : Comp :=
  { stage := stage, name := name.toList, refs := refs, argRefs := refs, opts := .dict [], vars := vars, uses := uses }

/-- diamond over two stages, a loop iteration `0#it` referenced through its placeholder, chained variables -/
private def good : Doc :=
  { comps := [c 0 "src" [] [] ["g".toList],
              c 0 "left" [(0, "src".toList)] [("a".toList, ["g".toList])] ["a".toList],
              c 0 "right" [(0, "src".toList)] [] [],
              c 1 "0#it" [(0, "left".toList)] [] [],
              c 1 "join" [(0, "left".toList), (0, "right".toList), (1, "it".toList)] [] []],
    globals := [("g".toList, [])] }

example : validate Gen.C11.convTable Gen.C11.componentSchema good = [] := by decide +kernel
example : (compEdges good).length = 5 ∧ placeholders good = [(1, "it".toList)] ∧
    placeholderEdges good = [((1, "0#it".toList), (1, "join".toList))] := by decide +kernel

private def withComps (cs : List Comp) : Doc := { good with comps := cs }

/-- each fault class is inhabited by a single-fault variant of `good`, and is rejected -/
example : dangling (withComps (good.comps.drop 1)) :=
  ⟨c 0 "left" [(0, "src".toList)] [("a".toList, ["g".toList])] ["a".toList], .head _, (0, "src".toList),
   .head _, by decide +kernel⟩
example : duplicate (withComps (good.comps ++ [c 0 "src" [] [] []])) := by unfold duplicate; decide +kernel
example : cyclic (withComps (c 0 "src" [(1, "join".toList)] [] [] :: good.comps.drop 1)) :=
  ⟨(0, "src".toList), .step (b := (0, "left".toList)) (by decide +kernel)
    (.step (b := (1, "join".toList)) (by decide +kernel) (.edge (by decide +kernel)))⟩
example : validate Gen.C11.convTable Gen.C11.componentSchema
    (withComps (c 0 "src" [(1, "join".toList)] [] [] :: good.comps.drop 1)) = [Err.cycle] := by decide +kernel
example : undefinedVar { good with globals := [] } := by
  refine ⟨c 0 "src" [] [] ["g".toList], .head _, "g".toList, .head _, ?_⟩
  intro h; cases h with | mk _ used hl _ => simp [defsOf, c, lookup, good, userStage, userGlobals, sectionOf] at hl
example : (validate Gen.C11.convTable Gen.C11.componentSchema { good with globals := [] }).isEmpty = false := by
  decide +kernel

/-! ### scoped variables: the workflow's stage sections, a platform, two user variables files -/

/-- two stages; `seed` comes from the user's files only: the first file defines it for stage 0, the second one
for stage 1 (and overrides `g` globally); `q` is a stage variable of the workflow for stage 1, `p` one of the
active platform for stage 0 -/
private def scopedDoc : Doc :=
  { comps := [c 0 "produce" [] [] ["seed".toList, "p".toList, "g".toList],
              c 1 "consume" [(0, "produce".toList)] [] ["seed".toList, "q".toList]],
    globals := [("g".toList, [])],
    stageVars := [(1, [("q".toList, ["g".toList])])],
    platStageVars := [(0, [("p".toList, [])])],
    userFiles := [{ stages := [(0, [("seed".toList, [])])] },
                  { globals := [("g".toList, [])], stages := [(1, [("seed".toList, ["g".toList])])] }] }

example : validate Gen.C11.convTable Gen.C11.componentSchema scopedDoc = [] := by decide +kernel

/-- the single fault "the second file no longer defines `seed` for stage 1": `seed` is defined for stage 0 only,
`consume` (stage 1) mentions an undefined variable, the workflow is rejected -/
private def scopedFault : Doc :=
  { scopedDoc with userFiles := [{ stages := [(0, [("seed".toList, [])])] }, { globals := [("g".toList, [])] }] }

example : validate Gen.C11.convTable Gen.C11.componentSchema scopedFault
    = [Err.undefinedVariable (1, "consume".toList) "seed".toList] := by decide +kernel
example : validate Gen.C11.convTable Gen.C11.componentSchema scopedFault ≠ [] :=
  varOfOtherStage_rejected _ _ scopedFault (c 1 "consume" [(0, "produce".toList)] [] ["seed".toList, "q".toList])
    "seed".toList (.tail _ (.head _)) (.head _) (by decide +kernel) (by decide +kernel) (by decide +kernel) (by decide +kernel) (by decide +kernel)
    (by decide +kernel) (by decide +kernel)
/-- … and so is the same definition moved to the section of the wrong stage, in the workflow or for the platform -/
example : (validate Gen.C11.convTable Gen.C11.componentSchema
    { scopedDoc with stageVars := [(0, [("q".toList, ["g".toList])])] }).isEmpty = false := by decide +kernel
example : (validate Gen.C11.convTable Gen.C11.componentSchema
    { scopedDoc with platStageVars := [(1, [("p".toList, [])])] }).isEmpty = false := by decide +kernel

/-! ### replication -/

private def cr (name : String) (refs : List Id) (repl : Option Nat) (agg : Bool) : Comp :=
  { (c 0 name refs [] []) with replicate := repl, aggregate := agg }

/-- `gen` (2 replicas) → `sim` → `red` (aggregating) → `post`, next to hand-written `prep0`/`prep1` -/
private def mapReduce : Doc :=
  { comps := [cr "gen" [] (some 2) false, cr "sim" [(0, "gen".toList)] none false,
              cr "red" [(0, "sim".toList), (0, "prep1".toList)] none true, cr "post" [(0, "red".toList)] none false,
              cr "prep0" [] none false, cr "prep1" [(0, "prep0".toList)] none false],
    globals := [] }

example : validate Gen.C11.convTable Gen.C11.componentSchema mapReduce = [] := by decide +kernel
example : ids (expandDoc mapReduce) =
    [(0, "gen0".toList), (0, "gen1".toList), (0, "sim0".toList), (0, "sim1".toList), (0, "red".toList),
     (0, "post".toList), (0, "prep0".toList), (0, "prep1".toList)] := by decide +kernel
example : edges (expandDoc mapReduce) =
    [((0, "gen0".toList), (0, "sim0".toList)), ((0, "gen1".toList), (0, "sim1".toList)),
     ((0, "sim0".toList), (0, "red".toList)), ((0, "sim1".toList), (0, "red".toList)),
     ((0, "prep1".toList), (0, "red".toList)), ((0, "red".toList), (0, "post".toList)),
     ((0, "prep0".toList), (0, "prep1".toList))] := by decide +kernel
example : placeholders mapReduce = [] := by decide +kernel

/-- the single fault "`gen` consumes `red`": the cycle passes through the aggregating component -/
private def mapReduceCycle : Doc :=
  { mapReduce with comps := cr "gen" [(0, "red".toList)] (some 2) false :: mapReduce.comps.drop 1 }

example : cyclicExpanded mapReduceCycle :=
  ⟨(0, "red".toList), .step (b := (0, "gen0".toList)) (by decide +kernel)
    (.step (b := (0, "sim0".toList)) (by decide +kernel) (.edge (by decide +kernel)))⟩
example : validate Gen.C11.convTable Gen.C11.componentSchema mapReduceCycle = [Err.cycle] := by decide +kernel

/-- a hand-written `gen1` next to the replicated `gen`; a third source with another count feeding `red` -/
example : duplicateExpanded { mapReduce with comps := mapReduce.comps ++ [cr "gen1" [] none false] } := by
  unfold duplicateExpanded; decide +kernel
example : validate Gen.C11.convTable Gen.C11.componentSchema
    { mapReduce with comps := mapReduce.comps ++ [cr "gen1" [] none false] }
    = [Err.duplicateAfterReplication (0, "gen1".toList)] := by decide +kernel
example : inconsistentReplicate
    { comps := [cr "ga" [] (some 2) false, cr "gb" [] (some 3) false,
                cr "red" [(0, "ga".toList), (0, "gb".toList)] none true], globals := [] } :=
  ⟨cr "red" [(0, "ga".toList), (0, "gb".toList)] none true, .tail _ (.tail _ (.head _)), by decide +kernel⟩

private def withOpts (o : Val) : Doc :=
  { comps := [{ (c 0 "src" [] [] []) with opts := o }], globals := [] }

private def smallSchema : Schema :=
  .dict [("workflowAttributes".toList, false, .dict [("restartHookOn".toList, false, .many (.ty [.str]))]),
         ("resourceRequest".toList, false,
            .dict [("numberThreads".toList, false, .or [.ty [.int], .pred .isVarReference])])]

example : unknownKey [] smallSchema
    (withOpts (.dict [("workflowAttributes".toList, .dict [("restart-hook-on".toList, .list [])])])) := by
  refine ⟨_, .head _, fun o ho => ?_⟩
  obtain ⟨v', rfl⟩ := convert_treeAt (p := [_, _]) ho
  exact unknownKey_treeAt v' (by decide +kernel)

example : wrongType [] smallSchema
    (withOpts (.dict [("resourceRequest".toList, .dict [("numberThreads".toList, .list [.str "zzz".toList])])])) := by
  refine ⟨_, .head _, fun o ho => ?_⟩
  cases ho
  exact .deeper (.tail _ (.head _)) (lookup_head ..) (fun h => by cases h)
    (.deeper (.head _) (lookup_head ..) (fun h => by cases h) (.here rfl))

/-- the same two faults against the schema and conversion table of the source (here and below the string literals
are turned into lists of characters before the kernel evaluates: it is slow at decoding them) -/
example : (validate Gen.C11.convTable Gen.C11.componentSchema
    (withOpts (.dict [("workflowAttributes".toList, .dict [("restart-hook-on".toList, .list [])])]))).isEmpty = false := by
  unfold Gen.C11.convTable Gen.C11.componentSchema withOpts c
  simp -index only [String.toList_ofList]
  decide +kernel
example : (validate Gen.C11.convTable Gen.C11.componentSchema
    (withOpts (.dict [("resourceRequest".toList, .dict [("numberThreads".toList, .list [.str "zzz".toList])])]))).isEmpty
    = false := by
  unfold Gen.C11.convTable Gen.C11.componentSchema withOpts c
  simp -index only [String.toList_ofList]
  decide +kernel

/-! ### floats for integer options -/

private def rrOpts (key : String) (v : Val) : Val := .dict [("resourceRequest".toList, .dict [(key.toList, v)])]

/-- `numberProcesses: 2.5` and `gpus: 3.0` are instances of the fault class, and rejected; `numberProcesses: 2`,
`walltime: 2.5` and `memory: 2.5` load -/
example : floatMistyped Gen.C11.componentSchema (withOpts (rrOpts "numberProcesses" (.float 2 true))) := by
  unfold Gen.C11.componentSchema withOpts rrOpts c
  simp -index only [String.toList_ofList]
  exact ⟨_, .head _, floatAt_treeAt [_, _] _ _ 2 true rfl rfl⟩
example : validate Gen.C11.convTable Gen.C11.componentSchema (withOpts (rrOpts "numberProcesses" (.float 2 true)))
    = [Err.option (0, "src".toList) .valueInvalid] := by
  unfold Gen.C11.convTable Gen.C11.componentSchema withOpts rrOpts c
  simp -index only [String.toList_ofList]
  decide +kernel
example : validate Gen.C11.convTable Gen.C11.componentSchema (withOpts (rrOpts "gpus" (.float 3 false)))
    = [Err.option (0, "src".toList) .valueInvalid] := by
  unfold Gen.C11.convTable Gen.C11.componentSchema withOpts rrOpts c
  simp -index only [String.toList_ofList]
  decide +kernel
example : validate Gen.C11.convTable Gen.C11.componentSchema (withOpts (rrOpts "numberProcesses" (.int 2))) = [] := by
  unfold Gen.C11.convTable Gen.C11.componentSchema withOpts rrOpts c
  simp -index only [String.toList_ofList]
  decide +kernel
example : validate Gen.C11.convTable Gen.C11.componentSchema (withOpts (rrOpts "memory" (.float 2 true))) = [] := by
  unfold Gen.C11.convTable Gen.C11.componentSchema withOpts rrOpts c
  simp -index only [String.toList_ofList]
  decide +kernel
example : validate Gen.C11.convTable Gen.C11.componentSchema
    (withOpts (.dict [("resourceManager".toList, .dict [("config".toList, .dict [("walltime".toList, .float 2 true)])])]))
    = [] := by
  unfold Gen.C11.convTable Gen.C11.componentSchema withOpts c
  simp -index only [String.toList_ofList]
  decide +kernel

/-! ### a package with a DoWhile document -/

private def tc (stage : Nat) (name : String) (refs : List Id) (uses : List S) : TComp :=
  { stage := stage, name := name.toList, refs := refs, opts := .dict [], vars := [], uses := uses }

/-- `dummy` (stage 0) feeds the loop imported at stage 1: `add` reads the input binding `number` (bound to `dummy`,
loop-bound to `fake`), `fake` reads `add`, `stop` (document stage 1) reads `fake` and produces the condition;
`report` (stage 3) consumes `add` and `stop` through their placeholders -/
private def loopPkg (loopBinding : Id) : Package :=
  { main := { comps := [c 0 "dummy" [] [] [], c 3 "report" [(1, "add".toList), (2, "stop".toList)] [] []],
              globals := [("g".toList, [])] },
    loops := [{ stage := 1, name := "looper".toList, inputs := ["number".toList],
                bindings := [("number".toList, (0, "dummy".toList))],
                loopBindings := [("number".toList, loopBinding)], cond := (1, "stop".toList),
                comps := [tc 0 "add" [(0, "number".toList)] ["loopIteration".toList],
                          tc 0 "fake" [(0, "add".toList)] ["g".toList],
                          tc 1 "stop" [(0, "fake".toList)] []] }] }

private def goodLoop : Package := loopPkg (0, "fake".toList)

example : validateP Gen.C11.convTable Gen.C11.componentSchema goodLoop = [] := by decide +kernel
example : ids (flatten goodLoop) =
    [(0, "dummy".toList), (3, "report".toList), (1, "0#add".toList), (1, "0#fake".toList), (2, "0#stop".toList)] := by
  decide +kernel
/-- iteration 1: `1#add` reads `0#fake` (the loop binding), `1#fake` reads `1#add` -/
example : (inst (goodLoop.loops.head!) 1).map (fun c => (c.id, c.refs)) =
    [((1, "1#add".toList), [(1, "0#fake".toList)]), ((1, "1#fake".toList), [(1, "1#add".toList)]),
     ((2, "1#stop".toList), [(1, "1#fake".toList)])] := by decide +kernel
/-- the single faults "the loop binding names a component that does not exist / of a stage the loop does not
have / outside the loop" are rejected when the package is loaded -/
example : danglingLoopBinding (loopPkg (0, "fak".toList)) :=
  ⟨_, .head _, _, .head _, by decide +kernel⟩
example : validateP Gen.C11.convTable Gen.C11.componentSchema (loopPkg (0, "fak".toList))
    = [.loop (1, "looper".toList) (.loopBindingUnknown "number".toList (0, "fak".toList))] := by decide +kernel
example : (validateP Gen.C11.convTable Gen.C11.componentSchema (loopPkg (2, "fake".toList))).isEmpty = false := by
  decide +kernel
example : (validateP Gen.C11.convTable Gen.C11.componentSchema (loopPkg (2, "report".toList))).isEmpty = false := by
  decide +kernel
/-- … while the references of iteration 1 of such a package would dangle: `1#add` would read `0#fak` -/
example : (inst ((loopPkg (0, "fak".toList)).loops.head!) 1).all
    (fun c => c.refs.all (refResolves (unrolled (loopPkg (0, "fak".toList)) (loopPkg (0, "fak".toList)).loops.head! 1)))
    = false := by decide +kernel
/-- the single fault "`dummy`, the source of the input binding, consumes the looped `add`": a cycle through the
placeholder `stage1.add`, reported by the cycle check -/
example : validateP Gen.C11.convTable Gen.C11.componentSchema
    { goodLoop with main := { goodLoop.main with comps :=
        [c 0 "dummy" [(1, "add".toList)] [] [], c 3 "report" [(1, "add".toList), (2, "stop".toList)] [] []] } }
    = [.doc .cycle] := by decide +kernel
/-- a dangling condition, a dangling reference of a looped component -/
example : danglingCondition { goodLoop with loops := goodLoop.loops.map (fun l => { l with cond := (0, "stop".toList) }) } :=
  ⟨_, .head _, by decide +kernel⟩
example : (validateP Gen.C11.convTable Gen.C11.componentSchema
    { goodLoop with loops := goodLoop.loops.map (fun l =>
        { l with comps := l.comps ++ [tc 1 "extra" [(0, "ghost".toList)] []] }) }).isEmpty = false := by decide +kernel

/-! ### the importing entry as the target of a reference -/

/-- `report` written as "consume the loop": it references the entry `stage1.looper` instead of a looped component -/
private def entryRef : Package :=
  { goodLoop with main := { goodLoop.main with comps :=
      [c 0 "dummy" [] [] [], c 3 "report" [(1, "looper".toList)] [] []] } }

example : referenceToImportEntry entryRef :=
  ⟨_, .tail _ (.head _), _, .head _, by decide +kernel⟩
example : validateP Gen.C11.convTable Gen.C11.componentSchema entryRef
    = [.doc (.unknownReference (3, "report".toList) (1, "looper".toList))] := by decide +kernel
/-- the input binding `number` bound to the entry itself: `0#add` reads it, the reference is reported -/
example : (validateP Gen.C11.convTable Gen.C11.componentSchema
    { goodLoop with loops := goodLoop.loops.map (fun l =>
        { l with bindings := [("number".toList, (1, "looper".toList))] }) }).isEmpty = false := by decide +kernel

end St4sd.C11
