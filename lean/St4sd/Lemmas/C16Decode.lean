import St4sd.Model.Hash
import St4sd.Lemmas.Str
/-!
C16: the separator-less buffer of `serialize` can be cut back: at a key word that does not occur early in the value
before it (`NoEarly`), and the concatenation of file entries `<hash part>:<method>` into its entries — so equality of
the sorted buffers is equality of the sorted entry lists.
-/
namespace St4sd.C16
open St4sd.Str St4sd.Hash

/-! ### at a key word -/

/-- `s.partition(key)`: the text before the first occurrence of `key` and the text after it -/
def splitAtKey (key : S) : S → Option (S × S)
  | [] => if key.isEmpty then some ([], []) else none
  | c :: s =>
    if key.isPrefixOf (c :: s) then some ([], (c :: s).drop key.length)
    else (splitAtKey key s).map (fun p => (c :: p.1, p.2))

/-- the key word does not occur in `v ++ key` before the end of `v` (neither inside `v` nor overlapping its end) -/
def NoEarly (key v : S) : Prop := splitAtKey key (v ++ key) = some (v, [])

instance (key v : S) : Decidable (NoEarly key v) := by unfold NoEarly; infer_instance

theorem isPrefixOf_append_of_le (key a rest : S) (h : key.length ≤ a.length) :
    key.isPrefixOf (a ++ rest) = key.isPrefixOf a := by
  rw [Bool.eq_iff_iff, List.isPrefixOf_iff_prefix, List.isPrefixOf_iff_prefix]
  exact ⟨fun hp => List.prefix_of_prefix_length_le hp (List.prefix_append a rest) h,
    fun hp => hp.trans (List.prefix_append a rest)⟩

theorem splitAtKey_append (key v rest : S) (h : NoEarly key v) :
    splitAtKey key (v ++ key ++ rest) = some (v, rest) := by
  unfold NoEarly at h
  induction v with
  | nil => cases key <;> cases rest <;> simp [splitAtKey]
  | cons c v ih =>
    -- `c :: v ++ key` is long enough to decide whether the key starts at `c`, with or without `rest` behind it
    have hp := isPrefixOf_append_of_le key (c :: (v ++ key)) rest (by simp; omega)
    simp only [List.cons_append, splitAtKey] at h hp ⊢
    rw [hp]
    split at h
    · cases h
    · obtain ⟨⟨a, b⟩, hs, hab⟩ := Option.map_eq_some_iff.mp h
      obtain ⟨rfl, rfl⟩ : a = v ∧ b = [] := by simpa using hab
      rw [if_neg ‹_›, ih hs]; rfl

theorem append_key_inj (key v v' rest rest' : S) (h : NoEarly key v) (h' : NoEarly key v')
    (e : v ++ key ++ rest = v' ++ key ++ rest') : v = v' ∧ rest = rest' := by
  have a := splitAtKey_append key v rest h
  have b := splitAtKey_append key v' rest' h'
  rw [e, b] at a
  simpa [eq_comm] using a

/-! ### the file entries -/

/-- shape of the entries the code produces: `L ++ ":" ++ method` with a known method and a non-empty `L`
without `:` that does not start with `o` (a hex digest, or `fuzzy#<digest>#<file>`) -/
def goodEntry (e : S) : Bool :=
  match splitFirst ':' e with
  | some (l, m) => methods.contains m && !l.isEmpty && l.head? != some 'o'
  | none => false

theorem colon_cancel (l₁ l₂ r₁ r₂ : S) (h₁ : ':' ∉ l₁) (h₂ : ':' ∉ l₂) (e : l₁ ++ ':' :: r₁ = l₂ ++ ':' :: r₂) :
    l₁ = l₂ ∧ r₁ = r₂ := by
  have a := splitFirst_append ':' l₁ r₁ h₁
  rw [e, splitFirst_append ':' l₂ r₂ h₂] at a
  simpa [eq_comm] using a

/-- the only method that is a proper prefix of another one is continued by an `o` (`copy`/`copyout`) -/
theorem method_prefix : ∀ m₁ ∈ methods, ∀ m₂ ∈ methods, m₁.isPrefixOf m₂ = true →
    m₁ = m₂ ∨ (m₂.drop m₁.length).head? = some 'o' := by
  unfold methods
  simp -index only [String.toList_ofList]
  decide +kernel

theorem goodEntry_spec (e : S) (h : goodEntry e = true) :
    ∃ l m, e = l ++ ':' :: m ∧ ':' ∉ l ∧ m ∈ methods ∧ l ≠ [] ∧ l.head? ≠ some 'o' := by
  unfold goodEntry at h
  cases hs : splitFirst ':' e with
  | none => simp [hs] at h
  | some p =>
    obtain ⟨l, m⟩ := p
    simp only [hs, Bool.and_eq_true, List.contains_iff_mem, Bool.not_eq_true', bne_iff_ne, ne_eq] at h
    obtain ⟨h1, h2⟩ := splitFirst_some hs
    exact ⟨l, m, h1, h2, h.1.1, by simpa using h.1.2, h.2⟩

theorem concat_head (t : List S) (h : ∀ e ∈ t, goodEntry e = true) : (concat t).head? ≠ some 'o' := by
  cases t with
  | nil => simp [concat]
  | cons e t =>
    obtain ⟨l, m, rfl, _, _, hl, ho⟩ := goodEntry_spec e (h e (List.mem_cons_self ..))
    cases l with
    | nil => exact absurd rfl hl
    | cons c l => simpa [concat] using ho

theorem concat_ne_nil (e : S) (t : List S) (h : goodEntry e = true) : concat (e :: t) ≠ [] := by
  obtain ⟨l, m, rfl, _⟩ := goodEntry_spec e h
  simp [concat]

theorem method_not_continued {m₁ m₂ a c c' : S} (hm₁ : m₁ ∈ methods) (hm₂ : m₂ ∈ methods) (hc : c.head? ≠ some 'o')
    (ha : m₂ = m₁ ++ a) (e : c = a ++ c') : a = [] := by
  rcases method_prefix m₁ hm₁ m₂ hm₂ (by simp [ha]) with heq | ho
  · exact List.self_eq_append_right.mp (heq.trans ha)
  · rw [ha, List.drop_left] at ho
    cases a with
    | nil => rfl
    | cons x a => exact absurd (e ▸ ho) hc

theorem files_decodable (l₁ l₂ : List S) (h₁ : ∀ e ∈ l₁, goodEntry e = true) (h₂ : ∀ e ∈ l₂, goodEntry e = true)
    (e : concat l₁ = concat l₂) : l₁ = l₂ := by
  induction l₁ generalizing l₂ with
  | nil =>
    cases l₂ with
    | nil => rfl
    | cons y ys => exact absurd e.symm (concat_ne_nil y ys (h₂ y (List.mem_cons_self ..)))
  | cons x xs ih =>
    cases l₂ with
    | nil => exact absurd e (concat_ne_nil x xs (h₁ x (List.mem_cons_self ..)))
    | cons y ys =>
      obtain ⟨hx, hxs⟩ := List.forall_mem_cons.mp h₁
      obtain ⟨hy, hys⟩ := List.forall_mem_cons.mp h₂
      obtain ⟨lx, mx, rfl, cx, hmx, _⟩ := goodEntry_spec x hx
      obtain ⟨ly, my, rfl, cy, hmy, _⟩ := goodEntry_spec y hy
      simp only [concat, List.append_assoc, List.cons_append] at e
      obtain ⟨rfl, hr⟩ := colon_cancel _ _ _ _ cx cy e
      -- one method is the other followed by `a`, and `a` is empty
      obtain ⟨rfl, hc⟩ : mx = my ∧ concat xs = concat ys := by
        rcases List.append_eq_append_iff.mp hr with ⟨a, ha, hc⟩ | ⟨a, ha, hc⟩
        · obtain rfl := method_not_continued hmx hmy (concat_head xs hxs) ha hc
          simpa using And.intro ha.symm hc
        · obtain rfl := method_not_continued hmy hmx (concat_head ys hys) ha hc
          simpa using And.intro ha hc.symm
      rw [ih ys hxs hys hc]
end St4sd.C16
