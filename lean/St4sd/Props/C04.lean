import St4sd.Lemmas.C04Flatten
import St4sd.Lemmas.C04Interp
import St4sd.Lemmas.C04Conf
import St4sd.Model.TreeArray
import St4sd.Lemmas.C04ValEq
/-!
# C04 — Resolved component configuration follows the documented layering order

Model: `Model/Tree.lean` (`override`), `Model/Interp.lean` (`interp`, `fillIn`), `Model/Convert.lean`
(`convert`), `Model/Resolve.lean` (`varsOf`, `layers`, `resolve`, `patchUser`, `layerUserFiles`; `Flags`, `varsOfF`,
`layersF`, `resolveF` for every combination of the keyword arguments of `get_component_configuration`),
`Model/TreeConf.lean` (`confUser`), `Model/TreeFlatten.lean` (`flattenRaw`, `flatten`), `Model/TreeArray.lean`
(`resolveSegs`).

Every layering is compared with a specification that scans the layers from the highest priority down: `specLookup`
for options (`override_object`: a `None` never overrides), `firstSome` for variables (`dict.update`: it does).
-/
namespace St4sd.C04
open St4sd.Str St4sd.Tree

/-! ## Options: the layers are applied in the documented total order -/

/-- `p` is a *leaf route* of `v`: every inner node on the route is a dictionary (or a value the code
treats as an empty dictionary / as absent), and the node at the end, if present, is not a dictionary. -/
def leafAt : List S → Val → Bool
  | [], v => !isDict v
  | k :: ks, .dict kvs => match get kvs k with
    | none => true
    | some v => leafAt ks v
  | _ :: _, v => falsy v

/-- priority combination of what a lower and a higher layer say about one leaf: the higher layer wins
unless it is silent or says `None`; `None` survives only if nothing below defines the leaf. -/
def pick (lo hi : Option Val) : Option Val :=
  match hi with
  | none => lo
  | some .null => (match lo with | some w => some w | none => some .null)
  | some v => some v

/-- the specification: scan the layers from the highest priority down -/
def specLookup : List (Option Val) → Option Val
  | [] => none
  | hi :: lower => pick (specLookup lower) hi

theorem pick_none_left (x : Option Val) : pick none x = x := by
  cases x with
  | none => rfl
  | some w => cases w <;> rfl

theorem pick_none_right (x : Option Val) : pick x none = x := rfl

private theorem falsy_dict_lookup (kvs : Fields) (h : falsy (.dict kvs) = true) (k : S) : get kvs k = none := by
  cases kvs with
  | nil => rfl
  | cons h t => simp [falsy] at h

/-- Lookup of a leaf route commutes with `override_object`. -/
theorem lookup_override (p : List S) : ∀ (a b : Val), leafAt p a = true → leafAt p b = true →
    lookupPath p (override a b) = pick (lookupPath p a) (lookupPath p b) ∧ leafAt p (override a b) = true := by
  induction p with
  | nil =>
    intro a b ha hb
    simp only [leafAt, Bool.not_eq_true'] at ha hb
    obtain ⟨h1, h2⟩ := override_leaf a b ha hb
    refine ⟨?_, by simp [leafAt, h2]⟩
    simp only [lookupPath, pick, h1]
    cases b with
    | dict _ => cases hb
    | _ => rfl
  | cons k ks ih =>
    intro a b ha hb
    cases a with
    | dict akvs =>
      cases b with
      | dict bkvs =>
        -- key by key (`get_override_dict`): both say something - descend; one is silent - the other one's subtree
        simp only [override, lookupPath, leafAt, get_override_dict] at ha hb ⊢
        cases hga : get akvs k <;> cases hgb : get bkvs k <;> simp only [hga, hgb] at ha hb
        · exact ⟨rfl, rfl⟩
        · exact ⟨(pick_none_left _).symm, hb⟩
        · exact ⟨rfl, ha⟩
        · exact ih _ _ ha hb
      | _ => exact ⟨rfl, ha⟩
    | _ =>
      -- a falsy non-dictionary below: `new` replaces it unless it is `None`
      cases b with
      | null => exact ⟨rfl, ha⟩
      | _ => exact ⟨(pick_none_left _).symm, hb⟩

/-- what a fold of a layering operation says about one key: the answers of the layers, combined from the last layer down
to the start (`ok`: what the operation needs of its arguments and passes on to its result) -/
private theorem foldl_layers {α β : Type} (op : α → α → α) (look : α → β) (comb : β → β → β) (ok : α → Prop)
    (hlook : ∀ a b, ok a → ok b → look (op a b) = comb (look b) (look a)) (hok : ∀ a b, ok a → ok b → ok (op a b)) :
    ∀ (fs : List α) (acc : α), ok acc → (∀ f ∈ fs, ok f) →
      look (fs.foldl op acc) = (fs.reverse.map look).foldr comb (look acc)
  | [], _, _, _ => rfl
  | f :: r, acc, hacc, hfs => by
    have hf := hfs f (.head _)
    rw [List.foldl_cons, foldl_layers op look comb ok hlook hok r _ (hok acc f hacc hf) fun g hg => hfs g (.tail _ hg),
      hlook acc f hacc hf, List.reverse_cons, List.map_append, List.foldr_append]
    rfl

private theorem specLookup_eq_foldr (l : List (Option Val)) :
    specLookup l = l.foldr (fun hi lo => pick lo hi) none := by
  induction l with
  | nil => rfl
  | cons hi lower ih => rw [specLookup, ih, List.foldr_cons]

private theorem layerAll_ok : ∀ (ls : List Val) (acc v : Val), layerAll acc ls = .ok v → v = ls.foldl override acc := by
  intro ls
  induction ls with
  | nil => intro acc v h; cases h; rfl
  | cons l r ih =>
    intro acc v h
    simp only [layerAll] at h
    split at h
    · cases h
    · exact ih _ _ h

theorem layerAll_eq_spec (ls : List Val) (kvs : Fields) (p : List S) (v : Val) (hmem : .dict kvs ∈ ls)
    (hleaf : ∀ l ∈ ls, leafAt p l = true) (hok : layerAll (.dict []) ls = .ok v) :
    lookupPath p v = specLookup (ls.reverse.map (lookupPath p)) := by
  cases p with
  | nil => exact absurd (hleaf _ hmem) (by simp [leafAt, isDict])
  | cons k ks =>
    rw [layerAll_ok _ _ _ hok, specLookup_eq_foldr]
    exact foldl_layers override (lookupPath (k :: ks)) (fun hi lo => pick lo hi) (leafAt (k :: ks) · = true)
      (fun a b ha hb => (lookup_override _ a b ha hb).1) (fun a b ha hb => (lookup_override _ a b ha hb).2) ls _ rfl hleaf

/-- **resolve_eq_spec** (options).  For every description, platform, component and every leaf route `p`
of the layers: the value found at `p` in the layered configuration is the one of the highest-priority layer
that defines it as something other than `None`, in the order
built-in defaults < default global < default stage < platform global < platform stage < component <
component override for the platform; `None` only if some layer says `None` and none says more; absent if
no layer mentions it. -/
theorem resolve_eq_spec (d : Desc) (P : S) (c : Comp) (p : List S) (v : Val)
    (hleaf : ∀ l ∈ layers d P c, leafAt p l = true)
    (hok : layerAll (.dict []) (layers d P c) = .ok v) :
    lookupPath p v = specLookup ((layers d P c).reverse.map (lookupPath p)) :=
  layerAll_eq_spec _ c.body p v (by simp [layers]) hleaf hok

/-- the explicit list of layers (lowest priority first) that `resolve_eq_spec` talks about -/
theorem layers_order (d : Desc) (P : S) (c : Comp) :
    ∃ tail, layers d P c =
      [St4sd.Gen.C04.defaultComponent, bpGlobal d defaultName, bpStage d defaultName c.stage,
       bpGlobal d P, bpStage d P c.stage, .dict c.body] ++ tail ∧
      (tail = [] ∨ ∃ o, ovrOf c P = some o ∧ tail = [o]) := by
  unfold layers
  cases h : ovrOf c P with
  | none => exact ⟨[], rfl, Or.inl rfl⟩
  | some o =>
    by_cases hf : falsy o = true
    · exact ⟨[], by simp [hf], Or.inl rfl⟩
    · exact ⟨[o], by simp [hf], Or.inr ⟨o, rfl, rfl⟩⟩

/-- **resolve_eq_spec for every variant** (`inject_missing_fields` on or off): without the built-in
defaults the same order holds on the remaining layers
default global < default stage < platform global < platform stage < component < component override. -/
theorem resolveF_eq_spec (d : Desc) (P : S) (c : Comp) (inject : Bool) (p : List S) (v : Val)
    (hleaf : ∀ l ∈ layersF d P c inject, leafAt p l = true)
    (hok : layerAll (.dict []) (layersF d P c inject) = .ok v) :
    lookupPath p v = specLookup ((layersF d P c inject).reverse.map (lookupPath p)) :=
  layerAll_eq_spec _ c.body p v (by cases inject <;> simp [layersF, layers]) hleaf hok

/-- the explicit list of layers without the built-in defaults -/
theorem layersF_order (d : Desc) (P : S) (c : Comp) :
    layersF d P c true = layers d P c ∧
    ∃ tail, layersF d P c false =
      [bpGlobal d defaultName, bpStage d defaultName c.stage, bpGlobal d P, bpStage d P c.stage, .dict c.body] ++ tail ∧
      (tail = [] ∨ ∃ o, ovrOf c P = some o ∧ tail = [o]) := by
  refine ⟨rfl, ?_⟩
  obtain ⟨tail, h1, h2⟩ := layers_order d P c
  exact ⟨tail, by simp [layersF, h1], h2⟩

/-- what a `raw=True` query returns: the layered options (never interpolated, never converted) with the
selected variables inserted -/
theorem raw_result (d : Desc) (P : S) (c : Comp) (f : Flags) (fuel : Nat) (v : Val) (hraw : f.raw = true)
    (h : resolveCompF d P c f fuel = .ok v) :
    ∃ kvs, layerAll (.dict []) (layersF d P c f.inject) = .ok (.dict kvs) ∧
      v = .dict (set kvs "variables".toList (.dict (varsOfF d P c f.incl))) := by
  simp only [resolveCompF, hraw, if_true] at h
  split at h
  · cases h
  · split at h
    · cases h
    · next ret hl =>
      split at h
      · cases h
      · split at h <;> cases h
        exact ⟨_, hl, rfl⟩

/-- first layer (highest priority first) that defines the variable; `dict.update`: `None` counts -/
def firstSome : List (Option Val) → Option Val
  | [] => none
  | some v :: _ => some v
  | none :: r => firstSome r

/-- a list of answers, highest layer first, is one chain of `Option.or`; so is what `dict.update` leaves
(`get_update`), and associativity identifies the two whatever the nesting of the updates -/
private theorem firstSome_cons (o : Option Val) (r : List (Option Val)) : firstSome (o :: r) = o.or (firstSome r) := by
  cases o <;> rfl

private theorem firstSome_eq_foldr (l : List (Option Val)) : firstSome l = l.foldr Option.or none := by
  induction l with
  | nil => rfl
  | cons o r ih => rw [firstSome_cons, ih, List.foldr_cons]

/-- **variables_eq_spec**: a variable of a component on platform `P ≠ default` comes from the first of
component override for `P`, component, platform stage, platform global, default stage, default global
that defines it. -/
theorem variables_eq_spec (d : Desc) (P : S) (c : Comp) (x : S) (hP : P ≠ defaultName) :
    get (varsOf d P c) x =
      firstSome [get (ovrVars c P) x, get (compVars c) x, get (stageVars d P c.stage) x, get (globalVars d P) x,
                 get (stageVars d defaultName c.stage) x, get (globalVars d defaultName) x] := by
  simp only [varsOf, hP, if_false, get_update, firstSome_cons, firstSome, Option.or_none]

/-- … and on the default platform from component override, component, default stage, default global -/
theorem variables_eq_spec_default (d : Desc) (c : Comp) (x : S) :
    get (varsOf d defaultName c) x =
      firstSome [get (ovrVars c defaultName) x, get (compVars c) x,
                 get (stageVars d defaultName c.stage) x, get (globalVars d defaultName) x] := by
  simp only [varsOf, if_true, get_update, firstSome_cons, firstSome, Option.or_none]

/-- **variables without the default scopes** (`include_default=False`, the variant used when an instance
description is written): only the component's override for the platform and the component itself define
variables, in this order; global / stage variables of any platform are not visible. -/
theorem variables_eq_spec_own (d : Desc) (P : S) (c : Comp) (x : S) :
    get (varsOfF d P c false) x = firstSome [get (ovrVars c P) x, get (compVars c) x] := by
  simp only [varsOfF, Bool.false_eq_true, if_false, get_update, firstSome_cons, firstSome, Option.or_none]

/-- with `include_default=True` the variables are the ones of `variables_eq_spec` -/
theorem varsOfF_incl (d : Desc) (P : S) (c : Comp) : varsOfF d P c true = varsOf d P c := rfl

/-! ### user-supplied variables: one layer between the platform's settings and the component -/

private theorem firstSome_append_or (a b : List (Option Val)) : firstSome (a ++ b) = (firstSome a).or (firstSome b) := by
  induction a with
  | nil => rfl
  | cons h t ih => rw [List.cons_append, firstSome_cons, firstSome_cons, ih, Option.or_assoc]

theorem firstSome_append (a b : List (Option Val)) :
    firstSome (a ++ b) = match firstSome a with | some v => some v | none => firstSome b := by
  rw [firstSome_append_or]
  cases firstSome a <;> rfl

/-- **user_variables_eq_spec**: after `_patch_in_variable_files` a variable of a component (stage below the
number of stages, platform `P ≠ default` of the description) comes from the first of: component override for
`P`, component, the USER's variables for the stage, the user's global variables, platform stage, platform
global, default stage, default global that defines it - user-supplied variables outrank every global and
stage setting of both platforms and are outranked by the component's own definition and its override. -/
theorem user_variables_eq_spec (d : Desc) (uv : UserVars) (n : Nat) (P : S) (c : Comp) (x : S)
    (hP : P ≠ defaultName) (hmem : P ∈ d.platforms) (hdef : defaultName ∈ d.platforms) (hi : c.stage < n) :
    get (varsOf (patchUser d uv n) P c) x =
      firstSome [get (ovrVars c P) x, get (compVars c) x, get (stageOf uv c.stage) x, get uv.global x,
                 get (stageVars d P c.stage) x, get (globalVars d P) x,
                 get (stageVars d defaultName c.stage) x, get (globalVars d defaultName) x] := by
  rw [variables_eq_spec _ P c x hP, stageVars_patchUser d uv n P hmem c.stage hi, globalVars_patchUser d uv n P hmem,
    stageVars_patchUser d uv n defaultName hdef c.stage hi, globalVars_patchUser d uv n defaultName hdef]
  simp only [get_update, userFor, stageOf, firstSome_cons, firstSome, Option.or_none, Option.or_assoc]
  -- the default stage section carries the user's variables too, below the ones that the platform's stage section has
  cases get ((lookupN uv.stages c.stage).getD []) x <;> cases get uv.global x <;> rfl

/-- … and on the default platform -/
theorem user_variables_eq_spec_default (d : Desc) (uv : UserVars) (n : Nat) (c : Comp) (x : S)
    (hdef : defaultName ∈ d.platforms) (hi : c.stage < n) :
    get (varsOf (patchUser d uv n) defaultName c) x =
      firstSome [get (ovrVars c defaultName) x, get (compVars c) x, get (stageOf uv c.stage) x, get uv.global x,
                 get (stageVars d defaultName c.stage) x, get (globalVars d defaultName) x] := by
  rw [variables_eq_spec_default, stageVars_patchUser d uv n defaultName hdef c.stage hi,
    globalVars_patchUser d uv n defaultName hdef]
  simp only [get_update, userFor, stageOf, firstSome_cons, firstSome, Option.or_none, Option.or_assoc]

/-- **user_files_eq_spec**: `layer_many_variable_files` layers any number of variable files scope by scope and
name by name: in the `global` scope and in every `stages[i]` scope a name has the value of the LAST file that
defines it in that scope - a later file only shadows the names it defines itself; a name that only an earlier
file defines (in a scope for which the later files have a section too) is kept. -/
theorem user_files_eq_spec (fs : List UserVars) (h : ∀ f ∈ fs, PlainUser f) (i : Nat) (x : S) :
    get (stageOf (layerUserFiles fs) i) x = firstSome (fs.reverse.map (fun f => get (stageOf f i) x)) ∧
    get (layerUserFiles fs).global x = firstSome (fs.reverse.map (fun f => get f.global x)) := by
  simp only [firstSome_eq_foldr]
  exact ⟨foldl_layers mergeUser (fun u => get (stageOf u i) x) Option.or PlainUser
      (fun a b ha hb => get_stageOf_mergeUser a b ha hb i x) plain_mergeUser fs ⟨[], []⟩ plainUser_empty h,
    foldl_layers mergeUser (fun u => get u.global x) Option.or PlainUser
      (fun a b ha hb => get_global_mergeUser a b ha hb x) plain_mergeUser fs ⟨[], []⟩ plainUser_empty h⟩

/-- **user_files_layering**: what the user-supplied layer (of `user_variables_eq_spec`) says about a name in
stage `i` when several files were given: the last file that defines it for the stage, otherwise the last file
that defines it globally. -/
theorem user_files_layering (fs : List UserVars) (h : ∀ f ∈ fs, PlainUser f) (i : Nat) (x : S) :
    get (userFor (layerUserFiles fs) i) x =
      firstSome (fs.reverse.map (fun f => get (stageOf f i) x) ++ fs.reverse.map (fun f => get f.global x)) := by
  rw [firstSome_append_or, ← (user_files_eq_spec fs h i x).1, ← (user_files_eq_spec fs h i x).2, userFor, get_update]
  rfl

private def fileA : UserVars :=
  { global := [("g1".toList, .str "A".toList), ("shared".toList, .str "A".toList)],
    stages := [(0, [("keep".toList, .str "A".toList), ("shadow".toList, .str "A".toList)]),
               (1, [("keep".toList, .str "A1".toList)])] }
private def fileB : UserVars :=
  { global := [("g2".toList, .str "B".toList), ("shared".toList, .str "B".toList)],
    stages := [(0, [("shadow".toList, .str "B".toList)])] }

private theorem plain_fileA : PlainUser fileA := plainUser_of_B fileA (by decide)

/-- the hypothesis of `user_files_eq_spec` is satisfiable by a file with two stage sections -/
example : PlainUser fileA := plain_fileA

/-- two files with a section for the SAME stage: the later one shadows `shadow` only, `keep` of the earlier
file survives; the sections of other stages and the global names of both files are all there -/
example :
    Tree.get (stageOf (layerUserFiles [fileA, fileB]) 0) "keep".toList = some (.str "A".toList) ∧
    Tree.get (stageOf (layerUserFiles [fileA, fileB]) 0) "shadow".toList = some (.str "B".toList) ∧
    Tree.get (stageOf (layerUserFiles [fileA, fileB]) 1) "keep".toList = some (.str "A1".toList) ∧
    Tree.get (layerUserFiles [fileA, fileB]).global "g1".toList = some (.str "A".toList) ∧
    Tree.get (layerUserFiles [fileA, fileB]).global "g2".toList = some (.str "B".toList) ∧
    Tree.get (layerUserFiles [fileA, fileB]).global "shared".toList = some (.str "B".toList) := by
  decide +kernel

/-! ### variable files in the INI flavour (`*.conf`: `DOSINIExperimentConfiguration._fetch_user_variables`) -/

/-- **stage_section_roundtrip**: the section-name → scope map of the `.conf` loader sends every spelling of
`stage` (any letter case) followed by the decimal digits of `n` to stage `n` - for EVERY `n`, whatever its
number of digits. -/
theorem stage_section_roundtrip (p : S) (n : Nat) (hp : lower p = stageWord) :
    stageSectionIndex (p ++ natToDigits n) = some n := by
  have hlen : p.length = 5 := by simpa [lower, stageWord] using congrArg List.length hp
  have hpre : startsWith (lower (p ++ natToDigits n)) stageWord = true := by
    rw [lower_append, hp]
    simp [startsWith]
  have hdrop : (p ++ natToDigits n).drop 5 = natToDigits n := by
    rw [← hlen]; simp
  unfold stageSectionIndex
  rw [hpre, hdrop]
  simp [confInt_digits]

/-- **two_digit_stage_sections**: `[STAGE<n>]` is the scope of stage `n` and of no other stage: sections of
different stages (`STAGE1`, `STAGE10`, `STAGE11`, `STAGE100`, …) never share a scope. -/
theorem two_digit_stage_sections (m n : Nat) :
    stageSectionIndex (stageSectionName n) = some n ∧
    (stageSectionIndex (stageSectionName m) = stageSectionIndex (stageSectionName n) → m = n) := by
  have h : ∀ k, stageSectionIndex (stageSectionName k) = some k :=
    fun k => stage_section_roundtrip "STAGE".toList k (by decide +kernel)
  refine ⟨h n, ?_⟩
  intro e
  rw [h m, h n] at e
  exact Option.some.inj e

/-- **conf_file_scopes**: a `.conf` variable file all of whose sections other than `[GLOBAL]` are stage
sections is accepted; its `global` scope is `[GLOBAL]` and its scope for stage `i` is the LAST section that
names stage `i` - nothing else. -/
theorem conf_file_scopes (cf : ConfFile)
    (hall : ∀ e ∈ confStageSections cf, (stageSectionIndex e.1).isSome = true) :
    ∃ u, confUser cf = some u ∧ u.global = confGlobal cf ∧
      ∀ i, lookupN u.stages i = sectionFor (confStageSections cf) i := by
  obtain ⟨st, hst, hlook⟩ := confStagesAux_spec (confStageSections cf) [] hall
  refine ⟨⟨confGlobal cf, st⟩, ?_, rfl, ?_⟩
  · simp only [confUser, hst]
  · exact fun i => (hlook i).trans Option.or_none

/-- **conf_section_reaches_its_stage**: in a `.conf` file whose stage sections name pairwise different
stages, the options of the section spelled `stage<n>` (any letter case, any number of digits) are exactly the
user's variables for stage `n`. -/
theorem conf_section_reaches_its_stage (cf : ConfFile)
    (hall : ∀ e ∈ confStageSections cf, (stageSectionIndex e.1).isSome = true)
    (hnd : ((confStageSections cf).map (fun e => stageSectionIndex e.1)).Nodup)
    (p : S) (n : Nat) (f : Fields) (hp : lower p = stageWord)
    (hmem : (p ++ natToDigits n, f) ∈ confStageSections cf) :
    ∃ u, confUser cf = some u ∧ stageOf u n = f := by
  obtain ⟨u, hu, _, hst⟩ := conf_file_scopes cf hall
  refine ⟨u, hu, ?_⟩
  unfold stageOf
  rw [hst n, sectionFor_of_mem _ hnd _ f n hmem (stage_section_roundtrip p n hp)]
  rfl

/-- **conf_user_variable_layering**: the user-supplied layer of `user_variables_eq_spec_default` when the
variables come from such a `.conf` file: a variable of a component of stage `n` is looked up in the
component's override and own variables, then in `[stage<n>]`, then in `[GLOBAL]`, then in the stage and
global settings of the package. -/
theorem conf_user_variable_layering (d : Desc) (cf : ConfFile) (N : Nat) (c : Comp) (x : S)
    (hdef : defaultName ∈ d.platforms) (hi : c.stage < N)
    (hall : ∀ e ∈ confStageSections cf, (stageSectionIndex e.1).isSome = true)
    (hnd : ((confStageSections cf).map (fun e => stageSectionIndex e.1)).Nodup)
    (p : S) (f : Fields) (hp : lower p = stageWord)
    (hmem : (p ++ natToDigits c.stage, f) ∈ confStageSections cf) :
    ∃ u, confUser cf = some u ∧
      get (varsOf (patchUser d u N) defaultName c) x =
        firstSome [get (ovrVars c defaultName) x, get (compVars c) x, get f x, get (confGlobal cf) x,
                   get (stageVars d defaultName c.stage) x, get (globalVars d defaultName) x] := by
  obtain ⟨u, hu, hs⟩ := conf_section_reaches_its_stage cf hall hnd p c.stage f hp hmem
  exact ⟨u, hu, by rw [user_variables_eq_spec_default d u N c x hdef hi, hs, confUser_global hu]⟩

private def confFile12 : ConfFile :=
  [("GLOBAL".toList, [("tag".toList, .str "user-global".toList)]),
   ("STAGE1".toList, [("x".toList, .str "one".toList)]),
   ("stage10".toList, [("x".toList, .str "ten".toList)]),
   ("Stage11".toList, [("x".toList, .str "eleven".toList)])]

/-- the hypotheses of `conf_section_reaches_its_stage` are satisfiable by a file with `[STAGE1]`, `[stage10]`
and `[Stage11]`; each section is the scope of its own stage and stage 1 keeps its own section -/
example :
    (∀ e ∈ confStageSections confFile12, (stageSectionIndex e.1).isSome = true) ∧
    ((confStageSections confFile12).map (fun e => stageSectionIndex e.1)).Nodup ∧
    (match confUser confFile12 with
     | some u => (Tree.get (stageOf u 1) "x".toList, Tree.get (stageOf u 10) "x".toList,
                  Tree.get (stageOf u 11) "x".toList, Tree.get u.global "tag".toList)
     | none => (none, none, none, none)) =
      (some (.str "one".toList), some (.str "ten".toList), some (.str "eleven".toList),
       some (.str "user-global".toList)) := by
  decide +kernel

/-- a section that is neither `[GLOBAL]` nor a stage section makes the loader fail -/
example : confUser [("STAGEX".toList, [])] = none ∧ confUser [("global".toList, [])] = none := by
  refine ⟨by rfl, by rfl⟩

/-- **platform isolation**, for every combination of the keyword arguments of
`get_component_configuration`: the resolution for `P` reads the description only through the platform
list, the blueprints and variables of `default` and of `P`, and the component itself - whatever other
platforms define cannot influence it. -/
theorem platform_isolation_flags (d d' : Desc) (P : S) (c : Comp) (f : Flags) (fuel : Nat)
    (hpl : d'.platforms.contains P = d.platforms.contains P)
    (h1 : bpGlobal d' defaultName = bpGlobal d defaultName)
    (h2 : bpStage d' defaultName c.stage = bpStage d defaultName c.stage)
    (h3 : bpGlobal d' P = bpGlobal d P) (h4 : bpStage d' P c.stage = bpStage d P c.stage)
    (h5 : globalVars d' defaultName = globalVars d defaultName)
    (h6 : stageVars d' defaultName c.stage = stageVars d defaultName c.stage)
    (h7 : globalVars d' P = globalVars d P) (h8 : stageVars d' P c.stage = stageVars d P c.stage) :
    resolveCompF d' P c f fuel = resolveCompF d P c f fuel := by
  unfold resolveCompF layersF varsOfF layers varsOf
  rw [hpl, h1, h2, h3, h4, h5, h6, h7, h8]

/-- **platform isolation** for the observed call -/
theorem platform_isolation (d d' : Desc) (P : S) (c : Comp) (prim : Bool) (fuel : Nat)
    (hpl : d'.platforms.contains P = d.platforms.contains P)
    (h1 : bpGlobal d' defaultName = bpGlobal d defaultName)
    (h2 : bpStage d' defaultName c.stage = bpStage d defaultName c.stage)
    (h3 : bpGlobal d' P = bpGlobal d P) (h4 : bpStage d' P c.stage = bpStage d P c.stage)
    (h5 : globalVars d' defaultName = globalVars d defaultName)
    (h6 : stageVars d' defaultName c.stage = stageVars d defaultName c.stage)
    (h7 : globalVars d' P = globalVars d P) (h8 : stageVars d' P c.stage = stageVars d P c.stage) :
    resolveComp d' P c prim fuel = resolveComp d P c prim fuel :=
  platform_isolation_flags d d' P c (Flags.std prim) fuel hpl h1 h2 h3 h4 h5 h6 h7 h8

/-- **sibling isolation**: the resolution of a component, for every combination of the keyword
arguments, is a function of the description's platforms, blueprints and variables and of the component's
OWN body: whatever the other components of the stage define (and whichever of them were resolved or
flattened before) cannot influence it. -/
theorem sibling_isolation (d d' : Desc) (P : S) (c : Comp) (f : Flags) (fuel : Nat)
    (h1 : d'.platforms = d.platforms) (h2 : d'.blueprint = d.blueprint) (h3 : d'.variables = d.variables) :
    resolveCompF d' P c f fuel = resolveCompF d P c f fuel :=
  resolveCompF_congr h1 h2 h3 P c f fuel

/-- A successfully interpolated string (non-primitive graph) contains no
reference at all any more: neither to a defined variable nor to an undefined one. -/
theorem interp_fixpoint (ctx : Fields) : ∀ (f : Nat) (s v : S),
    interp f ctx false [] s = .ok v → findRef v = none :=
  fun f s v h => (interp_ok_finished ctx f s v h).1

/-- **unknown_variable_is_error**: if the first reference in a string names a variable that no layer
defines, the interpolation fails with `unknownVariable` (it is never left in place, never replaced). -/
theorem unknown_variable_is_error (ctx : Fields) (f : Nat) (s pre x post : S)
    (href : findRef s = some (pre, x, post)) (hdot : x.contains '.' = false) (hund : get ctx x = none) :
    interp (f + 1) ctx false [] s = .error (.unknownVariable x) :=
  interp_unknown href hdot hund rfl

/-- the same for primitive graphs: only `replica` is exempt -/
theorem unknown_variable_is_error_primitive (ctx : Fields) (f : Nat) (s pre x post : S)
    (href : findRef s = some (pre, x, post)) (hdot : x.contains '.' = false) (hund : get ctx x = none)
    (hrep : x ≠ replicaName) :
    interp (f + 1) ctx true [] s = .error (.unknownVariable x) :=
  interp_unknown href hdot hund (by simpa using hrep)

/-- Together with `interp_fixpoint`: whenever the resolution of a string succeeds, no `%(name)s` is left in
the result - so in particular no reference to an undefined variable can have been "left in place". -/
theorem no_reference_survives (ctx : Fields) (f : Nat) (s v pre x post : S)
    (h : interp f ctx false [] s = .ok v) : findRef v ≠ some (pre, x, post) := by
  rw [interp_fixpoint ctx f s v h]; simp

/-! ## Termination: cyclic definitions are the only way to exhaust the fuel that the harness sees -/

def cyc : Fields := [(['a'], .str ['%', '(', 'a', ')', 's'])]

/-- `a: %(a)s` - the Python recurses until `RecursionError`; the model runs out of fuel whatever the fuel. -/
theorem cyclic_never_resolves : ∀ f : Nat, interp f cyc false [] ['%', '(', 'a', ')', 's'] = .error .fuel
  | 0 => rfl
  | f + 1 => by
    have ih := cyclic_never_resolves f
    have href : findRef ['%', '(', 'a', ')', 's'] = some ([], ['a'], []) := by decide +kernel
    have hget : Tree.get cyc ['a'] = some (.str ['%', '(', 'a', ')', 's']) := rfl
    simp only [interp, href, hget, ih]
    rfl

/-- more fuel never changes a successful result (so "enough fuel" is well defined) -/
theorem interp_fuel_mono (ctx : Fields) (prim : Bool) : ∀ (f : Nat) (done s v : S),
    interp f ctx prim done s = .ok v → interp (f + 1) ctx prim done s = .ok v := by
  intro f
  induction f with
  | zero => intro done s v h; cases h
  | succ f ih =>
    intro done s v h
    rcases interp_ok_cases h with ⟨hf, hfin⟩ | ⟨pre, x, post, hf, hdot, ⟨hg, hp, h1⟩ | ⟨w, w', hg, hin, h1⟩ | ⟨w, r, hg, hr, h1⟩⟩
    · rw [interp_none hf, hfin]
    · rw [interp_replica hf hdot hg hp, ih _ _ _ h1]
    · rw [interp_str hf hdot hg (ih _ _ _ hin), ih _ _ _ h1]
    · rw [interp_scalar hf hdot hg hr, ih _ _ _ h1]

/-- **acyclic_variables_terminate (partial)**: stated as "once some fuel suffices, every larger fuel gives
the same answer"; that a fuel suffices for chains of depth 6 is shown on a concrete chain below, the
general statement for every acyclic reference graph is not proved (the splice-and-rescan loop can create
references that are not in the text of any variable, e.g. `%(%(x)s)s`). -/
theorem acyclic_variables_terminate_partial (ctx : Fields) (prim : Bool) (f k : Nat) (s v : S)
    (h : interp f ctx prim [] s = .ok v) : interp (f + k) ctx prim [] s = .ok v := by
  induction k with
  | zero => exact h
  | succ k ih => exact interp_fuel_mono ctx prim _ _ _ _ ih

theorem interp_deterministic (ctx : Fields) (prim : Bool) (f g : Nat) (s a b : S)
    (ha : interp f ctx prim [] s = .ok a) (hb : interp g ctx prim [] s = .ok b) : a = b := by
  have h1 := acyclic_variables_terminate_partial ctx prim f g s a ha
  have h2 := acyclic_variables_terminate_partial ctx prim g f s b hb
  rw [Nat.add_comm] at h2
  rw [h1] at h2
  cases h2
  rfl

/-- the declared type of a converter, as a predicate on values (floats are `repr` texts) -/
def hasTy : Ty → Val → Bool
  | .str, .str _ => true
  | .int, .int _ => true
  | .optInt, .int _ => true
  | .bool, .bool _ => true
  | .float, .flt _ => true
  | .strToBool, .bool _ => true
  | .toBool, .bool _ => true
  | .memory, .int _ => true
  | .qos, .str _ => true
  | _, _ => false

/-- **typed_options (partial)**: whatever string / integer / boolean reaches a typed option, a successful
conversion leaves a value of the declared type.  Partial: (i) floats are modelled as decimal texts, so
"is a float" means "is tagged as one"; (ii) values that are not strings, integers or booleans (`None`,
lists, floats from the YAML) are passed through unconverted by the code, and by the model; (iii) non-primitive
graphs (`convLeaf false`): a primitive graph keeps a string whose only reference is `%(replica)s` when its conversion
fails. -/
theorem typed_options_partial (t : Ty) (v w : Val) (hs : isScalar v = true)
    (h : convLeaf false t v = .ok w) : hasTy t w = true := by
  have hex : exempt false v = false := by cases v <;> rfl
  have hc : convScalar t v = .ok w := by
    unfold convLeaf at h
    rw [hex] at h
    split at h
    · next hc => exact hc.trans h
    · cases h
    · cases h
  -- every branch of every converter ends in an error or in the constructor that `hasTy` asks for
  cases t <;> cases v <;> cases hs <;> simp only [convScalar, intOfStr, floatOfInt, memoryToBytes] at hc <;>
    (repeat' split at hc) <;> cases hc <;> rfl

/-! ## Flattening: `FlowIRConcrete.instance()` — the description the runtime executes

`FlowIRExperimentConfiguration(primitive=False)`, `Experiment` and `flowir_instance.yaml` do not hold the
package description but `instance(platform)` of it (`Model/TreeFlatten.lean`): the selected platform folded
into `default`.  `flattenRaw` is the layering skeleton of that fold, `flatten` the fold with its
interpolation passes (compared with the real `instance()` on every run). -/

/-- **flatten_preserves_layering**.  For every description, platform, component of the description and
variable name: what the component sees in the flattened description (resolved there for the same platform)
is the value of the SAME layer as in the original description - the fold keeps the whole order
default global < default stage < platform global < platform stage < component < component override. -/
theorem flatten_preserves_layering (d : Desc) (P : S) (c : Comp) (hc : c ∈ d.comps) (x : S) :
    get (varsOf (flattenRaw d P) P (flatCompRaw P c)) x = get (varsOf d P c) x := by
  have hi := mem_stagesOf d.comps c hc
  have hscope := get_flatScope d P c.stage x
  by_cases hP : P = defaultName
  · subst hP
    simp only [varsOf, if_true, flatCompRaw_stage, flatCompRaw_compVars, flatCompRaw_ovrVars, flatCompVars0,
      flattenRaw_global_default, flattenRaw_stage_default d defaultName c.stage hi, get_update] at hscope ⊢
    rw [hscope]
    cases get (ovrVars c defaultName) x <;> rfl
  · simp only [varsOf, hP, if_false, flatCompRaw_stage, flatCompRaw_compVars, flatCompRaw_ovrVars, flatCompVars0,
      flattenRaw_global_default, flattenRaw_stage_default d P c.stage hi, flattenRaw_global_other d P hP,
      flattenRaw_stage_other d P c.stage hP, get_update, Tree.get, Option.none_or] at hscope ⊢
    rw [hscope]
    cases get (ovrVars c P) x <;> rfl

/-- … spelled out (with `variables_eq_spec`): on a platform other than `default` the flattened description
offers the first of component override, component, platform stage, platform global, default stage, default
global that defines the name -/
theorem flatten_eq_spec (d : Desc) (P : S) (c : Comp) (hc : c ∈ d.comps) (x : S) (hP : P ≠ defaultName) :
    get (varsOf (flattenRaw d P) P (flatCompRaw P c)) x =
      firstSome [get (ovrVars c P) x, get (compVars c) x, get (stageVars d P c.stage) x, get (globalVars d P) x,
                 get (stageVars d defaultName c.stage) x, get (globalVars d defaultName) x] := by
  rw [flatten_preserves_layering d P c hc x, variables_eq_spec d P c x hP]

/-- **default stage outranks default global after the fold, on every platform**: a variable that a default
STAGE section defines and that neither the selected platform's sections nor the component re-define keeps
its stage value in the flattened description - whether or not the default global section defines it too. -/
theorem flatten_default_stage_outranks_default_global (d : Desc) (P : S) (c : Comp) (hc : c ∈ d.comps) (x : S)
    (w : Val) (hP : P ≠ defaultName)
    (hds : get (stageVars d defaultName c.stage) x = some w)
    (hpg : get (globalVars d P) x = none) (hps : get (stageVars d P c.stage) x = none)
    (hcv : get (compVars c) x = none) (hov : get (ovrVars c P) x = none) :
    get (varsOf (flattenRaw d P) P (flatCompRaw P c)) x = some w := by
  rw [flatten_eq_spec d P c hc x hP, hds, hpg, hps, hcv, hov]
  rfl

/-- … and platform global still outranks default stage (the reason the fold removes names from the default
stage section at all) -/
theorem flatten_platform_global_outranks_default_stage (d : Desc) (P : S) (c : Comp) (hc : c ∈ d.comps) (x : S)
    (w : Val) (hP : P ≠ defaultName)
    (hpg : get (globalVars d P) x = some w) (hps : get (stageVars d P c.stage) x = none)
    (hcv : get (compVars c) x = none) (hov : get (ovrVars c P) x = none) :
    get (varsOf (flattenRaw d P) P (flatCompRaw P c)) x = some w := by
  rw [flatten_eq_spec d P c hc x hP, hpg, hps, hcv, hov]
  rfl

/-- **flatten_preserves_resolution**.  Every text (option value, variable value) interpolates in the
flattened description to exactly what it interpolates to in the original one - same value, same error, for
every fuel, strict or primitive: the resolution reads its variables through `get` only
(`interp_congr`) and the fold preserves every `get` (`flatten_preserves_layering`). -/
theorem flatten_preserves_resolution (d : Desc) (P : S) (c : Comp) (hc : c ∈ d.comps) (prim : Bool)
    (f : Nat) (done s : S) :
    interp f (varsOf (flattenRaw d P) P (flatCompRaw P c)) prim done s = interp f (varsOf d P c) prim done s :=
  interp_congr _ _ prim (flatten_preserves_layering d P c hc) f done s

/-- `V'` is `V` with some variables replaced by *their own resolved value*: what the interpolation passes
of `instance()` do to the variables they can resolve completely -/
def PreEvaluated (V V' : Fields) : Prop :=
  ∀ x, get V' x = get V x ∨
    ∃ v r g, get V x = some (.str v) ∧ get V' x = some (.str r) ∧ interp g V false [] v = .ok r

/-- strict success survives a change of context under which every variable of `K` keeps its value or, if it is a
string, is replaced by what it resolves to in `K`: a resolved value has no reference left and passes the final
checks again (`interp_ok_finished`), so splicing it in needs one trivial round instead of its resolution -/
theorem interp_ext (K V : Fields)
    (h : ∀ x w, get K x = some w → get V x = some w ∨
      ∃ v r g, w = .str v ∧ get V x = some (.str r) ∧ interp g K false [] v = .ok r) :
    ∀ (f : Nat) (done s t : S), interp f K false done s = .ok t → interp f V false done s = .ok t := by
  intro f
  induction f with
  | zero => intro done s t ht; cases ht
  | succ f ih =>
    intro done s t ht
    rcases interp_ok_cases ht with ⟨hf, hfin⟩ | ⟨pre, x, post, hf, hdot, ⟨_, hp, _⟩ | ⟨w, w', hg, hin, h1⟩ | ⟨w, r, hg, hr, h1⟩⟩
    · rw [interp_none hf, hfin]
    · cases hp
    · rcases h x _ hg with hV | ⟨v, r, g, hw, hV, hr⟩
      · rw [interp_str hf hdot hV (ih _ _ _ hin), ih _ _ _ h1]
      · cases hw
        cases interp_deterministic K false g f w r w' hr hin
        cases f with
        | zero => cases hin
        | succ f' =>
          obtain ⟨href, hfin⟩ := interp_ok_finished K _ _ _ hr
          rw [interp_str hf hdot hV ((interp_none href).trans hfin), ih _ _ _ h1]
    · rcases h x _ hg with hV | ⟨v, _, _, hw, _, _⟩
      · rw [interp_scalar hf hdot hV hr, ih _ _ _ h1]
      · subst hw; cases hr

/-- **preevaluation_preserves_resolution**: replacing variables by their own resolved values never changes
what any text resolves to (strict resolution, every fuel): pre-interpolating at flattening time is invisible
to a later successful resolution. -/
theorem preevaluation_preserves_resolution (V V' : Fields) (h : PreEvaluated V V') :
    ∀ (f : Nat) (done s t : S), interp f V false done s = .ok t → interp f V' false done s = .ok t :=
  interp_ext V V' fun x _ hg => (h x).imp (fun e => e.trans hg)
    fun ⟨v, r, g, hv, hv', hr⟩ => ⟨v, r, g, Option.some.inj (hg.symm.trans hv), hv', hr⟩

/-- strict success is monotone in the context: a text that resolves with the variables of an inner scope
resolves to the same value with more variables around, provided none of the inner ones is shadowed -/
theorem interp_context_mono (K V : Fields) (hsub : ∀ x w, get K x = some w → get V x = some w) :
    ∀ (f : Nat) (done s t : S), interp f K false done s = .ok t → interp f V false done s = .ok t :=
  interp_ext K V fun x w hg => .inl (hsub x w hg)

/-- the passes of `instance()` keep the keys of the dictionary they rewrite, and every value they touch is
either kept or replaced by the result of the function applied -/
theorem get_mapFields (g : Val → Except Err Val) : ∀ (a b : Fields), mapFields g a = .ok b → ∀ x,
    (Tree.get a x = none ∧ Tree.get b x = none) ∨
      ∃ v v', Tree.get a x = some v ∧ Tree.get b x = some v' ∧ g v = .ok v' := by
  intro a
  induction a with
  | nil => intro b h x; cases h; exact .inl ⟨rfl, rfl⟩
  | cons hd tl ih =>
    intro b h x
    obtain ⟨k, v⟩ := hd
    simp only [mapFields] at h
    split at h
    · cases h
    · next v' hg =>
      split at h <;> cases h
      next tl' hm =>
      simp only [Tree.get]
      split
      · exact .inr ⟨v, v', rfl, rfl, hg⟩
      · exact ih tl' hm x

private theorem interpOrKeep_ok {f : Nat} {K : Fields} {prim : Bool} {v v' : Val} (h : interpOrKeep f K prim v = .ok v') :
    v' = v ∨ ∃ s r, v = .str s ∧ v' = .str r ∧ interp f K prim [] s = .ok r := by
  cases v <;> simp only [interpOrKeep] at h
  case str s =>
    split at h <;> cases h
    · next r hr => exact .inr ⟨s, r, rfl, rfl, hr⟩
    · exact .inl rfl
  all_goals cases h <;> exact .inl rfl

/-- **the strict passes of `instance()` are pre-evaluations** (the loop over the global variables with
`A = K =` the merged global variables, the loop over the stage variables with `A =` the merged stage
variables and `K =` global + stage): every value is either kept or replaced by what it resolves to in ANY
context `V` that extends the pass's context `K` without shadowing it - so by
`preevaluation_preserves_resolution` a later resolution in `V` cannot tell the difference. -/
theorem flatten_strict_pass_is_preevaluation (fuel : Nat) (K A B V : Fields)
    (h : mapFields (interpOrKeep fuel K false) A = .ok B)
    (hsub : ∀ x w, Tree.get K x = some w → Tree.get V x = some w) (x : S) :
    Tree.get B x = Tree.get A x ∨
      ∃ v r, Tree.get A x = some (.str v) ∧ Tree.get B x = some (.str r) ∧ interp fuel V false [] v = .ok r := by
  rcases get_mapFields _ A B h x with ⟨ha, hb⟩ | ⟨v, v', ha, hb, hg⟩
  · exact .inl (hb.trans ha.symm)
  · rcases interpOrKeep_ok hg with rfl | ⟨s, r, rfl, rfl, hr⟩
    · exact .inl (hb.trans ha.symm)
    · exact .inr ⟨s, r, ha, hb, interp_context_mono K V hsub fuel [] s r hr⟩

/-- the tolerant interpolation (`ignore_errors=True`: second pass over the global variables, component
variables, blueprints) agrees with the strict one whenever the strict one succeeds -/
theorem interpSoft_of_interp_ok (ctx : Fields) (prim : Bool) : ∀ (f : Nat) (done s r : S),
    interp f ctx prim done s = .ok r → interpSoft f ctx prim done s = .ok r := by
  intro f
  induction f with
  | zero => intro done s r h; cases h
  | succ f ih =>
    intro done s r h
    rw [interpSoft]
    rcases interp_ok_cases h with ⟨hf, hfin⟩ | ⟨pre, x, post, hf, hdot, ⟨hg, _, h1⟩ | ⟨w, w', hg, hin, h1⟩ | ⟨w, t, hg, ht, h1⟩⟩
    · obtain ⟨rfl, hb⟩ := finish_ok hfin
      simp only [hf, finishSoft, hb, Bool.false_eq_true, if_false]
    · simp only [hf, hdot, hg, Bool.false_eq_true, if_false]
      exact ih _ _ _ h1
    · simp only [hf, hdot, hg, hin, Bool.false_eq_true, if_false]
      exact ih _ _ _ h1
    · cases w <;> cases ht <;> simp only [hf, hdot, hg, Bool.false_eq_true, if_false] <;> exact ih _ _ _ h1

/-- the fold visits the components one by one: every flattened component is `flatComp` of the flattened
variable sections and of ONE component of the description, and every component has its flattened form -/
theorem flatComps_pointwise (fuel : Nat) (d : Desc) (P : S) (prim inject : Bool) (fv : FlatVars) :
    ∀ (cs cs' : List Comp), flatComps fuel d P prim inject fv cs = .ok cs' →
      (∀ c' ∈ cs', ∃ c ∈ cs, flatComp fuel d P prim inject fv c = .ok c') ∧
      (∀ c ∈ cs, ∃ c' ∈ cs', flatComp fuel d P prim inject fv c = .ok c') := by
  intro cs
  induction cs with
  | nil => intro cs' h; cases h; simp
  | cons c r ih =>
    intro cs' h
    simp only [flatComps] at h
    split at h
    · cases h
    · next c1 hc =>
      split at h <;> cases h
      next r' hr =>
      obtain ⟨ih1, ih2⟩ := ih r' hr
      simp only [List.mem_cons, forall_eq_or_imp, exists_eq_or_imp]
      exact ⟨⟨.inl hc, fun c' h' => .inr (ih1 c' h')⟩, .inl hc, fun c0 h0 => .inr (ih2 c0 h0)⟩

/-- **flatten_sibling_isolation**: in `instance()` the flattened form of a component (its variables resolved
in the context global < stage < the component's OWN variables, its options, its override) is a function of the
platforms, blueprints, variables of the description and of the component's own body: no other component of
the stage - whichever the fold visited before - contributes a variable to its context. -/
theorem flatten_sibling_isolation (fuel : Nat) (d d' : Desc) (P : S) (prim inject : Bool) (fv : FlatVars) (c : Comp)
    (h1 : d'.platforms = d.platforms) (h2 : d'.blueprint = d.blueprint) (h3 : d'.variables = d.variables) :
    flatComp fuel d' P prim inject fv c = flatComp fuel d P prim inject fv c := by
  unfold flatComp
  rw [sibling_isolation d d' P c ⟨true, false, prim, inject⟩ fuel h1 h2 h3]

/-- **flatten_components_pointwise**: a successful `instance()` is, component by component, `flatComp` with
ONE set of flattened variable sections (computed from the variable sections of the description alone) -/
theorem flatten_components_pointwise (fuel : Nat) (d fd : Desc) (P : S) (prim inject : Bool)
    (h : flatten fuel d P prim inject = .ok fd) :
    ∃ fv, flatVars fuel d P prim = .ok fv ∧
      (∀ c' ∈ fd.comps, ∃ c ∈ d.comps, flatComp fuel d P prim inject fv c = .ok c') ∧
      (∀ c ∈ d.comps, ∃ c' ∈ fd.comps, flatComp fuel d P prim inject fv c = .ok c') := by
  unfold flatten at h
  split at h
  · cases h
  · split at h
    · cases h
    · rename_i fv hv
      split at h
      · cases h
      · rename_i comps hc
        split at h
        · cases h
        · split at h
          · cases h
          · simp only [Except.ok.injEq] at h
            subst h
            exact ⟨fv, hv, flatComps_pointwise fuel d P prim inject fv d.comps comps hc⟩

/-- **stage_blueprint_repeats_platform_global**: the stage scope of the flattened description (two blueprint
scopes only) keeps the documented order default stage < platform global < platform stage: when the default
stage blueprint says something and `P` is not the default platform, the platform's GLOBAL blueprint is layered
between the default-stage and the platform-stage blueprint (`lookup_override` then gives the value of every
leaf route); on the default platform, or under an empty default stage blueprint, nothing is repeated. -/
theorem stage_blueprint_repeats_platform_global (d : Desc) (P : S) (i : Nat) :
    (falsy (bpStage d defaultName i) = false → P ≠ defaultName →
      stageBpBaseRaw d P i = override (bpStage d defaultName i) (bpGlobal d P) ∧
      (clash (bpStage d defaultName i) (bpGlobal d P) = false → stageBpBase d P i = .ok (stageBpBaseRaw d P i))) ∧
    (stageBpBaseRaw d defaultName i = bpStage d defaultName i) ∧
    (falsy (bpStage d defaultName i) = true → stageBpBaseRaw d P i = bpStage d defaultName i) := by
  refine ⟨?_, ?_, ?_⟩
  · intro hf hP
    have hr : repeatsPlatformGlobal d P i = true := by simp [repeatsPlatformGlobal, hf, hP]
    refine ⟨by simp [stageBpBaseRaw, hr], ?_⟩
    intro hc
    simp [stageBpBase, stageBpBaseRaw, hr, hc]
  · simp [stageBpBaseRaw, repeatsPlatformGlobal]
  · intro hf
    simp [stageBpBaseRaw, repeatsPlatformGlobal, hf]

/-! ## Array-indexed references (`Model/TreeArray.lean`) -/

theorem resolveSegs_append_eq (f : Nat) (ctx : Fields) (b : List Seg) : ∀ a : List Seg,
    resolveSegs f ctx (a ++ b) =
      match resolveSegs f ctx a with
      | .error e => .error e
      | .ok u => match resolveSegs f ctx b with
        | .error e => .error e
        | .ok v => .ok (u ++ v) := by
  intro a
  induction a with
  | nil => cases h : resolveSegs f ctx b <;> simp only [List.nil_append, resolveSegs, h]
  | cons s a ih =>
    simp only [List.cons_append, resolveSegs, ih]
    cases segValue f ctx s <;> cases resolveSegs f ctx a <;> cases resolveSegs f ctx b <;>
      simp only [List.append_assoc]

/-- The resolved text of `a ++ b` is the resolved text of `a` followed
by the resolved text of `b` - what stands before an occurrence never changes what it is replaced by. -/
theorem resolveSegs_append (f : Nat) (ctx : Fields) : ∀ (a b : List Seg) (u v : S),
    resolveSegs f ctx a = .ok u → resolveSegs f ctx b = .ok v → resolveSegs f ctx (a ++ b) = .ok (u ++ v) := by
  intro a b u v ha hb
  rw [resolveSegs_append_eq, ha, hb]

/-- **occurrence_value_position_independent**: in a text that resolves, the occurrence at ANY position is
replaced by `segValue` of that occurrence alone (a function of the variables and of the occurrence - not of
the text before it, not of the text behind it), and the rest of the text resolves as it does on its own. -/
theorem occurrence_value_position_independent (f : Nat) (ctx : Fields) : ∀ (a b : List Seg) (s : Seg) (r : S),
    resolveSegs f ctx (a ++ s :: b) = .ok r →
    ∃ u w v, resolveSegs f ctx a = .ok u ∧ segValue f ctx s = .ok w ∧ resolveSegs f ctx b = .ok v ∧
      r = u ++ w ++ v := by
  intro a b s r h
  rw [resolveSegs_append_eq, resolveSegs] at h
  cases hu : resolveSegs f ctx a <;> cases hw : segValue f ctx s <;> cases hv : resolveSegs f ctx b <;>
    simp only [hu, hw, hv, reduceCtorEq, Except.ok.injEq] at h
  exact ⟨_, _, _, rfl, rfl, rfl, by rw [← h, List.append_assoc]⟩

/-- **plain_then_indexed**: a text that uses a variable plainly and LATER with an array index resolves to
the whole value at the plain occurrence and to the `i`-th word of the same value at the indexed one, the
constant texts around them untouched. -/
theorem plain_then_indexed (f : Nat) (ctx : Fields) (x v w t1 t2 t3 : S) (i : Nat)
    (hv : varValue f ctx x = .ok v) (hw : (splitWords v)[i]? = some w) :
    resolveSegs f ctx [.text t1, .ref x none, .text t2, .ref x (some (.lit i)), .text t3]
      = .ok (t1 ++ v ++ t2 ++ w ++ t3) := by
  simp [resolveSegs, segValue, idxValue, hv, hw]

/-- the same with the index taken from another variable, and in the opposite order -/
theorem indexed_by_variable_then_plain (f : Nat) (ctx : Fields) (x y v w d t1 t2 t3 : S) (i : Nat)
    (hv : varValue f ctx x = .ok v) (hy : varValue f ctx y = .ok d) (hd : digitsToNat? d = some i)
    (hw : (splitWords v)[i]? = some w) :
    resolveSegs f ctx [.text t1, .ref x (some (.var y)), .text t2, .ref x none, .text t3]
      = .ok (t1 ++ w ++ t2 ++ v ++ t3)
    ∧ resolveSegs f ctx [.text t1, .ref x none, .text t2, .ref x (some (.var y)), .text t3]
      = .ok (t1 ++ v ++ t2 ++ w ++ t3) := by
  simp [resolveSegs, segValue, idxValue, hv, hy, hd, hw]

/-- an undefined array variable / index variable is an error, never left in place -/
theorem unknown_array_variable_is_error (f : Nat) (ctx : Fields) (x : S) (n : Nat) (h : get ctx x = none) :
    segValue f ctx (.ref x (some (.lit n))) = .error (.unknownVariable x)
    ∧ ∀ z, segValue f ctx (.ref z (some (.var x))) = .error (.unknownVariable x) := by
  simp [segValue, idxValue, varValue, h]

theorem segValue_congr (ctx ctx' : Fields) (h : ∀ x, get ctx x = get ctx' x) (f : Nat) (s : Seg) :
    segValue f ctx s = segValue f ctx' s := by
  have hv : ∀ x, varValue f ctx x = varValue f ctx' x := by
    intro x; simp only [varValue, h, interp_congr ctx ctx' false h]
  cases s with
  | text t => rfl
  | ref x i =>
    cases i with
    | none => simp only [segValue, hv]
    | some i => cases i <;> simp only [segValue, idxValue, hv]

/-- the resolution of a text with array accesses reads the variables only through `get` -/
theorem resolveSegs_congr (ctx ctx' : Fields) (h : ∀ x, get ctx x = get ctx' x) (f : Nat) :
    ∀ segs, resolveSegs f ctx segs = resolveSegs f ctx' segs := by
  intro segs
  induction segs with
  | nil => rfl
  | cons s r ih => simp only [resolveSegs, segValue_congr ctx ctx' h, ih]

/-- **flatten_preserves_array_resolution**: a text with array-indexed references resolves in the flattened
description (what the runtime executes) to exactly what it resolves to in the original one. -/
theorem flatten_preserves_array_resolution (d : Desc) (P : S) (c : Comp) (hc : c ∈ d.comps) (f : Nat)
    (segs : List Seg) :
    resolveSegs f (varsOf (flattenRaw d P) P (flatCompRaw P c)) segs = resolveSegs f (varsOf d P c) segs :=
  resolveSegs_congr _ _ (flatten_preserves_layering d P c hc) f segs

/-- non-vacuity: `--all %(m)s --mine %(m)s[%(w)s]` with m = `h4 h6 h8`, w = 1 is read as five occurrences and
resolves to `--all h4 h6 h8 --mine h6`; with the two uses swapped to `--mine h6 --all h4 h6 h8` -/
example : interpA 8 [("m".toList, .str "h4 h6 h8".toList), ("w".toList, .int 1)]
    "--all %(m)s --mine %(m)s[%(w)s]".toList = .ok "--all h4 h6 h8 --mine h6".toList := by decide +kernel
example : interpA 8 [("m".toList, .str "h4 h6 h8".toList), ("w".toList, .int 1)]
    "--mine %(m)s[%(w)s] --all %(m)s".toList = .ok "--mine h6 --all h4 h6 h8".toList := by decide +kernel
example : parseSegs 30 "a %(m)s b %(m)s[2]".toList
    = some [.text "a ".toList, .ref "m".toList none, .text " b ".toList, .ref "m".toList (some (.lit 2)),
            .text []] := by decide +kernel

/-! ## Pins on the regenerated table, non-vacuity -/

/-- the type table still declares what the property's examples rely on -/
theorem pin_type_table :
    (match St4sd.Gen.C04.typeTable with
     | .node fs => (match tyGet fs "resourceRequest".toList with
        | some (.node g) => (match tyGet g "numberProcesses".toList with | some (.leaf .int) => true | _ => false)
        | _ => false)
     | _ => false) = true := by decide +kernel

/-- the built-in defaults are a dictionary with `command.interpreter = None` -/
theorem pin_defaults :
    lookupPath ["command".toList, "interpreter".toList] St4sd.Gen.C04.defaultComponent = some .null := by decide +kernel

private def d0 : Desc :=
  { platforms := [defaultName, ['p']],
    blueprint := [(defaultName, (.dict [("command".toList, .dict [("arguments".toList, .str ['D'])])], [])),
                  (['p'], (.dict [("command".toList, .dict [("arguments".toList, .str ['P'])])], []))],
    variables := [], comps := [] }
private def c0 : Comp := ⟨0, ['c'], [("command".toList, .dict [("executable".toList, .str ['x'])])]⟩

/-- a successful result with a decidable property, as one Boolean for the kernel to evaluate -/
private theorem exists_ok {a : Except Err Val} {p : Val → Prop} [DecidablePred p]
    (h : (match a with | .ok v => decide (p v) | .error _ => false) = true) : ∃ v, a = .ok v ∧ p v := by
  cases a with
  | ok v => exact ⟨v, rfl, of_decide_eq_true h⟩
  | error e => cases h

/-- hypotheses of `resolve_eq_spec` are satisfiable, and the platform layer wins over the default one -/
example : (∀ l ∈ layers d0 ['p'] c0, leafAt ["command".toList, "arguments".toList] l = true) ∧
    (∃ v, layerAll (.dict []) (layers d0 ['p'] c0) = .ok v ∧
      lookupPath ["command".toList, "arguments".toList] v = some (.str ['P'])) := by
  exact ⟨by decide +kernel, exists_ok (by decide +kernel)⟩

/-- hypotheses of `resolveF_eq_spec` are satisfiable without the built-in defaults (the variant `instance()`
asks when an instance description is written), and the platform layer still wins over the default one -/
example : (∀ l ∈ layersF d0 ['p'] c0 false, leafAt ["command".toList, "arguments".toList] l = true) ∧
    (∃ v, layerAll (.dict []) (layersF d0 ['p'] c0 false) = .ok v ∧
      lookupPath ["command".toList, "arguments".toList] v = some (.str ['P']) ∧
      lookupPath ["command".toList, "interpreter".toList] v = none) := by
  exact ⟨by decide +kernel, exists_ok (by decide +kernel)⟩

/-- a chain of depth 6 resolves with little fuel -/
example : interp 40
    [(['a', '0'], .str ['v']), (['a', '1'], .str "%(a0)s".toList), (['a', '2'], .str "x%(a1)s".toList),
     (['a', '3'], .str "%(a2)s".toList), (['a', '4'], .str "%(a3)s".toList), (['a', '5'], .str "%(a4)s".toList),
     (['a', '6'], .str "%(a5)s/%(a0)s".toList)] false [] "%(a6)s".toList = .ok "xv/v".toList := by decide +kernel

/-- an undefined variable: error, not "left in place" -/
example : interp 40 [(['a'], .str ['v'])] false [] "%(a)s %(b)s".toList = .error (.unknownVariable ['b']) := by decide +kernel

private def dF : Desc :=
  { platforms := [defaultName, ['p']], blueprint := [],
    variables := [(defaultName, { global := [(['v'], .str "dg".toList), (['w'], .str "wdg".toList)],
                                  stages := [(0, [(['v'], .str "ds".toList)])] }),
                  (['p'], { global := [(['w'], .str "wpg".toList)], stages := [] })],
    comps := [⟨0, ['c'],
      [("stage".toList, .int 0), ("name".toList, .str ['c']),
       ("command".toList, .dict [("arguments".toList, .str "%(chain)s %(w)s".toList)]),
       ("variables".toList, .dict [("chain".toList, .str "<%(v)s>".toList)])]⟩] }
private def cF : Comp := ⟨0, ['c'],
      [("stage".toList, .int 0), ("name".toList, .str ['c']),
       ("command".toList, .dict [("arguments".toList, .str "%(chain)s %(w)s".toList)]),
       ("variables".toList, .dict [("chain".toList, .str "<%(v)s>".toList)])]⟩

/-- the hypotheses of `flatten_default_stage_outranks_default_global` are satisfiable: `v` is defined by the
default global AND the default stage section, platform `p` is selected and does not mention it … -/
example : cF ∈ dF.comps ∧ (['p'] : S) ≠ defaultName ∧
    Tree.get (stageVars dF defaultName cF.stage) ['v'] = some (.str "ds".toList) ∧
    Tree.get (globalVars dF defaultName) ['v'] = some (.str "dg".toList) ∧
    Tree.get (globalVars dF ['p']) ['v'] = none ∧ Tree.get (stageVars dF ['p'] cF.stage) ['v'] = none ∧
    Tree.get (compVars cF) ['v'] = none ∧ Tree.get (ovrVars cF ['p']) ['v'] = none := by
  exact ⟨.head _, by decide +kernel⟩

/-- `command.arguments` of an answer, as text (empty when there is none) -/
def argumentsOf (r : Except Err Val) : S :=
  match r with
  | .ok v => (match lookupPath ["command".toList, "arguments".toList] v with
    | some (.str s) => s
    | _ => [])
  | .error _ => []

/-- … and the REAL fold (`flatten`, with its interpolation passes, type conversion and override trimming)
of that description resolves the component on `p` to the stage value (through a chain of variables) and to
the platform-global value of `w` - the same answer as the original description gives. -/
example :
    (match flatten 60 dF ['p'] false true with
     | .ok fd => argumentsOf (resolve fd ['p'] 0 ['c'] false 60)
     | .error _ => []) = "<ds> wpg".toList ∧
    argumentsOf (resolve dF ['p'] 0 ['c'] false 60) = "<ds> wpg".toList := by
  decide +kernel

private def sibBody (n : S) (vars : Fields) (args : String) : Fields :=
  [("stage".toList, .int 0), ("name".toList, .str n),
   ("command".toList, .dict [("arguments".toList, .str args.toList)]),
   ("variables".toList, .dict vars)]

/-- two siblings of one stage: `alpha` privately shadows `left` and reaches `right` through one of its own
variables, `beta` privately shadows `right` and reaches `left` -/
private def dSib : Desc :=
  { platforms := [defaultName], blueprint := [],
    variables := [(defaultName, { global := [("left".toList, .str "GL".toList), ("right".toList, .str "GR".toList)],
                                  stages := [] })],
    comps := [⟨0, "alpha".toList, sibBody "alpha".toList
                [("left".toList, .str "A".toList), ("uses".toList, .str "%(right)s".toList)] "%(uses)s"⟩,
              ⟨0, "beta".toList, sibBody "beta".toList
                [("right".toList, .str "B".toList), ("uses".toList, .str "%(left)s".toList)] "%(uses)s"⟩] }

/-- … through the fold each of them resolves its chain to the GLOBAL value: the private variable of the
sibling is invisible, in whichever order the two are flattened -/
example :
    (match flatten 60 dSib defaultName false true with
     | .ok fd => (argumentsOf (resolve fd defaultName 0 "alpha".toList false 60),
                  argumentsOf (resolve fd defaultName 0 "beta".toList false 60))
     | .error _ => ([], [])) = ("GR".toList, "GL".toList) ∧
    (match flatten 60 { dSib with comps := dSib.comps.reverse } defaultName false true with
     | .ok fd => (argumentsOf (resolve fd defaultName 0 "alpha".toList false 60),
                  argumentsOf (resolve fd defaultName 0 "beta".toList false 60))
     | .error _ => ([], [])) = ("GR".toList, "GL".toList) := by
  decide +kernel

end St4sd.C04
