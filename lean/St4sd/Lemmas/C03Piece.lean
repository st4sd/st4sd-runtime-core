import St4sd.Model.ReplOver
/-!
# C03: the one case analysis behind `piece`, `pieceVars`, `pieceBase`, `pieceOver`

What a component expands to is decided the same way at every level: an aggregator yields one item, a component
with propagated count `N ≥ 1` one item per copy index `0..N-1`, any other component one item.  `pieceWith` is
that shape; the four functions of the model are instances (`*_eq`, by `rfl`), and membership, `zip` and `length`
of the shape are proved once.
-/
namespace St4sd.Repl

def pieceWith {α : Type} (c : Comp) (p : Option Nat) (agg : α) (copy : Nat → α) (plain : α) : List α :=
  if c.agg then [agg] else if 0 < p.getD 0 then (List.range (p.getD 0)).map copy else [plain]

theorem piece_eq (d : Done) (c : Comp) (p : Option Nat) :
    piece d c p = pieceWith c p { c with refs := c.refs.flatMap (aggRef d (p.getD 0)) } (mkCopy d c (p.getD 0)) c :=
  rfl

theorem pieceVars_eq (c : Comp) (own : Vars) (p : Option Nat) :
    pieceVars c own p = pieceWith c p own (copyVars own) own := rfl

theorem pieceBase_eq (d : Done) (c : Comp) (eff : TBlock) (p : Option Nat) :
    pieceBase d c eff p = pieceWith c p (splitRefs (eff.map (aggText d c (p.getD 0))))
      (fun i => setReplica i (eff.map (replicaText d c i))) eff := rfl

theorem pieceOver_eq (d : Done) (c : Comp) (over : TBlock) (p : Option Nat) :
    pieceOver d c over p = pieceWith c p (splitRefs (over.map (aggText d c (p.getD 0))))
      (fun i => fixReplica i (over.map (replicaText d c i))) over := rfl

variable {α β : Type} (c : Comp) (p : Option Nat)

theorem mem_pieceWith {agg : α} {copy : Nat → α} {plain y : α} :
    y ∈ pieceWith c p agg copy plain ↔
      (c.agg = true ∧ y = agg) ∨ (c.agg = false ∧ ∃ i, i < p.getD 0 ∧ y = copy i) ∨
        (c.agg = false ∧ p.getD 0 = 0 ∧ y = plain) := by
  unfold pieceWith
  cases c.agg
  · by_cases hn : 0 < p.getD 0
    · simp [hn, Nat.ne_of_gt hn, eq_comm]
    · simp [Nat.eq_zero_of_not_pos hn]
  · simp

theorem zip_pieceWith (agg : α) (copy : Nat → α) (plain : α) (agg' : β) (copy' : Nat → β) (plain' : β) :
    (pieceWith c p agg copy plain).zip (pieceWith c p agg' copy' plain') =
      pieceWith c p (agg, agg') (fun i => (copy i, copy' i)) (plain, plain') := by
  unfold pieceWith
  cases c.agg
  · by_cases hn : 0 < p.getD 0
    · simp only [hn, if_true, Bool.false_eq_true, if_false, List.zip_map']
    · simp only [hn, if_false, Bool.false_eq_true, List.zip_cons_cons, List.zip_nil_right]
  · rfl

theorem length_pieceWith (agg : α) (copy : Nat → α) (plain : α) (agg' : β) (copy' : Nat → β) (plain' : β) :
    (pieceWith c p agg copy plain).length = (pieceWith c p agg' copy' plain').length := by
  unfold pieceWith
  cases c.agg
  · by_cases hn : 0 < p.getD 0
    · simp only [hn, if_true, Bool.false_eq_true, if_false, List.length_map]
    · simp only [hn, if_false, Bool.false_eq_true, List.length_singleton]
  · rfl

end St4sd.Repl
