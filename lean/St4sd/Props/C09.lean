import St4sd.Lemmas.C09
import St4sd.Model.RefSession
import St4sd.Model.RefDir
import St4sd.Gen.C09
/-!
# C09 — Data references parse, print and classify consistently

Property theorems about `St4sd.Ref` (model of flowir.py 3369-3586, 1342-1420, 1228-1234 and
graph.py 462-802).  All theorems quantify over every string, every name set (`sf` = reserved
folders, `deps` = application dependencies, `extra` = top-level / manifest folders, `known` =
components per stage) and every stage index.  `SFok sf` (no reserved folder contains a `.`) is
pinned below for the list regenerated from `/repo`.

Where a statement holds string literals (three of the pins, the test vectors at the end), `simp -index only
[String.toList_ofList]` rewrites every `"…".toList` to its list of characters before the kernel evaluates: the kernel's
UTF-8 decoding of a literal is quadratic in its length (`Str.ofList_eq` in `Lemmas/Str.lean`).

Vocabulary: `parseFullX` = `FlowIR.ParseDataReferenceFull` plus the `hasIndex` flag (whether the
string carries an explicit `stageN.` prefix); a reference *is treated as a reference to a
component* iff the returned stage index is `some _`.
-/
namespace St4sd.C09
open St4sd.Str St4sd.Ref

/-! ## Pins: what the property relies on in the regenerated constants -/

/-- reserved folders are plain names: no `.`, `/`, `:`; not empty; not stage-like -/
theorem pin_special_folders_plain :
    ∀ f ∈ Gen.C09.specialFoldersC, '.' ∉ f ∧ '/' ∉ f ∧ ':' ∉ f ∧ f ≠ [] := by decide +kernel

theorem pin_SFok : SFok Gen.C09.specialFoldersC := fun f hf => (pin_special_folders_plain f hf).1

/-- every reference method is a plain word (so `compile`/`split(':')` round-trips) and `ref` is one -/
theorem pin_methods_plain :
    (∀ m ∈ Gen.C09.dataReferenceMethodsC, ':' ∉ m ∧ '/' ∉ m ∧ m ≠ []) ∧
      ['r', 'e', 'f'] ∈ Gen.C09.dataReferenceMethodsC := by decide +kernel

/-- the regular expressions that `stageMatch`, `hasVar`, `hasIdx` re-implement -/
theorem pin_stage_regex : Gen.C09.stageRegexC = "stage([0-9]+)".toList := by
  simp -index only [String.toList_ofList]
  decide
theorem pin_variable_pattern : Gen.C09.variablePatternC = "%\\([a-zA-Z0-9_.-]+\\)s".toList := by
  simp -index only [String.toList_ofList]
  decide +kernel
theorem pin_index_regex : Gen.C09.indexRegexC = "\\[(\\d+)\\]".toList := by
  simp -index only [String.toList_ofList]
  decide

/-! ## 1. Parse ∘ print and print ∘ parse -/

/-- Well-formed parts of a component reference: no `:` anywhere, no `/` in the producer, the
producer is not a variable. -/
def WFparts (prod : S) (file : Option S) (m : S) : Prop :=
  ':' ∉ prod ∧ '/' ∉ prod ∧ hasVar prod = false ∧ (match file with | none => True | some f => ':' ∉ f) ∧ ':' ∉ m

/-- **parse_compile (absolute spelling).**  Printing well-formed parts with a stage index and parsing
the result gives the parts back — whatever the context stage and the folder name sets are. -/
theorem parse_compile (sf : List S) (hsf : SFok sf) (prod : S) (file : Option S) (m : S) (n : Nat)
    (h : WFparts prod file m) (idx : Option Nat) (deps extra : List S) :
    parseFull sf (compileReference prod file m (some n)) idx deps extra = some (some n, prod, file, m) := by
  obtain ⟨h1, h2, h3, h4, h5⟩ := h
  have hr : ':' ∉ restOf prod file := colon_restOf h1 fun f hf => by subst hf; exact h4
  unfold parseFull
  simp only [compileReference, refBody_eq]
  rw [parseFullX_stagePrefix sf hsf n _ m hr h5, splitProd_restOf prod file h2]
  simp [h3]

/-- **parse_compile (relative spelling).**  Printing well-formed parts without a stage index and
parsing in the context stage `i` gives `(i, parts)` back, provided the producer is not empty, not a
folder name and does not itself look like `stageN.x`. -/
theorem parse_compile_relative (sf : List S) (prod : S) (file : Option S) (m : S) (i : Nat)
    (h : WFparts prod file m) (hne : prod ≠ []) (deps extra : List S)
    (hf : prod ∉ folders sf deps extra)
    (hs : (parseProducerReference prod (some i)).2.2 = false) :
    parseFull sf (compileReference prod file m none) (some i) deps extra = some (some i, prod, file, m) := by
  obtain ⟨h1, h2, h3, h4, h5⟩ := h
  have hr : ':' ∉ restOf prod file := colon_restOf h1 fun f hf => by subst hf; exact h4
  have hsf : prod ∉ sf := fun hc => hf (by simp [folders, hc])
  have habs : isAbs (restOf prod file) = false := by
    cases prod with
    | nil => exact absurd rfl hne
    | cons c p =>
      have : c ≠ '/' := fun e => h2 (by simp [e])
      cases file <;> simp [restOf, isAbs, this]
  have hd : parseDataReference sf (compileReference prod file m none) = some (prod, file, m) := by
    have hsp : splitColon2 (compileReference prod file m none) = some (restOf prod file, m) := by
      simp only [compileReference, refBody_eq]
      exact splitColon2_mk _ _ hr h5
    simp [pdr_eq hsp, habs, splitProd_restOf prod file h2, hsf]
  unfold parseFull
  rw [parseFullX_mk sf _ (some i) deps extra prod file m hd, ppr_noIndex prod (some i) hs]
  simp [hf, h2, h3]

/-- **compile_parse (absolute grammar).**  Every string `stageN.<rest>:<method>` with a canonically
printed `N` and a single colon is reproduced exactly by printing what the parser returns, unless
the producer is a variable (then the stage is dropped by the parser, by design). -/
theorem compile_parse (sf : List S) (hsf : SFok sf) (n : Nat) (rest m : S) (hr : ':' ∉ rest) (hm : ':' ∉ m)
    (idx : Option Nat) (deps extra : List S) :
    ∃ prod file, parseFull sf (stagePrefix n ++ (rest ++ ':' :: m)) idx deps extra =
        some (if hasVar prod then none else some n, prod, file, m) ∧
      compileReference prod file m (some n) = stagePrefix n ++ (rest ++ ':' :: m) := by
  refine ⟨(splitProd rest).1, (splitProd rest).2, ?_, ?_⟩
  · unfold parseFull
    rw [parseFullX_stagePrefix sf hsf n rest m hr hm]; rfl
  · simp [compileReference, refBody_eq, restOf_splitProd]

/-- **compile_parse (relative grammar).**  Every string that is not an absolute path and carries no
explicit stage prefix (a relative component reference *or* a reference into a reserved / top-level
folder) is reproduced exactly by printing the parsed parts without a stage. -/
theorem compile_parse_relative (sf : List S) (s : S) (idx : Option Nat) (deps extra : List S)
    (si : Option Nat) (job : S) (file : Option S) (m : S)
    (h : parseFullX sf s idx deps extra = some (si, job, file, m, false)) (habs : isAbs s = false) :
    compileReference job file m none = s := by
  obtain ⟨hd, _⟩ := parseFullX_noIndex sf s idx deps extra si job file m h
  obtain ⟨pre, hs⟩ := pdr_split hd
  obtain ⟨_, _, _, _, hrel⟩ := pdr_producer hs hd
  obtain ⟨hs1, _, _⟩ := splitColon2_some s pre m hs
  rw [hs1, isAbs_append_colon] at habs
  rw [hs1, ← hrel habs]
  exact refBody_eq job file m

/-! ## 2. Expansion to the absolute form is idempotent -/

private theorem expandPotential_absolute (sf : List S) (hsf : SFok sf) (n : Nat) (rest m : S) (hr : ':' ∉ rest)
    (hm : ':' ∉ m) (ctx : Nat) (known : Option (List (Nat × List S))) (tlf : Option (List S)) (force : Bool) :
    expandPotential sf (stagePrefix n ++ (rest ++ ':' :: m)) ctx known tlf force
      = some (stagePrefix n ++ (rest ++ ':' :: m)) := by
  unfold expandPotential
  rw [parseFullX_stagePrefix sf hsf n rest m hr hm none [] []]
  simp only
  by_cases hv : isVarRef (splitProd rest).1 = true
  · rw [if_pos hv]
  · have hv' : hasVar (splitProd rest).1 = false := by
      simpa [isVarRef] using fun h : hasVar (splitProd rest).1 = true => hv (by simp [isVarRef, h])
    rw [if_neg hv]
    simp only [hv', Bool.false_eq_true, if_false, Option.getD_some]
    split
    · simp [compileReference, refBody_eq, restOf_splitProd]
    · rfl

/-- **expand_idempotent.**  For every string, every context stage, every set of known components,
every list of top-level folders (or none) and both values of `force_expand`: expanding the result of
`expand_potential_component_reference` again changes nothing. -/
theorem expand_idempotent (sf : List S) (hsf : SFok sf) (ref : S) (ctx : Nat)
    (known : Option (List (Nat × List S))) (tlf : Option (List S)) (force : Bool) (r : S)
    (h : expandPotential sf ref ctx known tlf force = some r) :
    expandPotential sf r ctx known tlf force = some r := by
  have h0 := h
  unfold expandPotential at h
  cases hp : parseFullX sf ref none [] [] with
  | none => rw [hp] at h; cases h
  | some q =>
    obtain ⟨si, prod, file, m, has⟩ := q
    rw [hp] at h
    simp only at h
    -- the result is the argument itself, or the absolute spelling of its parts
    split at h
    · cases h; exact h0
    · split at h
      · cases h
        obtain ⟨ref0, hd, hjob, _, _⟩ := parseFullX_some sf ref none [] [] si prod file m has hp
        obtain ⟨hc1, hc2, hc3⟩ := pdr_colon_free sf ref ref0 m file hd
        have hprod : ':' ∉ prod := hjob ▸ fun hc => hc1 (ppr_job_subset ref0 none hc)
        rw [show compileReference prod file m (some (si.getD ctx))
          = stagePrefix (si.getD ctx) ++ (restOf prod file ++ ':' :: m) by simp [compileReference, refBody_eq]]
        exact expandPotential_absolute sf hsf _ _ _ (colon_restOf hprod hc2) hc3 ctx known tlf force
      · cases h; exact h0

/-! ## 3. Relative and absolute spellings agree -/

/-- **relative_absolute_agree.**  If the relative spelling `rel`, read in context stage `i`, is a
component reference `(j, prod, file, m)` (no explicit stage in the string), then `j = i` and the
absolute spelling `stage<i>.<rel>` — read in *any* context — names the same producer, file and
method in stage `i`. -/
theorem relative_absolute_agree (sf : List S) (hsf : SFok sf) (rel : S) (i j : Nat) (deps extra : List S)
    (prod : S) (file : Option S) (m : S)
    (h : parseFullX sf rel (some i) deps extra = some (some j, prod, file, m, false))
    (idx : Option Nat) :
    j = i ∧ parseFullX sf (stagePrefix i ++ rel) idx deps extra = some (some i, prod, file, m, true) := by
  obtain ⟨hd, hsi⟩ := parseFullX_noIndex sf rel (some i) deps extra (some j) prod file m h
  -- the reference is not direct
  have hnd : ((folders sf deps extra).contains prod || prod.contains '/' || hasVar prod) = false :=
    Bool.eq_false_iff.mpr fun hdd => by rw [if_pos hdd] at hsi; cases hsi
  rw [hnd] at hsi
  simp only [Bool.false_eq_true, if_false, Option.some.injEq] at hsi
  simp only [Bool.or_eq_false_iff, List.contains_eq_mem, decide_eq_false_iff_not] at hnd
  obtain ⟨⟨_, hslash⟩, hvar⟩ := hnd
  refine ⟨hsi, ?_⟩
  -- so its producer is the first path segment, which the absolute spelling yields too
  obtain ⟨pre, hs⟩ := pdr_split hd
  obtain ⟨_, _, _, hplain, _⟩ := pdr_producer hs hd
  obtain ⟨_, rfl, rfl⟩ := hplain hslash
  obtain ⟨hs1, hpre, hm'⟩ := splitColon2_some rel pre m hs
  rw [hs1, parseFullX_stagePrefix sf hsf i pre m hpre hm' idx deps extra, hvar]
  rfl

/-! ## 4. Classification -/

/-- first path segment of the text before the colon -/
def firstSeg (pre : S) : S := (splitProd pre).1

theorem firstSeg_eq_self {k : S} (h : '/' ∉ k) : firstSeg k = k := by
  simp [firstSeg, splitProd, (splitFirst_none_iff '/' k).mpr h]

theorem firstSeg_append_slash (key rest : S) : firstSeg (key ++ '/' :: rest) = firstSeg key := by
  unfold firstSeg splitProd
  cases hq : splitFirst '/' key with
  | none => rw [splitFirst_append '/' key rest ((splitFirst_none_iff '/' key).mp hq)]
  | some ab =>
    obtain ⟨a, b⟩ := ab
    obtain ⟨hab, hna⟩ := splitFirst_some hq
    rw [show key ++ '/' :: rest = a ++ '/' :: (b ++ '/' :: rest) by rw [hab]; simp, splitFirst_append '/' a _ hna]

theorem topLevelFolders_eq (keys : List S) : topLevelFolders keys = keys.map firstSeg :=
  List.map_congr_left fun k _ => by unfold firstSeg splitProd; cases splitFirst '/' k <;> rfl

theorem firstSeg_pre_mem {keys : List S} {key pre : S} (hk : key ∈ keys)
    (hpre : pre = key ∨ ∃ rest, pre = key ++ '/' :: rest) : firstSeg pre ∈ topLevelFolders keys := by
  have : firstSeg pre = firstSeg key := by
    rcases hpre with rfl | ⟨rest, rfl⟩
    · rfl
    · exact firstSeg_append_slash key rest
  rw [this, topLevelFolders_eq]
  exact List.mem_map_of_mem hk

/-- **classification (iff).**  Let `value = pre:m` parse in context stage `i`.  It is treated as a
reference to a component **iff** its producer is not a variable and either it carries an explicit
`stageN.` prefix, or it is not an absolute path and its first path segment is not a reserved
folder, an application-dependency name or a top-level / manifest folder.  In the second case the
component is the first path segment, in the context stage. -/
theorem classification (sf : List S) (value pre m' : S) (i : Nat) (deps extra : List S)
    (si : Option Nat) (job : S) (file : Option S) (m : S) (has : Bool)
    (hs : splitColon2 value = some (pre, m'))
    (h : parseFullX sf value (some i) deps extra = some (si, job, file, m, has)) :
    (si.isSome = true ↔
      hasVar job = false ∧ (has = true ∨ (isAbs pre = false ∧ firstSeg pre ∉ folders sf deps extra))) ∧
    (has = false → si.isSome = true → si = some i ∧ job = firstSeg pre) := by
  cases has with
  | true =>
    obtain ⟨ref0, _, _, hhas, hsi⟩ := parseFullX_some sf value (some i) deps extra si job file m true h
    have hsome := ppr_hasIndex ref0 (some i) hhas
    refine ⟨?_, by simp⟩
    rw [hsi]
    cases hv : hasVar job <;> simp [hsome]
  | false =>
    obtain ⟨hd, hsi⟩ := parseFullX_noIndex sf value (some i) deps extra si job file m h
    obtain ⟨_, _, hsl, hplain, _⟩ := pdr_producer hs hd
    subst hsi
    unfold firstSeg
    by_cases hj : '/' ∈ job
    · -- the producer is a path: an absolute one, or one below a reserved folder
      rcases hsl hj with ha | hin
      · simp [hj, ha]
      · simp [hj, folders, hin]
    · obtain ⟨ha, rfl, _⟩ := hplain hj
      by_cases hf : (splitProd pre).1 ∈ folders sf deps extra <;> simp [hf, hj, ha]

/-- Clause "never treated as a reference to a component", spelled out: no explicit stage prefix and
(first segment is a reserved folder / app-dep / top-level folder, or absolute path, or variable
producer) ⇒ not a component reference. -/
theorem direct_never_component (sf : List S) (value pre m' : S) (i : Nat) (deps extra : List S)
    (si : Option Nat) (job : S) (file : Option S) (m : S)
    (hs : splitColon2 value = some (pre, m'))
    (h : parseFullX sf value (some i) deps extra = some (si, job, file, m, false))
    (hd : firstSeg pre ∈ folders sf deps extra ∨ isAbs pre = true ∨ hasVar job = true) : si = none := by
  have hc := (classification sf value pre m' i deps extra si job file m false hs h).1
  cases si with
  | none => rfl
  | some n =>
    have := hc.mp rfl
    rcases hd with hd | hd | hd <;> simp [hd] at this

/-- Clause "every other reference … is", spelled out: no explicit stage prefix, not absolute, first
segment not a folder name and not a variable ⇒ component `firstSeg` of the context stage. -/
theorem other_is_component (sf : List S) (value pre m' : S) (i : Nat) (deps extra : List S)
    (si : Option Nat) (job : S) (file : Option S) (m : S)
    (hs : splitColon2 value = some (pre, m'))
    (h : parseFullX sf value (some i) deps extra = some (si, job, file, m, false))
    (h1 : firstSeg pre ∉ folders sf deps extra) (h2 : isAbs pre = false) (h3 : hasVar job = false) :
    si = some i ∧ job = firstSeg pre := by
  have hc := classification sf value pre m' i deps extra si job file m false hs h
  have : si.isSome = true := hc.1.mpr ⟨h3, Or.inr ⟨h2, h1⟩⟩
  exact hc.2 rfl this

/-- A reference whose producer is a known component of the stage it resolves to is rewritten to the
absolute spelling by `expand_potential_component_reference`, whatever the folder lists are. -/
theorem known_component_expanded (sf : List S) (ref : S) (ctx : Nat) (k : List (Nat × List S))
    (tlf : Option (List S)) (force : Bool) (si : Option Nat) (prod : S) (file : Option S) (m : S) (has : Bool)
    (hp : parseFullX sf ref none [] [] = some (si, prod, file, m, has))
    (hv : isVarRef prod = false) (hk : prod ∈ knownAt k (si.getD ctx)) :
    expandPotential sf ref ctx (some k) tlf force = some (compileReference prod file m (some (si.getD ctx))) := by
  simp [expandPotential, expandDecision, hp, hv, hk]

private theorem producer_firstSeg_or_path {sf : List S} {v pre m' ref m : S} {file : Option S}
    (hs : splitColon2 v = some (pre, m')) (h : parseDataReference sf v = some (ref, file, m)) :
    ref = firstSeg pre ∨ '/' ∈ ref := by
  obtain ⟨_, _, _, hplain, _⟩ := pdr_producer hs h
  exact (Decidable.em ('/' ∈ ref)).symm.imp (fun hj => (hplain hj).2.1) id

/-- A reference without stage prefix whose first segment is one of the folders handed to
`expand_component_references` (manifest top-level folders, app-dep names, reserved folders), and
is not the name of a known component of the context stage, is left as it is. -/
theorem direct_reference_not_expanded (sf : List S) (value pre m' : S) (ctx : Nat)
    (known : Option (List (Nat × List S))) (deps tlf : List S)
    (si : Option Nat) (prod : S) (file : Option S) (m : S)
    (hs : splitColon2 value = some (pre, m'))
    (hp : parseFullX sf value none [] [] = some (si, prod, file, m, false))
    (habs : isAbs pre = false)
    (hf : firstSeg pre ∈ expandAllFolders sf deps tlf)
    (hk : ∀ k, known = some k → ∀ x ∈ knownAt k ctx, x ≠ firstSeg pre ∧ '/' ∉ x) :
    expandOne sf value ctx known deps tlf = some value := by
  obtain ⟨hd, hsi⟩ := parseFullX_noIndex sf value none [] [] si prod file m hp
  have hn : si = none := by rw [hsi]; split <;> rfl
  subst hn
  have hprod := producer_firstSeg_or_path hs hd
  have hdir : prod ∈ expandAllFolders sf deps tlf ∨ '/' ∈ prod := hprod.imp_left fun (e : prod = firstSeg pre) => e ▸ hf
  have hnk : ∀ k, known = some k → prod ∉ knownAt k ctx := fun k hk' hmem =>
    hprod.elim (hk k hk' prod hmem).1 (hk k hk' prod hmem).2
  have hdec : expandDecision none prod ctx known (some (expandAllFolders sf deps tlf)) false = false := by
    unfold expandDecision
    cases known with
    | none => rcases hdir with e | e <;> simp [e]
    | some k => rcases hdir with e | e <;> simp [e, hnk k rfl]
  unfold expandOne expandPotential
  rw [hp]
  simp only [hdec, Bool.false_eq_true, if_false]
  split <;> rfl

/-! ## 5. Manifest folders (repaired `Manifest.top_level_folders`) -/

/-- the first path segment of a path below a manifest key is a top-level folder of the manifest -/
theorem firstSeg_under_key_mem (keys : List S) (key rest : S) (hk : key ∈ keys) :
    firstSeg (key ++ '/' :: rest) ∈ topLevelFolders keys ∧ firstSeg key ∈ topLevelFolders keys :=
  ⟨firstSeg_pre_mem hk (Or.inr ⟨rest, rfl⟩), firstSeg_pre_mem hk (Or.inl rfl)⟩

/-- **manifest_top_level.**  With the top-level folders computed from *any* manifest (flat or nested
keys), a reference `key/rest:m` or `key:m` to a manifest folder that carries no stage prefix is never
treated as a reference to a component. -/
theorem manifest_top_level (sf : List S) (keys : List S) (key : S) (hk : key ∈ keys)
    (value pre m' : S) (i : Nat) (deps : List S) (si : Option Nat) (job : S) (file : Option S) (m : S)
    (hs : splitColon2 value = some (pre, m'))
    (hpre : pre = key ∨ ∃ rest, pre = key ++ '/' :: rest)
    (h : parseFullX sf value (some i) deps (topLevelFolders keys) = some (si, job, file, m, false)) :
    si = none := by
  apply direct_never_component sf value pre m' i deps (topLevelFolders keys) si job file m hs h
  left
  simp [folders, firstSeg_pre_mem hk hpre]

/-- repaired `top_level_folders` never returns a name with a `/` -/
theorem topLevelFolders_no_slash (keys : List S) : ∀ f ∈ topLevelFolders keys, '/' ∉ f := by
  intro f hf
  rw [topLevelFolders_eq] at hf
  obtain ⟨k, _, rfl⟩ := List.mem_map.mp hf
  exact splitProd_fst_no_slash k

/-! ## 6. Sessions: every answer is a function of the call's own arguments

`Model/RefSession.lean`: a *session* is a sequence of calls (with their optional arguments spelled
`none` / `some []` / `some l`) made in one interpreter whose class-level tables
(`FlowIR.SpecialFolders`, `data_reference_methods`, `DataReference.methods`) are `t`.  The theorems
below hold for every session, i.e. every history of earlier calls with any other name sets. -/

theorem run_eq (t : Tables) (cs : List Call) : run t cs = (t, cs.map (answer t)) := by
  induction cs with
  | nil => rfl
  | cons c cs ih => simp [run, step, ih]

/-- **session_tables_invariant.**  No sequence of calls changes the class-level tables. -/
theorem session_tables_invariant (t : Tables) (cs : List Call) : (run t cs).1 = t := by
  rw [run_eq]

/-- **session_answers_pointwise.**  The answers of a session are the answers of its calls taken one
by one: nothing is carried from one call to the next. -/
theorem session_answers_pointwise (t : Tables) (cs : List Call) : (run t cs).2 = cs.map (answer t) := by
  rw [run_eq]

/-- the `k`-th answer of any session is `answer t` of the `k`-th call -/
theorem session_answer_at (t : Tables) (cs : List Call) (k : Nat) (c : Call) (h : cs[k]? = some c) :
    (run t cs).2[k]? = some (answer t c) := by
  rw [session_answers_pointwise]; simp [h]

/-- **answer_depends_only_on_arguments.**  After any two histories `h1`, `h2` the same call gets the
same answer, namely the one it gets in a fresh interpreter. -/
theorem answer_depends_only_on_arguments (t : Tables) (h1 h2 : List Call) (c : Call) :
    (run t (h1 ++ [c])).2.getLast? = some (answer t c) ∧
    (run t (h2 ++ [c])).2.getLast? = some (answer t c) ∧
    (run t [c]).2 = [answer t c] := by
  simp [session_answers_pointwise]

/-- **classification_depends_only_on_arguments.**  The classification of a reference
(`ParseDataReferenceFull`) in a session is determined by the string, the context stage and the
application dependencies / top-level folders *of that call*: it is the pure `parseFull` of
`Model/Ref.lean` (about which sections 1-5 speak), whatever was parsed before — in particular the
application dependencies of earlier calls are not reserved names for later ones. -/
theorem classification_depends_only_on_arguments (t : Tables) (hist : List Call) (v : S) (i : Option Nat)
    (deps extra : Option (List S)) :
    (run t (hist ++ [.full v i deps extra])).2.getLast? =
      some (match parseFull t.special v i (olist deps) (olist extra) with
        | none => Answer.err
        | some (si, job, f, m) => Answer.full si job f m) := by
  simp only [session_answers_pointwise, List.map_append, List.map_cons, List.map_nil, answer]
  cases parseFull t.special v i (olist deps) (olist extra) with
  | none => simp
  | some q => obtain ⟨si, job, f, m⟩ := q; simp

/-- a session may be cut into batches at any point: same tables, same answers -/
theorem session_split (t : Tables) (a b : List Call) :
    run t (a ++ b) = (t, (run t a).2 ++ (run t b).2) := by
  simp only [run_eq, List.map_append]

/-- **session_reorder.**  The same call made at position `k` of one session and at position `k'` of
any other session (other calls before it, other order) gets the same answer. -/
theorem session_reorder (t : Tables) (cs cs' : List Call) (k k' : Nat) (c : Call)
    (h : cs[k]? = some c) (h' : cs'[k']? = some c) : (run t cs).2[k]? = (run t cs').2[k']? := by
  rw [session_answer_at t cs k c h, session_answer_at t cs' k' c h']

/-! ### optional arguments: `None` and `[]` are the same (empty) name set -/

/-- `ParseDataReferenceFull`: `application_dependencies` / `special_folders` given as `None` or `[]` -/
theorem optional_none_is_empty_full (t : Tables) (v : S) (i : Option Nat) (d e : Option (List S)) :
    answer t (.full v i none e) = answer t (.full v i (some []) e) ∧
    answer t (.full v i d none) = answer t (.full v i d (some [])) := by
  simp [answer, olist]

/-- `is_datareference_to_component`, `expand_component_references`, `DataReferenceInfo`,
`validate_references` -/
theorem optional_none_is_empty_others (t : Tables) (v : S) (refs : List S) (ctx : Nat) (known : Option Known)
    (k : Known) (d e : Option (List S)) (im : Option Nat) :
    answer t (.isc v none) = answer t (.isc v (some [])) ∧
    answer t (.expandAll refs ctx known none e) = answer t (.expandAll refs ctx known (some []) e) ∧
    answer t (.expandAll refs ctx known d none) = answer t (.expandAll refs ctx known d (some [])) ∧
    answer t (.dri v ctx none) = answer t (.dri v ctx (some [])) ∧
    answer t (.vrefs v k im none) = answer t (.vrefs v k im (some [])) := by
  simp [answer, olist, expandAll, dataRefInfo, validateRefs]

/-- `expand_potential_component_reference`: `top_level_folders=None` and `[]` give the same answer -/
theorem optional_none_is_empty_expand (t : Tables) (v : S) (ctx : Nat) (known : Option Known) (force : Bool) :
    answer t (.expand v ctx known none force) = answer t (.expand v ctx known (some []) force) := by
  simp [answer, expandPotential, expandDecision]

/-! ### the folder / dependency arguments are name *sets* -/

/-- **classification_depends_only_on_name_sets.**  Two spellings of the folder arguments with the same
members (other order, duplicates, a name moved between the application dependencies and the top-level
folders) classify every string identically. -/
theorem classification_depends_only_on_name_sets (sf : List S) (v : S) (i : Option Nat)
    (d1 e1 d2 e2 : List S) (h : ∀ x, x ∈ folders sf d1 e1 ↔ x ∈ folders sf d2 e2) :
    parseFullX sf v i d1 e1 = parseFullX sf v i d2 e2 := by
  unfold parseFullX
  cases parseDataReference sf v with
  | none => rfl
  | some q =>
    obtain ⟨ref, file, m⟩ := q
    simp only
    rw [Bool.eq_iff_iff.mpr (show (folders sf d1 e1).contains (parseProducerReference ref i).2.1 = true ↔
      (folders sf d2 e2).contains (parseProducerReference ref i).2.1 = true by simpa using h _)]

/-- the same for the top-level-folder list of `expand_potential_component_reference` -/
theorem expand_depends_only_on_name_sets (sf : List S) (v : S) (ctx : Nat) (known : Option Known)
    (t1 t2 : List S) (force : Bool) (h : ∀ x, x ∈ t1 ↔ x ∈ t2) :
    expandPotential sf v ctx known (some t1) force = expandPotential sf v ctx known (some t2) force := by
  have hc : ∀ p : S, t1.contains p = t2.contains p := fun p => Bool.eq_iff_iff.mpr (by simpa using h p)
  have he : t1.isEmpty = t2.isEmpty :=
    Bool.eq_iff_iff.mpr (by simp only [List.isEmpty_iff, List.eq_nil_iff_forall_not_mem, h])
  unfold expandPotential expandDecision
  simp only [hc, he]

/-! ## 7. Top-level folders derived from disk (`Model/RefDir.lean`)

The folder set of the clause "top-level or manifest folder of the package" is not an input of the
code: it is derived from the package / instance directory by `Manifest.fromDirectory` (implied
manifest), merged with the explicit manifest by `configurationForExperiment`.  The theorems below
hold for **every** directory listing (any mix of real directories, files, links to directories, links
to files, broken links, other entries), every explicit manifest and every reference string. -/

/-- names returned by `os.listdir` never contain a `/` -/
def ListingOk (l : List Entry) : Prop := ∀ e ∈ l, '/' ∉ e.name

/-- **mem_impliedKeys_iff.**  `Manifest.fromDirectory(path, include_dirs=d, include_files=f)` has the
key `n` iff the directory has an entry called `n` that — links followed — is a directory (and `d`) or
a regular file (and `f`). -/
theorem mem_impliedKeys_iff (l : List Entry) (d f : Bool) (n : S) :
    n ∈ impliedKeys (some l) d f ↔
      ∃ e ∈ l, e.name = n ∧ ((d = true ∧ e.kind.isDir = true) ∨ (f = true ∧ e.kind.isFile = true)) := by
  unfold impliedKeys
  simp only [List.mem_map, List.mem_filter, Bool.or_eq_true, Bool.and_eq_true]
  constructor
  · rintro ⟨e, ⟨he, hk⟩, rfl⟩; exact ⟨e, he, rfl, hk⟩
  · rintro ⟨e, he, rfl, hk⟩; exact ⟨e, ⟨he, hk⟩, rfl⟩

/-- a path that is not a directory has no implied manifest -/
theorem impliedKeys_not_a_directory (d f : Bool) : impliedKeys none d f = [] := rfl

/-- the left-most folder of a key without `/` is the key -/
theorem topLevelFolders_flat (keys : List S) (h : ∀ k ∈ keys, '/' ∉ k) : topLevelFolders keys = keys := by
  rw [topLevelFolders_eq]
  conv => rhs; rw [← List.map_id keys]
  exact List.map_congr_left fun k hk => firstSeg_eq_self (h k hk)

/-- `mergedKeys` has exactly the members of both key lists -/
theorem mem_mergedKeys (explicit implied : List S) (k : S) :
    k ∈ mergedKeys explicit implied ↔ k ∈ explicit ∨ k ∈ implied := by
  unfold mergedKeys
  simp only [List.mem_append, List.mem_filter, Bool.not_eq_true', List.contains_eq_mem, decide_eq_false_iff_not]
  constructor
  · rintro (h | ⟨h, _⟩)
    · exact Or.inl h
    · exact Or.inr h
  · rintro (h | h)
    · exact Or.inl h
    · by_cases hk : k ∈ explicit
      · exact Or.inl hk
      · exact Or.inr ⟨h, hk⟩

/-- **derived_folder_iff.**  Without an explicit manifest, `n` is a top-level folder of the package
**iff** the package directory has an entry `n` that resolves to a directory (a real directory or a
link / chain of links ending in one): nothing more (no file, no link to a file, no broken link), nothing
less (no linked directory is left out). -/
theorem derived_folder_iff (l : List Entry) (hl : ListingOk l) (n : S) :
    n ∈ packageFolders (some l) [] ↔ ∃ e ∈ l, e.name = n ∧ e.kind.isDir = true := by
  have hflat : ∀ k ∈ mergedKeys [] (impliedKeys (some l) true false), '/' ∉ k := by
    intro k hk
    rcases (mem_mergedKeys _ _ k).mp hk with h | h
    · cases h
    · obtain ⟨e, he, rfl, _⟩ := (mem_impliedKeys_iff l true false k).mp h
      exact hl e he
  unfold packageFolders
  rw [topLevelFolders_flat _ hflat, mem_mergedKeys, mem_impliedKeys_iff]
  simp

private theorem dir_entry_key (l : List Entry) (explicit : List S) {e : Entry} (he : e ∈ l)
    (hd : e.kind.isDir = true) : e.name ∈ mergedKeys explicit (impliedKeys (some l) true false) :=
  (mem_mergedKeys _ _ _).mpr (Or.inr ((mem_impliedKeys_iff l true false e.name).mpr ⟨e, he, rfl, Or.inl ⟨rfl, hd⟩⟩))

/-- **packageFolders_superset.**  Whatever the explicit manifest is, the folder set of the loaded
package contains the left-most folder of every explicit key and every entry of the package directory
that resolves to a directory. -/
theorem packageFolders_superset (l : List Entry) (explicit : List S) :
    (∀ k ∈ explicit, firstSeg k ∈ packageFolders (some l) explicit) ∧
    (∀ e ∈ l, e.kind.isDir = true → firstSeg e.name ∈ packageFolders (some l) explicit) := by
  constructor
  · intro k hk
    exact firstSeg_pre_mem ((mem_mergedKeys _ _ k).mpr (Or.inl hk)) (Or.inl rfl)
  · intro e he hd
    exact firstSeg_pre_mem (dir_entry_key l explicit he hd) (Or.inl rfl)

/-- **link_to_directory_is_top_level_folder.**  A symbolic link to a directory at the top level of the
package is a top-level folder of the package, with or without an explicit manifest. -/
theorem link_to_directory_is_top_level_folder (l : List Entry) (explicit : List S) (e : Entry)
    (he : e ∈ l) (hk : e.kind = .linkDir) (hn : '/' ∉ e.name) : e.name ∈ packageFolders (some l) explicit := by
  have h := (packageFolders_superset l explicit).2 e he (by rw [hk]; rfl)
  rwa [firstSeg_eq_self hn] at h

/-- **directory_entry_never_component.**  Let `e` be an entry of the package directory that resolves
to a directory.  Under the folder set that loading the package derives from disk (any explicit
manifest), a reference `e:m` or `e/rest:m` without stage prefix is never treated as a reference to a
component by `ParseDataReferenceFull`. -/
theorem directory_entry_never_component (sf : List S) (l : List Entry) (explicit : List S) (e : Entry)
    (he : e ∈ l) (hd : e.kind.isDir = true)
    (value pre m' : S) (i : Nat) (deps : List S) (si : Option Nat) (job : S) (file : Option S) (m : S)
    (hs : splitColon2 value = some (pre, m'))
    (hpre : pre = e.name ∨ ∃ rest, pre = e.name ++ '/' :: rest)
    (h : parseFullX sf value (some i) deps (packageFolders (some l) explicit) = some (si, job, file, m, false)) :
    si = none :=
  manifest_top_level sf _ e.name (dir_entry_key l explicit he hd) value pre m' i deps si job file m hs hpre h

/-- **directory_entry_not_expanded.**  … and `expand_component_references` leaves it as it is (when its
first segment is not also the name of a known component of the context stage). -/
theorem directory_entry_not_expanded (sf : List S) (l : List Entry) (explicit : List S) (e : Entry)
    (he : e ∈ l) (hd : e.kind.isDir = true)
    (value pre m' : S) (ctx : Nat) (known : Option (List (Nat × List S))) (deps : List S)
    (si : Option Nat) (prod : S) (file : Option S) (m : S)
    (hs : splitColon2 value = some (pre, m'))
    (hpre : pre = e.name ∨ ∃ rest, pre = e.name ++ '/' :: rest)
    (hp : parseFullX sf value none [] [] = some (si, prod, file, m, false))
    (habs : isAbs pre = false)
    (hk : ∀ k, known = some k → ∀ x ∈ knownAt k ctx, x ≠ firstSeg pre ∧ '/' ∉ x) :
    expandOne sf value ctx known deps (packageFolders (some l) explicit) = some value := by
  have hf : firstSeg pre ∈ packageFolders (some l) explicit := firstSeg_pre_mem (dir_entry_key l explicit he hd) hpre
  apply direct_reference_not_expanded sf value pre m' ctx known deps _ si prod file m hs hp habs _ hk
  simp [expandAllFolders, hf]

/-- **directory_entry_not_a_component_reference.**  … and `is_datareference_to_component` answers
`False` for it under the derived folder set. -/
theorem directory_entry_not_a_component_reference (sf : List S) (l : List Entry) (explicit : List S) (e : Entry)
    (he : e ∈ l) (hd : e.kind.isDir = true)
    (value pre m' ref : S) (file : Option S) (m : S)
    (hs : splitColon2 value = some (pre, m'))
    (hpre : pre = e.name ∨ ∃ rest, pre = e.name ++ '/' :: rest)
    (hdr : parseDataReference sf value = some (ref, file, m))
    (habs : isAbs pre = false)
    (hni : (parseProducerReference ref none).2.2 = false) :
    isDataRefToComponent sf value (packageFolders (some l) explicit) = some false := by
  have hf : firstSeg pre ∈ packageFolders (some l) explicit := firstSeg_pre_mem (dir_entry_key l explicit he hd) hpre
  unfold isDataRefToComponent
  rw [hdr]
  simp only [ppr_noIndex ref none hni]
  rcases producer_firstSeg_or_path hs hdr with e1 | e1
  · have : ref ∈ packageFolders (some l) explicit := e1 ▸ hf
    simp [this]
  · simp [e1]

/-- **instance_keeps_package_folders.**  Every top-level folder of a package directory is a top-level
folder of the instance directory created from it (entries are copied with their kind: links stay
links), and so are `input`, `stages` and `output`. -/
theorem instance_keeps_package_folders (pkg : List Entry) (n : S) (h : n ∈ packageFolders (some pkg) []) :
    n ∈ packageFolders (some (instanceListing pkg)) [] := by
  unfold packageFolders at h ⊢
  obtain ⟨k, hk, rfl⟩ := List.mem_map.mp h
  refine List.mem_map.mpr ⟨k, ?_, rfl⟩
  rcases (mem_mergedKeys _ _ k).mp hk with h0 | h0
  · cases h0
  · obtain ⟨e, he, hn, hc⟩ := (mem_impliedKeys_iff pkg true false k).mp h0
    exact (mem_mergedKeys _ _ k).mpr (Or.inr ((mem_impliedKeys_iff _ true false k).mpr
      ⟨e, by simp [instanceListing, he], hn, hc⟩))

/-- **deployed_manifest_folder.**  The entry that deploying a manifest key (`:copy` or `:link`) creates
in the instance directory resolves to a directory and is called like the left-most folder of the key:
when the instance is loaded again, that folder is in the derived set whichever method deployed it. -/
theorem deployed_manifest_folder (key : S) (m : Deploy) (l : List Entry) (h : deployEntry key m ∈ l) :
    (deployEntry key m).kind.isDir = true ∧ (deployEntry key m).name = firstSeg key ∧
      firstSeg key ∈ packageFolders (some l) [] := by
  have h1 : (deployEntry key m).kind.isDir = true := by
    unfold deployEntry
    cases splitFirst '/' key with
    | none => cases m <;> rfl
    | some ab => rfl
  have h2 : (deployEntry key m).name = firstSeg key := by
    unfold deployEntry firstSeg splitProd
    cases splitFirst '/' key <;> rfl
  refine ⟨h1, h2, ?_⟩
  have := (packageFolders_superset l []).2 _ h h1
  rw [h2] at this
  rwa [firstSeg_eq_self (k := firstSeg key) (splitProd_fst_no_slash key)] at this

/-! ## Non-vacuity: the hypotheses are satisfiable by non-trivial inputs -/

/-- a package directory with a real folder, a linked folder, a file, a link to a file and a broken
link: the folder set, and a reference into the linked folder -/
example : packageFolders (some [⟨"conf".toList, .dir⟩, ⟨"forcefield".toList, .linkDir⟩, ⟨"README.md".toList, .file⟩,
      ⟨"latest".toList, .linkFile⟩, ⟨"gone".toList, .broken⟩]) ["data/sets".toList]
    = ["data".toList, "conf".toList, "forcefield".toList] := by
  simp -index only [String.toList_ofList]
  decide +kernel

example : parseFullX Gen.C09.specialFoldersC "forcefield/params.txt:ref".toList (some 0) []
      (packageFolders (some [⟨"conf".toList, .dir⟩, ⟨"forcefield".toList, .linkDir⟩]) [])
    = some (none, "forcefield".toList, some "params.txt".toList, "ref".toList, false) := by
  simp -index only [String.toList_ofList]
  decide +kernel

example : isDataRefToComponent Gen.C09.specialFoldersC "forcefield:copy".toList
      (packageFolders (some [⟨"forcefield".toList, .linkDir⟩, ⟨"gone".toList, .broken⟩]) []) = some false ∧
    isDataRefToComponent Gen.C09.specialFoldersC "gone:copy".toList
      (packageFolders (some [⟨"forcefield".toList, .linkDir⟩, ⟨"gone".toList, .broken⟩]) []) = some true := by
  simp -index only [String.toList_ofList]
  decide +kernel

example : ListingOk [⟨"conf".toList, .dir⟩, ⟨"forcefield".toList, .linkDir⟩] := by
  unfold ListingOk
  simp -index only [String.toList_ofList]
  decide +kernel

example : WFparts "gen.x-1".toList (some "out/a.txt".toList) "ref".toList := by
  unfold WFparts
  simp -index only [String.toList_ofList]
  decide +kernel

example : parseFull Gen.C09.specialFoldersC "stage3.gen.x-1/out/a.txt:ref".toList (some 7) [] []
    = some (some 3, "gen.x-1".toList, some "out/a.txt".toList, "ref".toList) := by
  simp -index only [String.toList_ofList]
  decide +kernel

example : parseFullX Gen.C09.specialFoldersC "0#loop/f:loopref".toList (some 2) [] ["foo".toList]
    = some (some 2, "0#loop".toList, some ['f'], "loopref".toList, false) := by
  simp -index only [String.toList_ofList]
  decide +kernel

/-- a reference into a nested manifest folder is direct with the repaired `topLevelFolders` -/
example : parseFullX Gen.C09.specialFoldersC "foo/bar/f:ref".toList (some 0) [] (topLevelFolders ["foo/bar".toList])
    = some (none, "foo".toList, some "bar/f".toList, "ref".toList, false) := by
  simp -index only [String.toList_ofList]
  decide +kernel

example : expandPotential Gen.C09.specialFoldersC "c0/x:copy".toList 1 (some [(1, ["c0".toList])]) none false
    = some "stage1.c0/x:copy".toList := by
  simp -index only [String.toList_ofList]
  decide +kernel

example : expandOne Gen.C09.specialFoldersC "mydep/x:copy".toList 1 (some [(1, ["c0".toList])])
    ["/opt/Apps/MyDep.git/".toList] [] = some "mydep/x:copy".toList := by
  simp -index only [String.toList_ofList]
  decide +kernel

/-- the prefix-matching quirk of `stage([0-9]+)` that the model keeps -/
example : parseProducerReference "stage01x.foo".toList none = (some 1, "foo".toList, true) := by
  simp -index only [String.toList_ofList]
  decide +kernel

/-- a session in which an application dependency `Solver.application` is declared by an earlier call
(without a top-level-folder list) and a later call refers to a *component* `solver`: the later
reference is a component reference, the tables are untouched -/
example :
    run ⟨Gen.C09.specialFoldersC, Gen.C09.dataReferenceMethodsC, Gen.C09.dataReferenceMethodsC⟩
      [.full "solver/bin/run.sh:ref".toList (some 0) (some ["/opt/Solver.application".toList]) none,
       .full "solver/out.dat:copy".toList (some 0) none none]
    = (⟨Gen.C09.specialFoldersC, Gen.C09.dataReferenceMethodsC, Gen.C09.dataReferenceMethodsC⟩,
       [.full none "solver".toList (some "bin/run.sh".toList) "ref".toList,
        .full (some 0) "solver".toList (some "out.dat".toList) "copy".toList]) := by
  simp -index only [String.toList_ofList]
  decide +kernel

end St4sd.C09
