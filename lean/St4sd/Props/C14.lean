import St4sd.Lemmas.Str
import St4sd.Lemmas.C14Fs
import St4sd.Lemmas.C14Sched
import St4sd.Lemmas.C14Typed
import St4sd.Lemmas.C14Listing
/-!
# C14 — Experiment state files are updated atomically and read back faithfully

Part 1 (atomicity): statements over *all* traces, all numbers and sizes of writes, all crash points.
Part 2 (fidelity): the status file encoding round-trips, for every history of updates.
Part 3 (several writers): statements over *all* interleavings of concurrent updates of one file.
Part 4 (typed values): the YAML/JSON state files hold typed values; read-back is exact (structural) equality, for every
history; a write-skipping optimisation is sound iff its comparison is structural (Python's `==` is not).
Part 5 (key-output listing): output.json is derived by reading output.txt back with a dosini reader; every value written
on a `key=value` line is read back exactly by the reader that exists (no inline comment prefixes), and a reader with inline
comment prefixes is faithful exactly on the values without `white space + prefix`.
-/
namespace St4sd.C14
open St4sd.FsAtomic

/-! ## Part 1: atomic update protocol -/

private theorem atomicGo_safe (t : Path) (tr : List Op) (dirty : List Path) (fs : Fs)
    (h : atomicGo t dirty tr = true) (n : Nat) :
    run (tr.take n) fs t = fs t ∨ run (tr.take n) fs t = run tr fs t := by
  induction tr generalizing dirty fs n with
  | nil => cases h
  | cons o tr ih =>
    cases n with
    | zero => exact .inl rfl
    | succ n =>
      rw [List.take_succ_cons, run_cons, run_cons]
      unfold atomicGo at h
      cases ht : touches t o with
      | false =>
        rw [ht] at h
        rw [← apply_noTouch fs o t ht]
        exact ih _ _ h n
      | true =>
        -- the one operation that names the target is the rename, and nothing after it names it
        rw [ht, if_pos rfl] at h
        cases o with
        | rename a b =>
          have hpost : noTouch t tr = true := by
            simp only [Bool.and_eq_true] at h
            exact h.2
          exact .inr (by rw [run_noTouch _ _ _ (noTouch_take _ _ _ hpost), run_noTouch _ _ _ hpost])
        | _ => cases h

/-- **Crash safety of the protocol.**  If the operations of an update follow the protocol
"the only operation naming the target is one final `rename tmp target` of a closed temporary file",
then after *every* prefix of the trace — i.e. whatever the crash point, however many writes of
whatever size the update performs, whatever else it does to other files — the target holds either
its previous content or the content it has after the complete update. -/
theorem atomic_protocol_safe (tr : List Op) (t : Path) (fs : Fs) (h : isAtomicProtocol tr t = true) :
    ∀ n, run (tr.take n) fs t = fs t ∨ run (tr.take n) fs t = run tr fs t :=
  atomicGo_safe t tr [] fs h

/-- The complete trace of an atomic update leaves exactly the written text in the target. -/
theorem writer_final (tmp t : Path) (chunks : List Content) (fs : Fs) (hne : tmp ≠ t) :
    run (writerTrace tmp t chunks) fs t = some (flatten chunks) := by
  unfold writerTrace
  rw [run_append, run_append, run_appends tmp chunks (run [Op.create tmp] fs) [] (set_same _ _ _)]
  simp [run, apply, FsAtomic.set, hne, Ne.symm hne]

/-- The writer "temporary file in the same directory, close, rename" follows the protocol. -/
theorem writer_trace_is_atomic (tmp t : Path) (chunks : List Content) (hne : tmp ≠ t) :
    isAtomicProtocol (writerTrace tmp t chunks) t = true := by
  have e : writerTrace tmp t chunks
      = (Op.create tmp :: chunks.map (Op.append tmp) ++ [Op.close tmp]) ++ [Op.rename tmp t] := by
    simp [writerTrace]
  have hpre : noTouch t (Op.create tmp :: chunks.map (Op.append tmp) ++ [Op.close tmp]) = true := by
    simp [noTouch, touches, hne]
  -- what is left is the rename of `tmp`, which the `close` before it took out of the open files
  rw [isAtomicProtocol, e, atomicGo_skip t _ _ hpre, List.foldl_append]
  simp [atomicGo, touches, updDirty, noTouch, hne]

/-- **Atomic update, all crash points.**  For every number and size of writes and every crash point
`n`, the target holds the complete previous version or the complete new version. -/
theorem atomic_update_safe (tmp t : Path) (chunks : List Content) (fs : Fs) (hne : tmp ≠ t) (n : Nat) :
    run ((writerTrace tmp t chunks).take n) fs t = fs t ∨
    run ((writerTrace tmp t chunks).take n) fs t = some (flatten chunks) := by
  rcases atomic_protocol_safe _ t fs (writer_trace_is_atomic tmp t chunks hne) n with h | h
  · exact Or.inl h
  · exact Or.inr (h.trans (writer_final tmp t chunks fs hne))

/-- **I/O error at any operation `i`, handler gives up** (closes the temporary file, no rename — what
`Status.update`, `OutputAgent.updateLogs` and the repaired writers do): at every crash point of the
resulting trace, and at its end, the target is still old or complete new. -/
theorem io_error_giveup_safe (tmp t : Path) (chunks : List Content) (fs : Fs) (hne : tmp ≠ t) (i n : Nat) :
    run ((writerTraceErrGiveUp tmp t chunks i).take n) fs t = fs t ∨
    run ((writerTraceErrGiveUp tmp t chunks i).take n) fs t = some (flatten chunks) := by
  unfold writerTraceErrGiveUp
  rw [List.take_append]
  rw [run_append]
  have hclose : ∀ (k : Nat) (g : Fs), run (List.take k [Op.close tmp]) g = g := by
    intro k g
    cases k with
    | zero => rfl
    | succ k => simp [run, apply]
  rw [hclose, List.take_take]
  exact atomic_update_safe tmp t chunks fs hne _

/-- **The in-place protocol is unsafe** (`open(target,'w')` … `close`): whenever the file had content
and the update writes content, the crash point right after the `open` shows an empty file, which is
neither the previous nor the new version.  (`store_unreplicated_flowir_to_disk` and the manifest writer
before the repair.) -/
theorem truncate_protocol_unsafe (t : Path) (chunks : List Content) (fs : Fs) (old : Content)
    (hold : fs t = some old) (h1 : old ≠ []) (h2 : flatten chunks ≠ []) :
    ∃ n, run ((truncTrace t chunks).take n) fs t ≠ fs t ∧
         run ((truncTrace t chunks).take n) fs t ≠ some (flatten chunks) := by
  have e : run ((truncTrace t chunks).take 1) fs t = some [] := by simp [truncTrace, run, apply, set_same]
  refine ⟨1, ?_, ?_⟩
  · rw [e, hold]
    exact fun h => h1 (Option.some.inj h).symm
  · rw [e]
    exact fun h => h2 (Option.some.inj h).symm

/-- the one-pass computation of the crash states the driver uses is `crashStates` -/
theorem crashStates_eq_scan (tr : List Op) (fs : Fs) (t : Path) : scanStates tr fs t = crashStates tr fs t := by
  induction tr generalizing fs with
  | nil => simp [scanStates, crashStates, run]
  | cons o tr ih =>
    simp only [scanStates, crashStates, List.length_cons] at ih ⊢
    rw [List.range_succ_eq_map, List.map_cons, List.map_map, ih]
    simp [run, Function.comp_def]

private theorem find?_congr {α : Type} (l : List α) (p q : α → Bool) (h : ∀ a ∈ l, p a = q a) : l.find? p = l.find? q := by
  induction l with
  | nil => rfl
  | cons a l ih =>
    simp only [List.find?_cons, h a (List.mem_cons_self ..)]
    rw [ih (fun b hb => h b (List.mem_cons_of_mem _ hb))]

/-- … and the first unsafe crash point read off that list is `firstUnsafe` -/
theorem firstUnsafe_eq_in (tr : List Op) (fs : Fs) (t : Path) :
    firstUnsafeIn (crashStates tr fs t) (fs t) (run tr fs t) = firstUnsafe tr fs t := by
  unfold firstUnsafeIn firstUnsafe
  have hl : (crashStates tr fs t).length = tr.length + 1 := by simp [crashStates]
  rw [hl]
  apply find?_congr
  intro n hn
  have hlt : n < tr.length + 1 := List.mem_range.1 hn
  simp [crashStates, hlt]

/-- non-vacuity: a concrete atomic update with three writes; the hypotheses are satisfiable and the
conclusion is not trivially one-sided (both disjuncts occur). -/
example : isAtomicProtocol (writerTrace ['x'] ['t'] [['a'], ['b', 'c'], ['d']]) ['t'] = true := by decide
example : run ((writerTrace ['x'] ['t'] [['a'], ['b']]).take 4) (fun q => if q = ['t'] then some ['o'] else none) ['t']
    = some ['o'] := by decide +kernel
example : run ((writerTrace ['x'] ['t'] [['a'], ['b']]).take 5) (fun q => if q = ['t'] then some ['o'] else none) ['t']
    = some ['a', 'b'] := by decide +kernel
/-- the predicate rejects the in-place writer and a rename of a file that is still open -/
example : isAtomicProtocol (truncTrace ['t'] [['a']]) ['t'] = false := by decide
example : isAtomicProtocol [.create ['x'], .append ['x'] ['a'], .rename ['x'] ['t'], .close ['x']] ['t'] = false := by decide

/-! ## Part 2: the status file is read back faithfully -/
open St4sd.StatusFile

/-- **`unicode_escape` round-trip**: for every list of Unicode scalar values (backslashes, newlines,
control characters, non-ASCII up to U+10FFFF included) un-escaping the escaped text gives the text back. -/
theorem escape_roundtrip (s : List Char) : unescape (escape s) = some s := by
  unfold unescape
  induction s with
  | nil => rfl
  | cons c s ih => rw [escape, unesc_escapeChar, ih, Option.map_some]

/-- the escaped text is a single line, so it cannot break the `key=value` line structure -/
theorem escape_single_line (s : List Char) : ∀ c ∈ escape s, c ≠ '\n' := by
  induction s with
  | nil => exact fun c hc => nomatch hc
  | cons c s ih =>
    intro d hd
    rcases List.mem_append.mp hd with hd | hd
    · exact escapeChar_noNL c d hd
    · exact ih d hd

private theorem decodeLine_clean (p : Pair) (h : pairClean p = true) :
    decodeLine (p.1 ++ '=' :: encodeValue p.1 p.2) = some (some p) ∧
    NoNL (p.1 ++ '=' :: encodeValue p.1 p.2) := by
  obtain ⟨k, v⟩ := p
  simp only [pairClean, Bool.and_eq_true] at h
  obtain ⟨hlow, hnoeq, hnonl⟩ := key_facts k h.1
  have hsplit := St4sd.Str.splitFirst_append '=' k (encodeValue k v) hnoeq
  have hline : ∀ w, NoNL w → NoNL (k ++ '=' :: w) := by
    intro w hw c hc
    simp only [List.mem_append, List.mem_cons] at hc
    rcases hc with hc | rfl | hc
    · exact hnonl c hc
    · decide
    · exact hw c hc
  by_cases he : k = errKey
  · have hv : pyStrip v = v := by simpa [he, textClean] using h.2
    have hev : encodeValue k v = escape v := if_pos he
    rw [hev] at hsplit ⊢
    refine ⟨?_, hline _ (escape_single_line v)⟩
    simp only [decodeLine, hsplit, if_pos he, escape_roundtrip, hlow, hv]
  · have hv : (∀ c ∈ v, c ≠ '\n' ∧ c ≠ '\r') ∧ pyStrip v = v := by simpa [he, plainClean] using h.2
    have hev : encodeValue k v = v := if_neg he
    rw [hev] at hsplit ⊢
    refine ⟨?_, hline _ fun c hc => (hv.1 c hc).1⟩
    simp only [decodeLine, hsplit, if_neg he, hlow, hv.2]

/-- **Status file round-trip** (`_partial`: as coded the reader applies `.strip()` to every value, so
the statement needs the decidable hypothesis `dataClean`: keys are lower-case ASCII/digits/`-`; the
free-text value `error-description` may contain *any* characters but no white space at its two ends;
the other values are single-line and have no white space at their ends.  `Witness.C14` shows that the
hypothesis on the ends cannot be dropped.)  Reading the written file returns exactly the data. -/
theorem status_roundtrip_partial (d : Data) (h : dataClean d = true) : decode (encode d) = some d := by
  unfold decode encode
  induction d with
  | nil => simp [escapeData, rawLines, splitLines, decodeLines, decodeLine, St4sd.Str.splitFirst]
  | cons p d ih =>
    simp only [dataClean, List.all_cons, Bool.and_eq_true] at h
    obtain ⟨k, v⟩ := p
    have hl := decodeLine_clean (k, v) h.1
    have ih' := ih (by simpa [dataClean] using h.2)
    have e : rawLines (escapeData ((k, v) :: d)) =
        (k ++ '=' :: encodeValue k v) ++ '\n' :: rawLines (escapeData d) := by
      simp [escapeData, rawLines, rawLine, List.append_assoc]
    rw [e, splitLines_line _ _ hl.2]
    simp only [decodeLines, hl.1, ih']

/-- data after a history of setter rounds -/
def finalData (d : Data) (rounds : List (List Pair)) : Data := rounds.foldl applySets d

private theorem runHistory_new (rounds : List (List Pair)) : ∀ (d : Data), rounds ≠ [] →
    runHistory writeNew d rounds = (some (encode (finalData d rounds)), finalData d rounds) := by
  induction rounds with
  | nil => intro d h; exact absurd rfl h
  | cons r rs ih =>
    intro d _
    cases rs with
    | nil => rfl
    | cons r' rs' =>
      have := ih (applySets d r) (by simp)
      simpa [runHistory, writeNew, finalData] using this

/-- **Any number of updates** (repaired writer, `fixes/C14-status-escape.diff`): after a history of
`n ≥ 1` rounds of arbitrary setter calls, each followed by `update()`, the file decodes to exactly the
values last set, and the object still holds those values — for every `n`.  (Same `.strip()` caveat as
`status_roundtrip_partial`, on the final values only.) -/
theorem repeated_update_faithful (d : Data) (rounds : List (List Pair)) (hn : rounds ≠ [])
    (hc : dataClean (finalData d rounds) = true) :
    (runHistory writeNew d rounds).1.bind decode = some (finalData d rounds) ∧
    (runHistory writeNew d rounds).2 = finalData d rounds := by
  rw [runHistory_new rounds d hn]
  exact ⟨status_roundtrip_partial _ hc, rfl⟩

/-- `escapeData` applied `n` times -/
def escapeN : Nat → Data → Data
  | 0, d => d
  | n + 1, d => escapeN n (escapeData d)

/-- The writer before the repair escapes the stored text once more on every update: after `n`
updates without any setter call the object holds the `n`-fold escaped text. -/
theorem old_writer_compounds (d : Data) (n : Nat) :
    (runHistory writeOld d (List.replicate (n + 1) [])).2 = escapeN (n + 1) d := by
  induction n generalizing d with
  | zero => rfl
  | succ n ih =>
    have : runHistory writeOld d (List.replicate (n + 1 + 1) []) =
        runHistory writeOld (escapeData d) (List.replicate (n + 1) []) := rfl
    rw [this, ih (escapeData d)]
    rfl

/-- … and therefore, for *every* status, the file written by the second update of the unrepaired writer
reads back as the once-escaped data: any error description that `unicode_escape` changes (a backslash,
a newline, a non-ASCII character …) is not read back as written.  (`Witness.C14` instantiates this.) -/
theorem old_writer_second_update_reads_escaped (d : Data) (h : dataClean (escapeData d) = true) :
    (runHistory writeOld d [[], []]).1.bind decode = some (escapeData d) :=
  status_roundtrip_partial (escapeData d) h

example : dataClean (escapeData [(errKey, ['a', '\\', 'b'])]) = true ∧
    escapeData [(errKey, ['a', '\\', 'b'])] ≠ [(errKey, ['a', '\\', 'b'])] := by decide +kernel

/-- non-vacuity: a clean status with a hostile error description -/
example : dataClean [(['c', 'o', 's', 't'], ['0']),
    (errKey, ['C', ':', '\\', 't', '\n', '=', '%', 'é', '€', '\x00', '"'])] = true := by decide +kernel
example : decode (encode [(errKey, ['a', '\\', '\n', 'b'])]) = some [(errKey, ['a', '\\', '\n', 'b'])] := by decide +kernel
example : finalData [(errKey, ['x'])] [[(errKey, ['\\'])], [], []] = [(errKey, ['\\'])] := by decide +kernel

/-! ## Part 3: concurrent updates of one file (several writers, every interleaving)

`Status.update` takes no lock and is called on one `Status` object by the StatusMonitor thread and by the
main thread of `elaunch` (and by other processes: `ewrap`).  Model: `St4sd.FsConc` (names, files, open
handles with positions); a trace is the interleaving of the file operations of all the writers. -/
section Concurrent
open St4sd.FsConc

private theorem concSafe_take {t : Path} {evs : List Ev} (h : concSafe t evs = true) (n : Nat) :
    ∃ c1 c', chkRun t chk0 (evs.take n) = some c1 ∧ chkRun t chk0 evs = some c' ∧
      ∀ v ∈ c1.installed, v ∈ c'.installed := by
  cases hc : chkRun t chk0 evs with
  | none => simp [concSafe, hc] at h
  | some c' =>
    obtain ⟨c1, h1, h2⟩ := chkRun_take t evs chk0 c' n hc
    exact ⟨c1, c', h1, rfl, h2⟩

/-- **Interleaved atomic updates are safe.**  If the interleaved trace follows the protocol `concSafe`
— every update stages its text in a path that differs from the target and from the staging path of every
other update in flight, writes only through its own handle, closes, and only a closed staging file is
renamed over the target; nothing else names the target — then after *every* prefix of the trace (every
crash point of every interleaving, any number of writers, writes and updates) the target holds its
initial content or the complete text (all the writes, from open to close) of one update that the prefix
has installed. -/
theorem interleaved_atomic_updates_safe (t : Path) (evs : List Ev) (s : St) (hwf : WF s)
    (h : concSafe t evs = true) (n : Nat) :
    content (crun (evs.take n) s) t = content s t ∨
    ∃ v ∈ installedBy t (evs.take n), content (crun (evs.take n) s) t = some v := by
  obtain ⟨c1, _, h1, _, _⟩ := concSafe_take h n
  simp only [installedBy, h1]
  exact (inv_run t (content s t) (evs.take n) s chk0 c1 (Inv.init t s hwf) h1).tgt

/-- what a prefix has installed is among what the whole trace installs -/
theorem installed_by_prefix_subset (t : Path) (evs : List Ev) (h : concSafe t evs = true) (n : Nat) :
    ∀ v ∈ installedBy t (evs.take n), v ∈ installedBy t evs := by
  obtain ⟨c1, c', h1, hc, h2⟩ := concSafe_take h n
  simp only [installedBy, h1, hc]
  exact h2

/-- every prefix of a protocol-following trace follows the protocol -/
theorem concSafe_prefix (t : Path) (evs : List Ev) (h : concSafe t evs = true) (n : Nat) :
    concSafe t (evs.take n) = true := by
  obtain ⟨c1, _, h1, _, _⟩ := concSafe_take h n
  simp [concSafe, h1]

/-- **Every schedule of n updates that use pairwise different staging paths follows the protocol**: whatever
the order in which the kernel serves the operations of the `n` updates `open tmpᵢ; write…; close; rename tmpᵢ target`,
the interleaved trace satisfies `concSafe`, and the texts it installs are complete texts of these updates. -/
theorem scheduled_updates_follow_protocol (t : Path) (us : List Upd) (hd : DistinctTmps t us) (sched : List Nat) :
    concSafe t (interleave t us (fun _ => 0) sched) = true ∧
    ∀ v ∈ installedBy t (interleave t us (fun _ => 0) sched), ∃ u ∈ us, v = flatten u.chunks := by
  obtain ⟨c', h1, h2⟩ := interleave_accepted t us hd sched (fun _ => 0) chk0 (rel_init us)
  constructor
  · simp [concSafe, h1]
  · simpa only [installedBy, h1] using h2

/-- **n concurrent updates, every interleaving, every crash point**: with pairwise different staging paths
(what `uuid.uuid4()` provides) the target always holds the complete previous version or the complete text of
one of the updates — never a mixture. -/
theorem interleaved_writers_safe (t : Path) (us : List Upd) (hd : DistinctTmps t us) (s : St) (hwf : WF s)
    (sched : List Nat) (n : Nat) :
    content (crun ((interleave t us (fun _ => 0) sched).take n) s) t = content s t ∨
    ∃ u ∈ us, content (crun ((interleave t us (fun _ => 0) sched).take n) s) t = some (flatten u.chunks) := by
  obtain ⟨hs, hi⟩ := scheduled_updates_follow_protocol t us hd sched
  rcases interleaved_atomic_updates_safe t _ s hwf hs n with h | ⟨v, hv, h⟩
  · exact Or.inl h
  · obtain ⟨u, hu, e⟩ := hi v (installed_by_prefix_subset t _ hs n v hv)
    exact Or.inr ⟨u, hu, e ▸ h⟩

/-- the list of crash states the driver reports is the content of the target after every prefix of the trace -/
theorem crashStates_get (evs : List Ev) : ∀ (s : St) (t : Path) (n : Nat), n ≤ evs.length →
    (FsConc.crashStates evs s t)[n]? = some (content (crun (evs.take n) s) t) := by
  induction evs with
  | nil => intro s t n h; simp only [List.length_nil, Nat.le_zero] at h; subst h; rfl
  | cons e es ih =>
    intro s t n h
    cases n with
    | zero => rfl
    | succ n =>
      unfold FsConc.crashStates
      simp only [List.getElem?_cons_succ, List.take_succ_cons, crun_cons]
      exact ih (step s e) t n (by simpa using h)

/-- the initial states handed to the model by the harness are well-formed -/
theorem initial_state_wf (files : List (Path × Content)) : WF (mkSt files) where
  inj := by
    intro p q i h1 h2
    simp only [mkSt, List.findIdx?_eq_some_iff_getElem, beq_iff_eq] at h1 h2
    obtain ⟨_, h1, _⟩ := h1
    obtain ⟨_, h2, _⟩ := h2
    rw [← h1, ← h2]
  fresh := by
    intro p i h1
    simp only [mkSt, List.findIdx?_eq_some_iff_getElem] at h1
    exact h1.1
  nofd := fun _ => rfl

/-- a decidable sufficient form of the hypothesis on the staging paths -/
theorem distinct_tmps_of_nodup (t : Path) (us : List Upd) (h1 : (us.map Upd.tmp).Nodup) (h2 : ∀ u ∈ us, u.tmp ≠ t) :
    DistinctTmps t us where
  ne := by
    intro i j ui uj hi hj e
    have hi' : (us.map Upd.tmp)[i]? = some ui.tmp := by simp [hi]
    have hj' : (us.map Upd.tmp)[j]? = some uj.tmp := by simp [hj]
    obtain ⟨hli, hi2⟩ := List.getElem?_eq_some_iff.1 hi'
    obtain ⟨hlj, hj2⟩ := List.getElem?_eq_some_iff.1 hj'
    exact (List.getElem_inj (h₀ := hli) (h₁ := hlj) h1).1 (by rw [hi2, hj2, e])
  notT := fun i ui hi => h2 ui (List.mem_of_getElem? hi)

/-- non-vacuity: two updates of different length with different staging paths, one nested inside the other
(the second runs completely between the `open` and the first `write` of the first): accepted, both installed,
and the final content is the complete text of the update that renamed last. -/
example : concSafe ['t'] (interleave ['t'] [⟨['x'], [['a']]⟩, ⟨['y'], [['1'], ['2', '3']]⟩] (fun _ => 0)
    [0, 1, 1, 1, 1, 1, 0, 0, 0]) = true := by decide +kernel
example : installedBy ['t'] (interleave ['t'] [⟨['x'], [['a']]⟩, ⟨['y'], [['1'], ['2', '3']]⟩] (fun _ => 0)
    [0, 1, 1, 1, 1, 1, 0, 0, 0]) = [['a'], ['1', '2', '3']] := by decide +kernel
example : content (crun (interleave ['t'] [⟨['x'], [['a']]⟩, ⟨['y'], [['1'], ['2', '3']]⟩] (fun _ => 0)
    [0, 1, 1, 1, 1, 1, 0, 0, 0]) (mkSt [(['t'], ['o'])])) ['t'] = some ['a'] := by decide +kernel
example : (([⟨['x'], [['a']]⟩, ⟨['y'], [['1'], ['2', '3']]⟩] : List Upd).map Upd.tmp).Nodup := by decide +kernel
/-- the predicate rejects a second `open` of a staging path that is in flight, and a rename of an open file -/
example : concSafe ['t'] [.openW 0 ['x'], .openW 1 ['x']] = false := by decide
example : concSafe ['t'] [.openW 0 ['x'], .write 0 ['a'], .rename ['x'] ['t']] = false := by decide

end Concurrent

/-! ## Part 4: typed values in the YAML / JSON state files -/
section Typed
open St4sd.TypedStore

/-- The update the code performs (dump the new document, rename it over the target) stores the new value whatever the
file held: after every non-empty history of updates, from every initial content, the file holds exactly
(structurally: type tags included) the value written last. -/
theorem typed_store_reads_back_last (init : Stored) (h : List YVal) (v : YVal) :
    runStore writeAlways init (h ++ [v]) = some v := by
  rw [runStore_append]; rfl

/-- … and a reader between two updates always sees exactly the value of the latest update. -/
theorem typed_store_every_read_exact (init : Stored) (h : List YVal) :
    readBacks writeAlways init h = h.map some := by
  induction h generalizing init with
  | nil => rfl
  | cons v h ih => simp [readBacks, writeAlways, ih]

/-- On disk: whatever operations preceded it (any number of earlier updates, complete or not), an atomic update whose
chunks are the rendering of `v` leaves a target whose parse is exactly `v`, provided the parser inverts the renderer
(PyYAML / json as libraries: trusted, and exercised on every run). -/
theorem typed_update_on_disk_reads_back (render : YVal → Content) (parse : Content → Option YVal)
    (hrt : ∀ v, parse (render v) = some v) (pre : List Op) (fs : Fs) (tmp t : Path) (hne : tmp ≠ t)
    (v : YVal) (chunks : List Content) (hch : flatten chunks = render v) :
    (run (pre ++ writerTrace tmp t chunks) fs t).bind parse = some v := by
  rw [run_append, writer_final tmp t chunks _ hne, hch]
  simpa using hrt v

private theorem writeSkip_structural (eq : YVal → YVal → Bool) (hst : ∀ a b, eq a b = true → a = b) (f : Stored)
    (v : YVal) : writeSkip eq f v = writeAlways f v := by
  cases f with
  | none => rfl
  | some w =>
    simp only [writeSkip, writeAlways]
    split
    · next hb => rw [hst w v hb]
    · rfl

/-- Skipping the write when the file already holds a *structurally* equal value changes nothing: an identical rewrite
may be dropped. -/
theorem structural_skip_harmless (init : Stored) (h : List YVal) :
    runStore (writeSkip YVal.beq) init h = runStore writeAlways init h := by
  have : writeSkip YVal.beq = writeAlways :=
    funext fun f => funext fun v => writeSkip_structural _ (fun a b => (YVal.beq_iff a b).1) f v
  rw [this]

/-- A write-skipping optimisation "do not rewrite when `eq loaded new`" keeps the read-back clause for every history
**iff** `eq` only identifies structurally equal values. -/
theorem skip_sound_iff_structural (eq : YVal → YVal → Bool) :
    (∀ (init : Stored) (h : List YVal) (v : YVal), runStore (writeSkip eq) init (h ++ [v]) = some v) ↔
      (∀ a b, eq a b = true → a = b) := by
  constructor
  · intro hs a b hab
    simpa [runStore, writeSkip, hab] using hs (some a) [] b
  · intro hst init h v
    rw [runStore_append, writeSkip_structural eq hst]
    rfl

/-- Python's `==` identifies every pair of structurally equal values … -/
theorem pyEq_of_eq (a b : YVal) (h : a = b) : pyEq a b = true := h ▸ pyEq_refl a

/-- … and more (`3 == 3.0`, `1 == True`, `0 == False == 0.0 == -0.0`, also inside sequences and mappings): it is not
structural, -/
theorem pyEq_not_structural : ¬ ∀ a b, pyEq a b = true → a = b := by
  intro h
  have := h (.int 3) (.float 3 0) (by decide)
  cases this

/-- hence an update that skips the write when `yaml_load(existing) == data` violates the read-back clause. -/
theorem pyEq_skip_unsound :
    ¬ ∀ (init : Stored) (h : List YVal) (v : YVal), runStore (writeSkip pyEq) init (h ++ [v]) = some v :=
  fun h => pyEq_not_structural ((skip_sound_iff_structural pyEq).1 h)

example : pyEq (.int 1) (.bool true) = true ∧ pyEq (.float 1 0) (.bool true) = true ∧ pyEq (.int 0) (.fspec 0) = true ∧
    pyEq (.float 5 1) (.float 10 2) = true ∧ pyEq (.int 2) (.float 5 1) = false ∧ pyEq (.str [49]) (.int 1) = false ∧
    pyEq (.null) (.bool false) = false ∧ pyEq (.fspec 1) (.fspec 2) = false := by decide +kernel
example : pyEq (.map (.cons (.str [100]) (.cons (.seq (.cons (.int 3) (.cons (.bool false) .nil))) .nil)))
    (.map (.cons (.str [100]) (.cons (.seq (.cons (.float 3 0) (.cons (.int 0) .nil))) .nil))) = true := by decide
example : runStore writeAlways none [.int 3, .float 3 0] = some (.float 3 0) := by decide

end Typed

/-! ## Part 5: the key-output listing (output.txt -> dosini reader -> output.json) -/
section Listing
open St4sd.Listing St4sd.StatusFile

/-- For any set of inline comment prefixes the reader is faithful on every value without a `white space + prefix` mark. -/
theorem listing_line_roundtrip_unmarked (inl k v : List Char) (hk : listKey k = true) (hne : k ≠ [])
    (hinl : ∀ c ∈ k, inl.contains c = false) (hv : pyStrip v = v) (hm : hasInlineMark inl v = false) :
    readLine inl (writeLine k v) = some (lowerAscii k, v) := by
  rw [readLine_writeLine inl k v hk hne hinl, cutInline_id inl v false hm, hv]

/-- **C14 (fidelity of the listing, the reader that exists).**  For every option name made of ASCII letters and every value
that survives `strip()` (the reader strips, as the status reader does), whatever other characters it contains - `#`, `;`,
`%`, `=`, `:`, brackets, white space inside -: the dosini reader without inline comment prefixes returns exactly the
value that `updateLogs` wrote on the line (under the lower-cased option name). -/
theorem listing_line_roundtrip (k v : List Char) (hk : listKey k = true) (hne : k ≠ []) (hv : pyStrip v = v) :
    readLine [] (writeLine k v) = some (lowerAscii k, v) :=
  listing_line_roundtrip_unmarked [] k v hk hne (fun _ _ => rfl) hv (markGo_nil v false)

/-- **Necessity.**  A reader with inline comment prefixes loses every value that contains a white-space character followed
by one of the prefixes: what it returns is shorter than what was written (for every text before and after the mark). -/
theorem inline_reader_loses_value (inl k a b : List Char) (c p : Char) (hk : listKey k = true) (hne : k ≠ [])
    (hinl : ∀ x ∈ k, inl.contains x = false) (hc : pyIsSpace c = true) (hp : inl.contains p = true) :
    ∃ v', readLine inl (writeLine k (a ++ c :: p :: b)) = some (lowerAscii k, v') ∧ v'.length < (a ++ c :: p :: b).length := by
  refine ⟨_, readLine_writeLine inl k _ hk hne hinl, ?_⟩
  have h1 := pyStrip_length_le (cutInline inl false (a ++ c :: p :: b))
  have h2 := cutInline_mark_length inl c p b hc hp a false
  simp only [List.length_append, List.length_cons] at h1 h2 ⊢
  omega

/-- a reader is faithful on all strip-stable values iff it has no inline comment prefix (prefixes that are not letters) -/
theorem inline_reader_faithful_iff (inl : List Char) (hinl : ∀ c, letter c = true → inl.contains c = false) :
    (∀ k v, listKey k = true → k ≠ [] → pyStrip v = v → readLine inl (writeLine k v) = some (lowerAscii k, v)) ↔ inl = [] := by
  constructor
  · intro h
    cases inl with
    | nil => rfl
    | cons p inl =>
      exfalso
      have hp : (p :: inl).contains p = true := by simp
      have hk : listKey ['f'] = true := by decide +kernel
      have hki : ∀ x ∈ ['f'], (p :: inl).contains x = false := by
        intro x hx; simp only [List.mem_cons, List.not_mem_nil, or_false] at hx; subst hx; exact hinl 'f' (by decide +kernel)
      -- the value `a<sp>p…b`: strip-stable because it starts and ends with a letter
      obtain ⟨v', hv', hlen⟩ := inline_reader_loses_value (p :: inl) ['f'] ['a'] ['b'] ' ' p hk (by simp) hki (by decide +kernel) hp
      have hstrip : pyStrip (['a'] ++ ' ' :: p :: ['b']) = ['a'] ++ ' ' :: p :: ['b'] := by
        simp [pyStrip, show pyIsSpace 'a' = false by decide +kernel, show pyIsSpace 'b' = false by decide +kernel]
      have := h ['f'] _ hk (by simp) hstrip
      rw [hv'] at this
      simp only [Option.some.injEq, Prod.mk.injEq] at this
      rw [this.2] at hlen
      exact Nat.lt_irrefl _ hlen
  · intro h k v hk hne hv
    subst h
    exact listing_line_roundtrip k v hk hne hv

example : readLine [] (writeLine "filepath".toList "stages/stage0/hello/summary #1.csv".toList)
    = some ("filepath".toList, "stages/stage0/hello/summary #1.csv".toList) := by
  -- literals to character lists before the kernel evaluates: it computes `"…".toList` through UTF-8, in quadratic
  -- time; a literal unfolds to `String.ofList [..]`, which simp's index does not see, hence `-index`
  simp -index only [String.toList_ofList]
  decide +kernel
example : readLine [] (writeLine "creationTime".toList "a ;b = %(x)s : [c]".toList)
    = some ("creationtime".toList, "a ;b = %(x)s : [c]".toList) := by
  simp -index only [String.toList_ofList]
  decide +kernel
example : listKey "creationTime".toList = true ∧ pyStrip "x #y".toList = "x #y".toList ∧ hasInlineMark ['#', ';'] "x#y;z".toList = false := by
  simp -index only [String.toList_ofList]
  decide +kernel

end Listing

end St4sd.C14
