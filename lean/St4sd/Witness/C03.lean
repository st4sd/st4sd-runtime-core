import St4sd.Model.ReplConf
import St4sd.Model.ReplOver
import St4sd.Lemmas.Str
/-!
Witnesses for C03: the textual rewriting of the **unrepaired** `compile_component_replica`
(`replicaTextOld`: `str.replace` of the long and the short spelling of every replicated reference over
every string of the component, longest spelling first) does not refine the graph-level rewriting.
The harness replays the same workflows on the real code (`corpus:infix`, `corpus:cross-stage`,
`corpus:direct` in `harness/c03.py`).
-/
namespace St4sd.C03.Witness
open St4sd.Repl St4sd.Str

def ref (stage : Nat) (long : Bool) (name : String) : Ref :=
  { isComp := true, stage := stage, long := long, name := name.toList, file := none, method := "ref".toList }
def comp (stage : Nat) (name : String) (refs : List Ref) (repl : Option Nat := none) : Comp :=
  { stage := stage, name := name.toList, refs := refs, repl := repl, agg := false }

/-- `A` (2 replicas) and `BA` processed; the consumer `C` references `A:ref` and `BA:ref` -/
def d1 : Done := [(comp 0 "BA" [], none), (comp 0 "A" [] (some 2), some 2)]
def c1 : Comp := comp 0 "C" [ref 0 false "A", ref 0 false "BA"]

/-- The defect repaired by `fixes/C03-reference-token-boundaries.diff`: the short spelling `A:ref` is a suffix of
`BA:ref`; the unrepaired code turns the reference to the non-replicated `BA` into `Bstage0.A0:ref`, which is not the rendering of the graph-level result
(`BA:ref`, unchanged) — the loader then rejects the valid workflow. -/
theorem old_infix :
    String.ofList (replicaTextOld d1 c1 0 (render (ref 0 false "BA"))) = "Bstage0.A0:ref" ∧
    replicaTextOld d1 c1 0 (render (ref 0 false "BA")) ≠ render (rwRef d1 0 (ref 0 false "BA")) := by decide +kernel

/-- the repaired algorithm on the same input -/
theorem new_infix :
    replicaText d1 c1 0 (render (ref 0 false "BA")) = render (rwRef d1 0 (ref 0 false "BA")) ∧
    replicaText d1 c1 0 (render (ref 0 false "A")) = render (rwRef d1 0 (ref 0 false "A")) := by decide +kernel

/-- `stage0.A` (2 replicas) and a different, non-replicated `stage1.A`; the consumer `stage1.C` references
`stage0.A:ref` and `A:ref` (= `stage1.A`) -/
def d2 : Done := [(comp 1 "A" [], none), (comp 0 "A" [] (some 2), some 2)]
def c2 : Comp := comp 1 "C" [ref 0 true "A", ref 1 false "A"]

/-- equal names in two stages: the unrepaired code rewrites the reference to `stage1.A` into a second
reference to `stage0.A0` — the dataflow edge `stage1.A → stage1.C0` silently disappears. -/
theorem old_cross_stage :
    String.ofList (replicaTextOld d2 c2 0 (render (ref 1 false "A"))) = "stage0.A0:ref" ∧
    replicaTextOld d2 c2 0 (render (ref 1 false "A")) ≠ render (rwRef d2 0 (ref 1 false "A")) := by decide +kernel

theorem new_cross_stage :
    replicaText d2 c2 0 (render (ref 1 false "A")) = render (rwRef d2 0 (ref 1 false "A")) ∧
    replicaText d2 c2 0 (render (ref 0 true "A")) = render (rwRef d2 0 (ref 0 true "A")) := by decide +kernel

/-- a direct reference to a file called like a replicated component is mangled by the unrepaired code -/
theorem old_direct :
    String.ofList (replicaTextOld d1 c1 0 "data/A:ref".toList) = "data/stage0.A0:ref" ∧
    String.ofList (replicaText d1 c1 0 "data/A:ref".toList) = "data/A:ref" := by decide +kernel

/-! ## a stale unreplicated snapshot (NOT the code: `Repl.parametrizeStale`)

If `_initialize` took the `_unreplicated` snapshot only the first time, a configuration that was loaded
without user variables and is then parametrised with `points: 4` (what `WorkflowGraph.graphFromPackage`
does with the configuration of an already loaded package) would still expand to the package default of 2
copies; the modelled code (`Repl.parametrize`, theorem `C03.history_irrelevant`) gives 4.  The harness
drives such histories on the real configuration object (`kind: history`). -/

def docW : Doc :=
  { g := [("points".toList, "2".toList)], st := fun _ => [],
    wf := [{ stage := 0, name := "sample".toList, refs := [], vars := [], replicate := .var "points".toList,
             aggregate := .absent }] }
def u4 : UserVars := ⟨[("points".toList, "4".toList)], []⟩
def confW : Conf := { orig := docW, unrepl := docW, concrete := .primitive docW }
def namesOf : Concrete → List String
  | .replicated (.ok out) => out.map fun o => String.ofList o.name
  | _ => []

theorem stale_snapshot_ignores_reparametrisation :
    namesOf (parametrizeStale false (parametrizeStale true confW ⟨[], []⟩ true) u4 false).concrete =
      ["sample0", "sample1"] ∧
    namesOf (run (construct docW ⟨[], []⟩ true) [(u4, false)]).concrete =
      ["sample0", "sample1", "sample2", "sample3"] := by decide +kernel

/-- a component that defines `replica` itself: if its own variables were layered OVER the injected index
(`{'replica': i}.update(own)`) every copy would see the same value; `copyVars` (the code) gives `i` -/
theorem own_replica_over_injected_breaks_index :
    (List.range 3).map (fun i => (lookup (override [(replicaKey, natToDigits i)] [(replicaKey, "0".toList)]) replicaKey).map
      String.ofList) = [some "0", some "0", some "0"] ∧
    (List.range 3).map (fun i => (lookup (copyVars [(replicaKey, "0".toList)] i) replicaKey).map String.ofList) =
      [some "0", some "1", some "2"] := by decide +kernel

/-! ## the `override.<platform>` block of a replicated component (`Model/ReplOver.lean`)

`FlowIRConcrete.instance(platform)` keeps the block `override.<platform>` inside the component and a reader
of the replicated FlowIR (`get_component_configuration`, `get_component_variables`) layers it over the
component again.  The unrepaired code (`pieceOverOld`) rewrites the strings of the block but neither
re-splits the `references` of an aggregator's block nor touches a `replica` the block defines; the repaired
code (`pieceOver`, `fixes/C03-override-block-replication.diff`) does, `C03.override_block_consistent`.  The
harness replays the same workflows on the real code (`corpus:override-*`). -/

/-- the aggregator `D` of `A` (2 replicas): `references: [A:ref]`, restated by its override block -/
def cAgg : Comp := { comp 0 "D" [ref 0 false "A"] with agg := true }
def blkRefs : TBlock := ⟨some ["A:ref".toList], some "A:ref".toList, []⟩

/-- unrepaired: the block's reference list holds ONE string naming both copies (the loader rejects it as an
invalid reference: a valid workflow is refused on that platform only); repaired: the two references -/
theorem old_override_aggregate_references_not_split :
    ((pieceBase d1 cAgg (layerT blkRefs blkRefs) (some 2)).zip (pieceOverOld d1 cAgg blkRefs (some 2))).map
        (fun x => (readBack x).refs.map (·.map String.ofList)) = [some ["stage0.A0:ref stage0.A1:ref"]] ∧
    ((pieceBase d1 cAgg (layerT blkRefs blkRefs) (some 2)).zip (pieceOver d1 cAgg blkRefs (some 2))).map
        (fun x => (readBack x).refs.map (·.map String.ofList)) = [some ["stage0.A0:ref", "stage0.A1:ref"]] := by
  decide +kernel

/-- a consumer of `A` whose override block defines `replica: 7` -/
def cCons : Comp := comp 0 "C" [ref 0 false "A"]
def blkReplica : TBlock := ⟨none, none, [(replicaKey, "7".toList)]⟩

/-- unrepaired: every copy reads `replica = 7` through the platform layer; repaired: copy `i` reads `i` -/
theorem old_override_replica_hides_index :
    ((pieceBase d1 cCons (layerT blkRefs blkReplica) (some 2)).zip (pieceOverOld d1 cCons blkReplica (some 2))).map
        (fun x => (lookup (readBack x).vars replicaKey).map String.ofList) = [some "7", some "7"] ∧
    ((pieceBase d1 cCons (layerT blkRefs blkReplica) (some 2)).zip (pieceOver d1 cCons blkReplica (some 2))).map
        (fun x => (lookup (readBack x).vars replicaKey).map String.ofList) = [some "0", some "1"] := by
  decide +kernel

/-- NOT the code: were the kept block left out of the rewriting (only the component's own fields rewritten),
every copy would read back the un-replicated reference `A:ref` — a component that no longer exists -/
theorem unrewritten_override_block_breaks_wiring :
    ((pieceBase d1 cCons (layerT blkRefs blkRefs) (some 2)).map fun b =>
        (readBack (b, blkRefs)).refs.map (·.map String.ofList)) = [some ["A:ref"], some ["A:ref"]] ∧
    ((pieceBase d1 cCons (layerT blkRefs blkRefs) (some 2)).zip (pieceOver d1 cCons blkRefs (some 2))).map
        (fun x => (readBack x).refs.map (·.map String.ofList)) = [some ["stage0.A0:ref"], some ["stage0.A1:ref"]] := by
  decide +kernel

/-! ## NOT the code: a wider path class for the aggregator

Were a path segment "anything up to the next white space, `/`, `,` or quote" (instead of a run of `[\w.*+~@-]`), the
shell punctuation glued to the path would be taken into the path and repeated after every copy; the modelled code
(`Repl.aggScan`, theorem `C03.aggregated_reference_then_text`) keeps it where the user wrote it. -/

def isWidePathChar (c : Char) : Bool := !(isSpace c || c == '/' || c == ',' || c == '\'' || c == '"')

def pathLenWide : Nat → S → Nat
  | 0, _ => 0
  | f + 1, '/' :: rest =>
    let seg := rest.takeWhile isWidePathChar
    if seg.isEmpty then 0 else 1 + seg.length + pathLenWide f (rest.drop seg.length)
  | _ + 1, _ => 0

def aggExpandWide (reps : List S) (after : S) : S × Nat :=
  let pl := pathLenWide after.length after
  if pl == 0 then (join [' '] reps, 0)
  else
    let path := after.take pl
    let commas := (after.drop pl).takeWhile (· == ',')
    if commas.isEmpty then (join [' '] (reps.map (· ++ path)), pl)
    else (join [','] (reps.map (· ++ path ++ commas.drop 1)), pl + commas.length)

def aggScanWide (keys : List (S × List S)) : Nat → Option Char → S → S
  | _, _, [] => []
  | k + 1, _, c :: s => aggScanWide keys k (some c) s
  | 0, prev, c :: s =>
    match (if leftOk prev then firstMatchAgg keys (c :: s) else none) with
    | some kv =>
      let e := aggExpandWide kv.2 ((c :: s).drop kv.1.length)
      e.1 ++ aggScanWide keys (kv.1.length + e.2 - 1) (some c) s
    | none => c :: aggScanWide keys 0 (some c) s

def keysSim : List (S × List S) := [("A:ref".toList, ["stage0.A0:ref".toList, "stage0.A1:ref".toList])]

theorem wide_path_class_swallows_shell_punctuation :
    String.ofList (aggScanWide keysSim 0 none "$(cat A:ref/out/e.csv); sort A:ref/e.csv| uniq".toList) =
      "$(cat stage0.A0:ref/out/e.csv); stage0.A1:ref/out/e.csv); sort stage0.A0:ref/e.csv| stage0.A1:ref/e.csv| uniq" ∧
    String.ofList (aggScan keysSim 0 none "$(cat A:ref/out/e.csv); sort A:ref/e.csv| uniq".toList) =
      "$(cat stage0.A0:ref/out/e.csv stage0.A1:ref/out/e.csv); sort stage0.A0:ref/e.csv stage0.A1:ref/e.csv| uniq" := by
  unfold keysSim
  refine ⟨ofList_eq ?_, ofList_eq ?_⟩
  · simp -index only [String.toList_ofList]
    decide +kernel
  · simp -index only [String.toList_ofList]
    decide +kernel

/-! ## the path class before /repo 'fix: a file path after an aggregated reference may contain ...'

`[\w.*]` only: a file name such as `out-1.txt` was cut at the `-`, so copies 0..N-2 were consumed at a truncated
path.  The modelled (repaired) class `Repl.isPathChar` keeps the file name whole. -/

def isPathCharOld (c : Char) : Bool := isWord c || c == '.' || c == '*'

def pathLenOld : Nat → S → Nat
  | 0, _ => 0
  | f + 1, '/' :: rest =>
    let seg := rest.takeWhile isPathCharOld
    if seg.isEmpty then 0 else 1 + seg.length + pathLenOld f (rest.drop seg.length)
  | _ + 1, _ => 0

def aggExpandOld (reps : List S) (after : S) : S × Nat :=
  let pl := pathLenOld after.length after
  if pl == 0 then (join [' '] reps, 0)
  else
    let path := after.take pl
    let commas := (after.drop pl).takeWhile (· == ',')
    if commas.isEmpty then (join [' '] (reps.map (· ++ path)), pl)
    else (join [','] (reps.map (· ++ path ++ commas.drop 1)), pl + commas.length)

def aggScanOld (keys : List (S × List S)) : Nat → Option Char → S → S
  | _, _, [] => []
  | k + 1, _, c :: s => aggScanOld keys k (some c) s
  | 0, prev, c :: s =>
    match (if leftOk prev then firstMatchAgg keys (c :: s) else none) with
    | some kv =>
      let e := aggExpandOld kv.2 ((c :: s).drop kv.1.length)
      e.1 ++ aggScanOld keys (kv.1.length + e.2 - 1) (some c) s
    | none => c :: aggScanOld keys 0 (some c) s

theorem narrow_path_class_cut_file_names :
    String.ofList (aggScanOld keysSim 0 none "cat A:ref/out-1.txt|wc".toList) =
      "cat stage0.A0:ref/out stage0.A1:ref/out-1.txt|wc" ∧
    String.ofList (aggScan keysSim 0 none "cat A:ref/out-1.txt|wc".toList) =
      "cat stage0.A0:ref/out-1.txt stage0.A1:ref/out-1.txt|wc" := by
  unfold keysSim
  refine ⟨ofList_eq ?_, ofList_eq ?_⟩
  · simp -index only [String.toList_ofList]
    decide +kernel
  · simp -index only [String.toList_ofList]
    decide +kernel

end St4sd.C03.Witness
