import St4sd.Lemmas.C07
import St4sd.Lemmas.C07Dir
/-!
# C07 — An instance reloaded from its own files is the same experiment

Model: `St4sd/Model/Instance.lean`.  `flatten N L P` is what `store_unreplicated_flowir_to_disk` writes for the
unreplicated description `L` and the selected platform `P`; loading the file gives the same description back
(YAML trusted as identity), so the reloaded experiment's `_unreplicated` is `flatten N L P` and everything it does
next (store again, replicate, answer `configurationForNode`) starts with `flatten N (flatten N L P) P`.

Hypothesis of the round-trip theorems: `resolves N L P = true` (decidable; the fuel `N` was enough to resolve every
reference to a defined variable, i.e. the variables are not cyclic).  The driver evaluates it on every
generated case.
-/
namespace St4sd.C07
open St4sd.Instance

/-- `resolves`, clause by clause -/
private structure Resolves (N : Nat) (L : Doc) (P : Name) : Prop where
  glob : dictClosed (gv0 L P) (gvars N L P) = true
  stage : ∀ s ∈ L.comps.map (·.stage), dictClosed (sctx N L P s) (svars N L P s) = true
  bpStage : ∀ s ∈ L.comps.map (·.stage), dictClosed (bpsCtx N L P s) (bpsv N L P s) = true
  comp : ∀ c ∈ L.comps, c.isDoc = false →
    dictClosed (cctx N L P c) (mapVals (interp N (cctx N L P c)) (cv0 c P)) = true
  bpGlob : dictClosed (gvars N L P) (bpg N L P) = true

private theorem resolves_iff {N : Nat} {L : Doc} {P : Name} : resolves N L P = true ↔ Resolves N L P := by
  unfold resolves
  simp only [Bool.and_eq_true, List.all_eq_true, Bool.or_eq_true]
  constructor
  · rintro ⟨⟨hg, hc⟩, hb⟩
    exact ⟨hg, List.forall_mem_map.mpr fun c m => (hc c m).1.1, List.forall_mem_map.mpr fun c m => (hc c m).1.2,
      fun c m hd => (hc c m).2.resolve_left (by simp [hd]), hb⟩
  · intro r
    refine ⟨⟨r.glob, fun c m => ⟨⟨r.stage _ (List.mem_map_of_mem m), r.bpStage _ (List.mem_map_of_mem m)⟩, ?_⟩⟩,
      r.bpGlob⟩
    cases hd : c.isDoc with
    | true => exact Or.inl rfl
    | false => exact Or.inr (r.comp c m hd)

/-! ### the stored description, read for any platform `Q`

`flatten N L P` has the `default` layer only, so what it gives does not depend on the platform `Q` it is read for; its
values are closed, so interpolating them again changes nothing; and of the override blocks its components keep only
those about `P`.  Flattening for `P` again (the reload that names the platform) and for `default` (the one that does
not) are the cases `Q = P` and `Q = 0`. -/

section stored
variable {N : Nat} {L : Doc} {P : Name}

private theorem vars_flatten :
    (flatten N L P).vars = [(0, ⟨gvars N L P, (L.comps.map (·.stage)).map fun s => (s, svars N L P s)⟩)] := rfl

private theorem bps_flatten :
    (flatten N L P).bps = [(0, ⟨bpg N L P, (L.comps.map (·.stage)).map fun s => (s, bpsv N L P s)⟩)] := rfl

private theorem stages_flatten : (flatten N L P).comps.map (·.stage) = L.comps.map (·.stage) := by
  simp [flatten, List.map_map, Function.comp_def]

private theorem gvars_stored (r : Resolves N L P) (Q : Name) : gvars N (flatten N L P) Q = gvars N L P := by
  show mapVals (interp N (gv0 (flatten N L P) Q)) (gv0 (flatten N L P) Q) = _
  rw [gv0_default vars_flatten]
  exact mapVals_interp_closed N (gv0 L P) _ _ (fun k => by simp [gvars]) r.glob

private theorem svars_stored (r : Resolves N L P) (Q : Name) {s : Nat} (hs : s ∈ L.comps.map (·.stage)) :
    svars N (flatten N L P) Q s = svars N L P s := by
  show mapVals (interp N (update (gvars N (flatten N L P) Q) (sv0 (flatten N L P) Q s))) (sv0 (flatten N L P) Q s) = _
  rw [gvars_stored r, sv0_default vars_flatten, stage_map _ _ hs]
  exact mapVals_interp_closed N (sctx N L P s) _ _ (fun k => by simp [sctx, svars, hasKey_update]) (r.stage s hs)

private theorem bpg_stored (r : Resolves N L P) (Q : Name) : bpg N (flatten N L P) Q = bpg N L P := by
  show mapVals (interp N (gvars N (flatten N L P) Q)) (bpg0 (flatten N L P) Q) = _
  rw [gvars_stored r, bpg0_default bps_flatten]
  exact mapVals_interp_closed N _ _ _ (fun _ => rfl) r.bpGlob

private theorem bpsv_stored (r : Resolves N L P) (Q : Name) {s : Nat} (hs : s ∈ L.comps.map (·.stage)) :
    bpsv N (flatten N L P) Q s = bpsv N L P s := by
  show mapVals (interp N (update (gvars N (flatten N L P) Q) (svars N (flatten N L P) Q s))) (bps0 (flatten N L P) Q s) = _
  rw [gvars_stored r, svars_stored r Q hs, bps0_default bps_flatten, stage_map _ _ hs]
  exact mapVals_interp_closed N (bpsCtx N L P s) _ _ (fun _ => rfl) (r.bpStage s hs)

private theorem keysSub_layeredOpts (c : Comp) :
    keysSub (bpg N L P) (layeredOpts L P c) ∧ keysSub (bpsv N L P c.stage) (layeredOpts L P c) := by
  constructor <;> intro k
  · simp only [bpg, bpg0, layeredOpts, hasKey_mapVals, hasKey_update, Bool.or_eq_true]
    rintro (hk | hk) <;> simp [hk]
  · simp only [bpsv, bps0, bpsBase, layeredOpts, hasKey_mapVals]
    split <;> simp only [hasKey_update, Bool.or_eq_true]
    · rintro (hk | hk) <;> simp [hk]
    · rintro ((hk | hk) | hk) <;> simp [hk]

/-- every blueprint key of the stored description already is a key of the stored component's options -/
private theorem layeredOpts_stored (Q : Name) {c : Comp} (hs : c.stage ∈ L.comps.map (·.stage))
    (hd : c.isDoc = false) :
    layeredOpts (flatten N L P) Q (flatComp N L P c) = (flatComp N L P c).opts := by
  obtain ⟨kg, ks⟩ := keysSub_layeredOpts (N := N) (L := L) (P := P) c
  have ho : update (layeredOpts L P c) (ovrOpts (flatComp N L P c) Q) = layeredOpts L P c := by
    rw [ovrOpts_flatComp N L P Q c hd]
    split
    · exact update_update_same _ _
    · exact update_nil_right _
  conv => lhs; unfold layeredOpts
  rw [flatComp_opts N L P c hd, flatComp_stage, bps_flatten, layerOf_default_zero, stage_map _ _ hs]
  by_cases hQ : Q = 0
  · subst hQ
    rw [layerOf_default_zero, stage_map _ _ hs,
      update_absorb (keysSub_update (keysSub_update (keysSub_update kg ks) kg) ks)]
    exact ho
  · rw [layerOf_default_ne _ hQ, show Layer.empty.glob = [] from rfl, show Layer.empty.stage c.stage = [] from rfl,
      update_nil_right, update_nil_right, update_absorb (keysSub_update kg ks)]
    exact ho

/-- the variables and the context of a stored component read back for `Q`: the variables come back interpolated
(`A`), with the override block applied again in its raw form (`O`) when `Q` is the platform they were stored for -/
private theorem cctx_stored (r : Resolves N L P) (Q : Name) {c : Comp} (hc : c ∈ L.comps)
    (hd : c.isDoc = false) : ∃ A O, cv0 c P = A ++ O ∧
      cv0 (flatComp N L P c) Q = mapVals (interp N (cctx N L P c)) A ++ O ∧
      cctx N (flatten N L P) Q (flatComp N L P c)
        = update (update (gvars N L P) (svars N L P c.stage)) (mapVals (interp N (cctx N L P c)) A ++ O) := by
  have hX : ∃ A O, cv0 c P = A ++ O ∧ cv0 (flatComp N L P c) Q = mapVals (interp N (cctx N L P c)) A ++ O := by
    unfold cv0
    rw [flatComp_vars N L P c hd, ovrVars_flatComp N L P Q c hd]
    split
    · exact ⟨_, _, rfl, update_mapVals_update _ _ _⟩
    · exact ⟨_, [], (List.append_nil _).symm, by rw [update_nil_right, List.append_nil]; rfl⟩
  obtain ⟨A, O, h1, h2⟩ := hX
  refine ⟨A, O, h1, h2, ?_⟩
  unfold cctx
  rw [flatComp_stage, gvars_stored r, svars_stored r Q (List.mem_map_of_mem hc), h2]
  rfl

private theorem compVars_stored (r : Resolves N L P) (Q : Name) {c : Comp} (hc : c ∈ L.comps)
    (hd : c.isDoc = false) :
    mapVals (interp N (cctx N (flatten N L P) Q (flatComp N L P c))) (cv0 (flatComp N L P c) Q)
      = (flatComp N L P c).vars := by
  obtain ⟨A, O, hX, hX', hC'⟩ := cctx_stored r Q hc hd
  have hcl := r.comp c hc hd
  rw [hC', hX', flatComp_vars N L P c hd]
  unfold cctx at hcl ⊢
  rw [hX] at hcl ⊢
  exact mapVals_stored_vars N _ A O hcl

private theorem flatComp_stored (r : Resolves N L P) (Q : Name) {c : Comp} (hc : c ∈ L.comps) :
    flatComp N (flatten N L P) Q (flatComp N L P c)
      = if c.isDoc then flatComp N L P c
        else { flatComp N L P c with ovr := (flatComp N L P c).ovr.filter (fun o => o.plat == Q) } := by
  cases hd : c.isDoc with
  | true => simp [flatComp, hd]
  | false =>
    rw [flatComp_nondoc N _ Q _ (by rw [flatComp_isDoc, hd]), layeredOpts_stored Q (List.mem_map_of_mem hc) hd,
      compVars_stored r Q hc hd]
    rfl

theorem flatten_stored (h : resolves N L P = true) (Q : Name) :
    flatten N (flatten N L P) Q = { flatten N L P with comps := (flatten N L P).comps.map fun c =>
      if c.isDoc then c else { c with ovr := c.ovr.filter (fun o => o.plat == Q) } } := by
  have r := resolves_iff.mp h
  have hst : ∀ f g : Nat → Dict, (∀ s ∈ L.comps.map (·.stage), f s = g s) →
      ((flatten N L P).comps.map (·.stage)).map (fun s => (s, f s)) = (L.comps.map (·.stage)).map (fun s => (s, g s)) := by
    intro f g hfg
    rw [stages_flatten]
    exact List.map_congr_left fun s hs => congrArg (Prod.mk s) (hfg s hs)
  have hcomps : (flatten N L P).comps.map (flatComp N (flatten N L P) Q)
      = (flatten N L P).comps.map fun c => if c.isDoc then c else { c with ovr := c.ovr.filter (fun o => o.plat == Q) } := by
    show (L.comps.map (flatComp N L P)).map _ = (L.comps.map (flatComp N L P)).map _
    rw [List.map_map, List.map_map]
    exact List.map_congr_left fun c hc => by simp only [Function.comp, flatComp_stored r Q hc, flatComp_isDoc]
  show Doc.mk [(0, ⟨gvars N (flatten N L P) Q, _⟩)] [(0, ⟨bpg N (flatten N L P) Q, _⟩)] _ = _
  rw [gvars_stored r, bpg_stored r, hcomps, hst _ _ fun s hs => svars_stored r Q hs,
    hst _ _ fun s hs => bpsv_stored r Q hs]
  rfl

private theorem resolves_stored_for (h : resolves N L P = true) (Q : Name) :
    resolves N (flatten N L P) Q = true := by
  have r := resolves_iff.mp h
  refine resolves_iff.mpr ⟨?_, ?_, ?_, ?_, ?_⟩
  · rw [gv0_default vars_flatten, gvars_stored r, dictClosed_congr (c2 := gv0 L P) fun k => by simp [gvars]]
    exact r.glob
  · intro s hs
    rw [stages_flatten] at hs
    show dictClosed (update (gvars N (flatten N L P) Q) (sv0 (flatten N L P) Q s)) _ = true
    rw [svars_stored r Q hs, gvars_stored r, sv0_default vars_flatten, stage_map _ _ hs,
      dictClosed_congr (c2 := sctx N L P s) fun k => by simp [sctx, svars, hasKey_update]]
    exact r.stage s hs
  · intro s hs
    rw [stages_flatten] at hs
    show dictClosed (update (gvars N (flatten N L P) Q) (svars N (flatten N L P) Q s)) _ = true
    rw [gvars_stored r, svars_stored r Q hs, bpsv_stored r Q hs]
    exact r.bpStage s hs
  · intro c' hc' hd
    obtain ⟨c, hc, rfl⟩ := List.mem_map.mp (show c' ∈ L.comps.map (flatComp N L P) from hc')
    rw [flatComp_isDoc] at hd
    obtain ⟨A, O, hX, -, hC'⟩ := cctx_stored r Q hc hd
    rw [compVars_stored r Q hc hd, flatComp_vars N L P c hd, hC',
      dictClosed_congr (c2 := cctx N L P c) fun k => by simp [cctx, hX, hasKey_update, hasKey_append]]
    exact r.comp c hc hd
  · rw [gvars_stored r, bpg_stored r]
    exact r.bpGlob

private theorem resolveComp_stored (h : resolves N L P = true) (hf : resolvesFully N L P = true) (Q : Name)
    {c : Comp} (hc : c ∈ L.comps) (hd : c.isDoc = false) :
    resolveComp N (flatten N L P) Q (flatComp N L P c)
      = ⟨c.stage, c.name, mapVals (interp N (cctx N L P c)) (layeredOpts L P c),
          mapVals (interp N (cctx N L P c)) (cctx N L P c)⟩ := by
  have r := resolves_iff.mp h
  have hs := List.mem_map_of_mem (f := (·.stage)) hc
  obtain ⟨A, O, hX, hX', -⟩ := cctx_stored r Q hc hd
  have hcl := r.comp c hc hd
  have hfc := List.all_eq_true.mp hf c hc
  rw [hd, Bool.false_or, Bool.and_eq_true] at hfc
  obtain ⟨hbase, hopts⟩ := hfc
  rw [resolveComp_eq, allVars_default vars_flatten, flatComp_stage, stage_map _ _ hs, layeredOpts_stored Q hs hd, flatComp_opts N L P c hd, flatComp_name, hX']
  unfold cctx at hcl hbase hopts ⊢
  rw [hX] at hcl hbase hopts ⊢
  rw [mapVals_stored_ctx N _ A O hcl hbase,
    mapVals_refine (refines_stored N _ A O hcl) ((dictClosed_mapVals _ _ _).mp hopts)]

theorem reload_any_platform_preserves_resolution (h : resolves N L P = true) (hf : resolvesFully N L P = true)
    (Q : Name) :
    resolveAll N (flatten N (flatten N L P) Q) Q = resolveAll N (flatten N L P) P := by
  have hall : ∀ Q, resolveAll N (flatten N L P) Q = (L.comps.filter (fun c => !c.isDoc)).map fun c =>
      resolveComp N (flatten N L P) Q (flatComp N L P c) := fun Q =>
    resolveAll_map N _ Q _ (flatComp_isDoc N L P) L.comps
  have hQ : resolveAll N (flatten N (flatten N L P) Q) Q = resolveAll N (flatten N L P) Q := by
    rw [flatten_stored h Q]
    exact resolveAll_ovr_filter N _ Q
  rw [hQ, hall, hall]
  refine List.map_congr_left fun c hc => ?_
  obtain ⟨hc, hd⟩ := List.mem_filter.mp hc
  have hd : c.isDoc = false := by simpa using hd
  rw [resolveComp_stored h hf Q hc hd, resolveComp_stored h hf P hc hd]

end stored

private theorem ovr_stored {N : Nat} {L : Doc} {P : Name} {c : Comp} (hc : c ∈ (flatten N L P).comps)
    (hd : c.isDoc = false) : ∀ o ∈ c.ovr, o.plat = P := by
  intro o ho
  obtain ⟨c0, _, rfl⟩ := List.mem_map.mp hc
  rw [flatComp_isDoc] at hd
  rw [flatComp_ovr N L P c0 hd] at ho
  simpa using (List.mem_filter.mp ho).2

/-- The selected platform is folded into `default`: the stored description has no other variable layer, so it
resolves the same whether it is loaded for `P` again or for `default`. -/
theorem platform_folded (N : Nat) (L : Doc) (P : Name) :
    (flatten N L P).vars.map (·.1) = [0] ∧ (flatten N L P).bps.map (·.1) = [0] ∧
    ∀ c ∈ (flatten N L P).comps, c.isDoc = false → ∀ o ∈ c.ovr, o.plat = P :=
  ⟨rfl, rfl, fun _ hc hd => ovr_stored hc hd⟩

/-- **store ∘ load ∘ store = store**: flattening the reloaded description again gives the same description —
same global and stage variables, same merged blueprints, same components with the same layered options,
variables and platform override — for every description, platform and fuel satisfying `resolves`. -/
theorem flatten_idempotent (N : Nat) (L : Doc) (P : Name) (h : resolves N L P = true) :
    flatten N (flatten N L P) P = flatten N L P := by
  have hid : ∀ c ∈ (flatten N L P).comps,
      (if c.isDoc then c else { c with ovr := c.ovr.filter (fun o => o.plat == P) }) = c := by
    intro c hc
    split
    · rfl
    · rename_i hd
      rw [List.filter_eq_self.mpr fun o ho => by simpa using ovr_stored hc (by simpa using hd) o ho]
  rw [flatten_stored h P, List.map_congr_left hid, List.map_id']

/-- **Store after a reload that does not name the platform** (`experimentFromInstance(dir)`, what the tools do):
the description is stored again for `default`; everything the selected platform `P` contributed is already folded
into the `default` sections, so the result is the stored description *minus the raw override blocks* (which are
about `P`, not about `default`) — variables, blueprints, layered options and folded variables of every component
are unchanged. -/
theorem store_platformless_reload (N : Nat) (L : Doc) (P : Name) (h : resolves N L P = true) (hP : P ≠ 0) :
    flatten N (flatten N L P) 0 = dropOvr (flatten N L P) := by
  rw [flatten_stored h 0]
  refine congrArg (fun cs => ({ flatten N L P with comps := cs } : Doc)) (List.map_congr_left fun c hc => ?_)
  split
  · rfl
  · rename_i hd
    rw [List.filter_eq_nil_iff.mpr fun o ho => by
      rw [ovr_stored hc (by simpa using hd) o ho]; simpa using hP]

/-- Any number of load+store cycles leaves the stored description unchanged. -/
theorem store_load_cycles (N : Nat) (E : Exp) (h : resolves N E.doc E.plat = true) :
    ∀ k : Nat, storeAfterCycles N E k = store N E := by
  intro k
  induction k with
  | zero => rfl
  | succ k ih =>
    show flatten N (storeAfterCycles N E k) E.plat = store N E
    rw [ih]
    exact flatten_idempotent N E.doc E.plat h

/-- The reloaded experiment stores the same description as the one that wrote the instance directory. -/
theorem store_reload (N : Nat) (E : Exp) (h : resolves N E.doc E.plat = true) :
    store N (reload N E) = store N E := flatten_idempotent N E.doc E.plat h

/-- … and any number of further platform-less load+store cycles (after any number of cycles that named the
platform) leaves that description unchanged: the only change such a cycle ever makes is dropping the raw override
blocks, once. -/
theorem platformless_cycles (N : Nat) (E : Exp) (h : resolves N E.doc E.plat = true) (hP : E.plat ≠ 0) :
    ∀ k m : Nat, storeAfterMixed N E k (m + 1) = dropOvr (store N E) := by
  intro k m
  induction m with
  | zero =>
    show flatten N (storeAfterCycles N E k) 0 = _
    rw [store_load_cycles N E h k]
    exact store_platformless_reload N E.doc E.plat h hP
  | succ m ih =>
    show flatten N (storeAfterMixed N E k (m + 1)) 0 = _
    rw [ih]
    -- `dropOvr (store N E)` is itself a stored description, of `store N E` for `default`
    have e := flatten_idempotent N (flatten N E.doc E.plat) 0 (resolves_stored_for h 0)
    rwa [store_platformless_reload N E.doc E.plat h hP] at e

private theorem running_unpatched {N : Nat} {E : Exp} (hp : E.patches = []) : running N E = flatten N E.doc E.plat := by
  unfold running; rw [hp]; rfl

/-- **Same resolved configuration after a reload that does not name the platform**: an instance created for
platform `P ≠ default` and loaded by `experimentFromInstance(dir)` (platform `default`) answers, for every
component, the configuration (layered options and variables, interpolated) it had in the experiment that wrote the
directory — the selected platform is carried by the stored description, not by the caller.  Hypotheses: `resolves`
and `resolvesFully` (decidable; evaluated by the driver on every case), no `setOptionForNode` patch (as in
`reload_preserves_resolution_partial`). -/
theorem platformless_reload_preserves_resolution (N : Nat) (E : Exp) (h : resolves N E.doc E.plat = true)
    (hf : resolvesFully N E.doc E.plat = true) (hP : E.plat ≠ 0) (hp : E.patches = []) :
    runningConfig N (reloadAs N E 0) = runningConfig N E := by
  unfold runningConfig
  rw [running_unpatched hp]
  exact reload_any_platform_preserves_resolution h hf 0

/-- the selected platform is part of the stored description (`platforms: [default, P]`): it can be loaded for `P`
and for `default`, as often as one likes while the platform is named -/
theorem stored_platform_loadable (P : Name) :
    loadable (storedPlatforms P) P = true ∧ loadable (storedPlatforms P) 0 = true := by
  by_cases h : P = 0 <;> simp [loadable, storedPlatforms, h]

/-- **Same resolved configuration after the reload** (`_partial`): every component of the reloaded experiment has
the configuration (`configurationForNode`: layered options and variables, interpolated) it had in the experiment
that wrote the instance directory — *provided no option was patched through `setOptionForNode` after loading*.
The patches live in the replicated `_concrete` only and `store_unreplicated_flowir_to_disk` dumps `_unreplicated`
(see `Witness.C07`); that is what is missing from the full statement. -/
theorem reload_preserves_resolution_partial (N : Nat) (E : Exp) (h : resolves N E.doc E.plat = true)
    (hp : E.patches = []) : runningConfig N (reload N E) = runningConfig N E := by
  have h1 : running N (reload N E) = flatten N (flatten N E.doc E.plat) E.plat := rfl
  unfold runningConfig
  rw [h1, running_unpatched hp, flatten_idempotent N E.doc E.plat h]
  rfl

/-- The reloaded description has exactly the components of the stored one, the already instantiated loop
iterations `i#name` (ordinary components of the description) and the `$import` entry included; nothing is
re-created or dropped. -/
theorem components_survive (N : Nat) (L : Doc) (P : Name) : compIds (flatten N L P) = compIds L := by
  simp [compIds, flatten, List.map_map, Function.comp_def]

/-- … for every number of loop iterations instantiated before the store: the components added by
`instantiate_dowhile_next_iteration` are stored, and they are still there after reload + store. -/
theorem loop_instances_survive (N : Nat) (E : Exp) (iters : List (List Comp)) :
    compIds (store N (reload N (iters.foldl addIteration E)))
      = compIds E.doc ++ (iters.flatMap id).map (fun c => (c.stage, c.name, c.isDoc)) := by
  have hfold : ∀ (E : Exp), (iters.foldl addIteration E).doc.comps = E.doc.comps ++ iters.flatMap id := by
    induction iters with
    | nil => intro E; simp
    | cons a r ih => intro E; rw [List.foldl_cons, ih]; simp [addIteration, List.append_assoc]
  show compIds (flatten N (flatten N (iters.foldl addIteration E).doc (iters.foldl addIteration E).plat)
      (iters.foldl addIteration E).plat) = _
  rw [components_survive, components_survive]
  simp [compIds, hfold E]

/-- **User-supplied variables survive**: `_patch_in_variable_files` writes the user's variables into the
platform-stage scope of every stage and platform; whatever that scope defines for the selected platform is what
the stored description defines (as a stage variable under `default`, interpolated) … -/
theorem user_variables_survive (N : Nat) (L : Doc) (P : Name) (s : Nat) (u : Name) (v : Tmpl)
    (hs : s ∈ L.comps.map (·.stage)) (hu : get? ((layerOf L.vars P).stage s) u = some v) :
    get? ((layerOf (flatten N L P).vars 0).stage s) u = some (interp N (sctx N L P s) v) := by
  show get? (Layer.stage ⟨gvars N L P, (L.comps.map (·.stage)).map fun s => (s, svars N L P s)⟩ s) u = _
  rw [stage_map _ _ hs, svars, get?_mapVals, sv0, get?_update, hu]
  rfl

/-- … and it is still what the description defines after reload and store (any number of times). -/
theorem user_variables_survive_reload (N : Nat) (L : Doc) (P : Name) (s : Nat) (u : Name) (v : Tmpl)
    (h : resolves N L P = true)
    (hs : s ∈ L.comps.map (·.stage)) (hu : get? ((layerOf L.vars P).stage s) u = some v) :
    get? ((layerOf (flatten N (flatten N L P) P).vars 0).stage s) u = some (interp N (sctx N L P s) v) := by
  rw [flatten_idempotent N L P h]
  exact user_variables_survive N L P s u v hs hu

/-- a user variable without references is stored verbatim -/
theorem user_literal_survives (N : Nat) (L : Doc) (P : Name) (s : Nat) (u : Name) (v : Tmpl)
    (hs : s ∈ L.comps.map (·.stage)) (hu : get? ((layerOf L.vars P).stage s) u = some v)
    (hv : closedIn (sctx N L P s) v = true) :
    get? ((layerOf (flatten N L P).vars 0).stage s) u = some v := by
  rw [user_variables_survive N L P s u v hs hu, interp_closed N _ v hv]

/-! ### explicit values — the empty list included — reach the stored description and survive the reload -/

/-- the platform's override block wins over everything -/
theorem override_option_wins (L : Doc) (P : Name) (c : Comp) (k : Name) (v : Tmpl)
    (h : get? (ovrOpts c P) k = some v) : get? (layeredOpts L P c) k = some v := by
  unfold layeredOpts
  rw [get?_update, h]
  rfl

/-- **An option the component sets itself shadows every blueprint**, whatever its value: also when the value is
the empty list and the blueprints give a non-empty one for the same path. -/
theorem component_option_shadows_blueprints (L : Doc) (P : Name) (c : Comp) (k : Name) (v : Tmpl)
    (h : get? c.opts k = some v) (ho : hasKey (ovrOpts c P) k = false) :
    get? (layeredOpts L P c) k = some v := by
  unfold layeredOpts
  rw [get?_update, (get?_eq_none_iff _ k).mpr ho, get?_update, h]
  rfl

/-- **The stored description carries the explicit value verbatim** (`absent` and `present and empty` stay
different on disk): the component written by `store_unreplicated_flowir_to_disk` has the entry `k ↦ v`. -/
theorem explicit_option_is_stored (N : Nat) (L : Doc) (P : Name) (c : Comp) (k : Name) (v : Tmpl)
    (hd : c.isDoc = false) (h : get? c.opts k = some v) (ho : hasKey (ovrOpts c P) k = false) :
    get? (flatComp N L P c).opts k = some v := by
  rw [flatComp_opts N L P c hd]
  exact component_option_shadows_blueprints L P c k v h ho

/-- the layered (pre-interpolation) option of the stored component, read back from the stored description for the
same platform, is the explicit value again -/
theorem explicit_option_read_back (N : Nat) (L : Doc) (P : Name) (c : Comp) (k : Name) (v : Tmpl)
    (hd : c.isDoc = false) (h : get? c.opts k = some v) (ho : hasKey (ovrOpts c P) k = false) :
    get? (layeredOpts (flatten N L P) P (flatComp N L P c)) k = some v := by
  refine component_option_shadows_blueprints _ P _ k v (explicit_option_is_stored N L P c k v hd h ho) ?_
  rw [ovrOpts_flatComp N L P P c hd, if_pos rfl]
  exact ho

/-- **… after any number of load+store cycles**: the description on disk after `n` further cycles still answers
`k ↦ v` for the stored component (not the blueprint's value) -/
theorem explicit_option_survives_cycles (N : Nat) (E : Exp) (hres : resolves N E.doc E.plat = true)
    (c : Comp) (k : Name) (v : Tmpl)
    (hd : c.isDoc = false) (h : get? c.opts k = some v) (ho : hasKey (ovrOpts c E.plat) k = false) (n : Nat) :
    get? (layeredOpts (storeAfterCycles N E n) E.plat (flatComp N E.doc E.plat c)) k = some v := by
  rw [store_load_cycles N E hres n]
  exact explicit_option_read_back N E.doc E.plat c k v hd h ho

/-- non-vacuity: a blueprint gives the list `[K]` for path 2, the component sets it to the EMPTY list `[]`
(characters 91 `[`, 75 `K`, 93 `]`); stored and read back the component still says `[]` -/
def exEmptyList : Doc :=
  { vars := [(0, ⟨[], []⟩)], bps := [(0, ⟨[(2, [.ch 91, .ch 75, .ch 93])], []⟩)],
    comps := [{ stage := 0, name := 1, isDoc := false, opts := [(2, [.ch 91, .ch 93])], vars := [], ovr := [] },
              { stage := 0, name := 3, isDoc := false, opts := [], vars := [], ovr := [] }] }

example : resolves 4 exEmptyList 0 = true := by decide
example : (resolveAll 4 (flatten 4 exEmptyList 0) 0).map (fun r => get? r.opts 2)
    = [some [.ch 91, .ch 93], some [.ch 91, .ch 75, .ch 93]] := by decide +kernel

/-- platform 1 with a platform-global variable shadowing a default-stage one, chained references, a blueprint,
a component with an override that redefines a variable from its raw form, and a `$import` entry -/
def exDoc : Doc :=
  { vars := [(0, ⟨[(10, [.ch 97, .ref 11]), (11, [.ch 49])], [(0, [(12, [.ref 10, .ch 45]), (13, [.ch 100])])]⟩),
             (1, ⟨[(13, [.ch 112]), (11, [.ch 50])], [(0, [(14, [.ref 12, .ref 13])])]⟩)]
    bps := [(0, ⟨[(20, [.ch 110])], [(0, [(21, [.ref 10])])]⟩), (1, ⟨[(22, [.ch 51])], []⟩)]
    comps := [ { stage := 0, name := 30, isDoc := false, opts := [(23, [.ch 120, .ref 14, .ref 15])],
                 vars := [(15, [.ref 11, .ch 33])],
                 ovr := [⟨1, [(20, [.ch 111])], [(15, [.ref 14, .ch 63])]⟩, ⟨2, [], [(15, [.ch 0])]⟩] },
               { stage := 1, name := 31, isDoc := true, opts := [(24, [.ch 100])], vars := [], ovr := [] } ] }

example : resolves 6 exDoc 1 = true := by decide +kernel
example : resolves 6 exDoc 0 = true := by decide +kernel
example : flatten 6 exDoc 1 ≠ exDoc := by decide
example : flatten 6 (flatten 6 exDoc 1) 1 = flatten 6 exDoc 1 := flatten_idempotent 6 exDoc 1 (by decide +kernel)
/-- the hypothesis is not vacuous the other way either: a cyclic description is rejected -/
example : resolves 6 { exDoc with vars := [(0, ⟨[(10, [.ref 11]), (11, [.ref 10])], []⟩)] } 0 = false := by decide +kernel
example : get? ((layerOf (flatten 6 exDoc 1).vars 0).stage 0) 14 = some [.ch 97, .ch 50, .ch 45, .ch 112] := by decide +kernel
example : resolvesFully 6 exDoc 1 = true := by decide +kernel
/-- the platform-less store really drops something (the raw override block of component 30) and nothing else -/
example : flatten 6 (flatten 6 exDoc 1) 0 = dropOvr (flatten 6 exDoc 1) :=
  store_platformless_reload 6 exDoc 1 (by decide +kernel) (by decide +kernel)
example : dropOvr (flatten 6 exDoc 1) ≠ flatten 6 exDoc 1 := by decide +kernel
example : runningConfig 6 (reloadAs 6 ⟨exDoc, 1, []⟩ 0) = runningConfig 6 ⟨exDoc, 1, []⟩ :=
  platformless_reload_preserves_resolution 6 ⟨exDoc, 1, []⟩ (by decide +kernel) (by decide +kernel) (by decide +kernel) rfl

/-! ### sessions: iterations and loads interleaved, loads that update the files and loads that do not -/

/-- the stored description of a description that resolves is itself a description that resolves for the same
platform (what a restart loads can be stored, iterated and loaded again) -/
theorem resolves_stored (N : Nat) (L : Doc) (P : Name) (h : resolves N L P = true) :
    resolves N (flatten N L P) P = true :=
  resolves_stored_for h P

private theorem runSteps_cons (N : Nat) (S : Session) (st : Step) (r : List Step) :
    runSteps N S (st :: r) = runSteps N (step N S st) r := rfl

private theorem iterIds_cons (st : Step) (r : List Step) : iterIds (st :: r) = iterIds [st] ++ iterIds r := by
  cases st <;> simp [iterIds]

private theorem step_compIds (N : Nat) (S : Session) (st : Step) (h : compIds S.disk = compIds S.exp.doc) :
    compIds (step N S st).disk = compIds S.disk ++ iterIds [st]
      ∧ compIds (step N S st).exp.doc = compIds (step N S st).disk := by
  cases st with
  | iterate cs =>
    have he : compIds (addIteration S.exp cs).doc = compIds S.disk ++ iterIds [.iterate cs] := by
      rw [h]; simp [compIds, addIteration, iterIds]
    have hd := (components_survive N (addIteration S.exp cs).doc (addIteration S.exp cs).plat).trans he
    exact ⟨hd, he.trans hd.symm⟩
  | store =>
    have hd := components_survive N S.exp.doc S.exp.plat
    exact ⟨(hd.trans h.symm).trans (List.append_nil _).symm, hd.symm⟩
  | load Q upd =>
    unfold step
    by_cases hl : loadable S.plats Q = true
    · cases upd <;> simp [hl, iterIds, store, components_survive]
    · simp [hl, iterIds, h]

/-- **Every loop iteration instantiated so far is in the stored description — for every history**: whatever the
interleaving of iterations, explicit stores and loads, whichever platform each load names and whether or not it is
allowed to update the instance files (a restart is not), the description on disk lists the components the session
started with followed by the components of every iteration instantiated since, and so does the experiment object
that currently drives the instance. -/
theorem session_components (N : Nat) (steps : List Step) :
    ∀ S : Session, compIds S.disk = compIds S.exp.doc →
      compIds (runSteps N S steps).disk = compIds S.disk ++ iterIds steps
      ∧ compIds (runSteps N S steps).exp.doc = compIds S.disk ++ iterIds steps := by
  induction steps with
  | nil => intro S h; simp [runSteps, iterIds, h]
  | cons st r ih =>
    intro S h
    obtain ⟨hd, he⟩ := step_compIds N S st h
    obtain ⟨a, b⟩ := ih (step N S st) he.symm
    rw [runSteps_cons, a, b, hd, List.append_assoc, ← iterIds_cons]
    exact ⟨rfl, rfl⟩

/-- … in particular for the session of the experiment that created the instance -/
theorem session_components_from_creation (N : Nat) (E : Exp) (steps : List Step) :
    compIds (runSteps N (Session.create N E) steps).disk = compIds E.doc ++ iterIds steps
    ∧ compIds (runSteps N (Session.create N E) steps).exp.doc = compIds E.doc ++ iterIds steps := by
  have h0 : compIds (Session.create N E).disk = compIds E.doc := components_survive N E.doc E.plat
  rw [← h0]
  exact session_components N steps (Session.create N E) h0

/-- **The description on disk is always the one the current experiment object stores** — for every history whose
loads name the platform of the instance (updating loads and read-only restarts alike) and whose iterations produce
descriptions that resolve: loading and storing again at any point of the session does not change the stored
description, and the object obtained by a load at any point stores what the object it replaces stored. -/
theorem session_disk_is_store (N : Nat) (P : Name) (steps : List Step) :
    ∀ S : Session, S.exp.plat = P → resolves N S.exp.doc P = true → S.disk = store N S.exp →
      S.plats = storedPlatforms P → loadsName P steps = true → stepsResolve N S steps = true →
      (runSteps N S steps).disk = store N (runSteps N S steps).exp
      ∧ (runSteps N S steps).exp.plat = P
      ∧ resolves N (runSteps N S steps).exp.doc P = true := by
  induction steps with
  | nil => intro S hP hr hd _ _ _; exact ⟨hd, hP, hr⟩
  | cons st r ih =>
    intro S hP hr hd hpl hn hs
    subst hP
    rw [runSteps_cons]
    cases st with
    | iterate cs =>
      rw [stepsResolve, Bool.and_eq_true] at hs
      exact ih _ rfl hs.1 rfl rfl hn hs.2
    | store => exact ih _ rfl hr rfl rfl hn hs
    | load Q upd =>
      rw [loadsName, Bool.and_eq_true, beq_iff_eq] at hn
      obtain ⟨rfl, hn⟩ := hn
      have hl : loadable S.plats S.exp.plat = true := by rw [hpl]; exact (stored_platform_loadable _).1
      -- what is loaded is a stored description: it resolves, and storing it again changes nothing
      have hres : resolves N S.disk S.exp.plat = true := hd ▸ resolves_stored N _ _ hr
      have hidem : S.disk = flatten N S.disk S.exp.plat := by
        rw [hd]; exact (flatten_idempotent N S.exp.doc _ hr).symm
      have hs' : stepsResolve N (step N S (.load S.exp.plat upd)) r = true := hs
      cases upd <;> simp only [step, hl, if_true, Bool.false_eq_true, if_false] at hs' ⊢
      · exact ih _ rfl hres hidem hpl hn hs'
      · exact ih _ rfl hres rfl rfl hn hs'

/-- … from the creation of the instance -/
theorem session_disk_is_store_from_creation (N : Nat) (E : Exp) (steps : List Step)
    (h : resolves N E.doc E.plat = true) (hn : loadsName E.plat steps = true)
    (hs : stepsResolve N (Session.create N E) steps = true) :
    (runSteps N (Session.create N E) steps).disk = store N (runSteps N (Session.create N E) steps).exp :=
  (session_disk_is_store N E.plat steps (Session.create N E) rfl h rfl rfl hn hs).1

/-- non-vacuity: platform 1; iterate, restart (read-only load), iterate, load+update, store -/
def exSteps : List Step :=
  [.iterate [{ stage := 1, name := 40, isDoc := false, opts := [(2, [.ref 10])], vars := [(12, [.ch 120])], ovr := [] }],
   .load 1 false,
   .iterate [{ stage := 1, name := 41, isDoc := false, opts := [(2, [.ref 12])], vars := [(12, [.ch 121])], ovr := [] }],
   .load 1 true, .store]
example : loadsName 1 exSteps = true ∧ stepsResolve 6 (Session.create 6 ⟨exDoc, 1, []⟩) exSteps = true := by decide +kernel
example : iterIds exSteps = [(1, 40, false), (1, 41, false)] := by decide
example : (runSteps 6 (Session.create 6 ⟨exDoc, 1, []⟩) exSteps).writable = true
    ∧ (runSteps 6 (Session.create 6 ⟨exDoc, 1, []⟩) (exSteps.take 3)).writable = false := by decide

/-! ## components instantiated after a reload: the restarted experiment continues the loop like the one that never
stopped -/

section afterReload
variable {N : Nat} {L : Doc} {P : Name}

/-- the layered options of a NEW component on the stored description answer every lookup like its layered options
on the package description: the two blueprint layers of the stored description are the four of the package, folded
in their order of precedence -/
private theorem layeredOpts_new (c : Comp) (hs : c.stage ∈ L.comps.map (·.stage))
    (hcl : bpClosed N L P c.stage = true) (k : Name) :
    get? (layeredOpts (flatten N L P) P c) k = get? (layeredOpts L P c) k := by
  unfold bpClosed at hcl
  rw [Bool.and_eq_true] at hcl
  have hg : bpg N L P = bpg0 L P := mapVals_interp_closed N _ _ _ (fun _ => rfl) hcl.1
  have hb : bpsv N L P c.stage = bps0 L P c.stage := mapVals_interp_closed N _ _ _ (fun _ => rfl) hcl.2
  unfold layeredOpts
  rw [bps_flatten]
  by_cases hP : P = 0
  · subst hP
    rw [layerOf_default_zero, stage_map _ _ hs, hg, hb]
    simp only [bpg0, bps0, bpsBase, update_self, beq_self_eq_true, Bool.or_true, if_true]
  · rw [layerOf_default_zero, layerOf_default_ne _ hP, stage_map _ _ hs, hg, hb]
    simp only [show Layer.empty.glob = [] from rfl, show Layer.empty.stage c.stage = [] from rfl, update_nil_right,
      get?_update, bpg0, bps0, bpsBase, beq_eq_false_iff_ne.mpr hP, Bool.or_false]
    generalize (layerOf L.bps 0).stage c.stage = s0
    split
    · rename_i he
      rw [List.isEmpty_iff.mp he]
      cases get? ((layerOf L.bps P).stage c.stage) k <;> cases get? (layerOf L.bps P).glob k <;> rfl
    · rw [get?_update]
      cases get? ((layerOf L.bps P).stage c.stage) k <;> cases get? (layerOf L.bps P).glob k <;> rfl

end afterReload

/-- **A component instantiated after a reload is stored like the one the never-reloaded experiment instantiates**
(`_partial`): for every description `L` that resolves, every NEW (non-document) component `c` of a stage the
description knows (the stage of the `$import` entry of the loop), the component that an experiment loaded from the
stored description stores for `c` (`flatComp` on `flatten N L P`: what `instantiate_dowhile_next_iteration` of a
restarted experiment writes and what `configurationForNode` is computed from) is the component the experiment that
still holds the package description stores: same variables (interpolated), same override blocks, and every option
lookup — blueprint-inherited settings (environment, resource request, resource manager options …) included, also for
paths that several of the four blueprint layers set (the stored stage blueprint repeats the platform-global blueprint
above a non-empty default-stage blueprint, fix 1b655bb; the folding before the fix: `Witness.C07`) — answers alike.
Hypothesis (decidable, evaluated by the driver on every case; what is missing from the full statement): `bpClosed` —
the inherited blueprint values mention no variable defined in the scope in which the store interpolates them (the
stored description keeps blueprints interpolated in the global / stage scope). -/
theorem new_component_after_reload_partial (N : Nat) (L : Doc) (P : Name) (c : Comp)
    (h : resolves N L P = true) (hd : c.isDoc = false) (hs : c.stage ∈ L.comps.map (·.stage))
    (hcl : bpClosed N L P c.stage = true) :
    sameComp (flatComp N (flatten N L P) P c) (flatComp N L P c) = true := by
  have hvars : (flatComp N (flatten N L P) P c).vars = (flatComp N L P c).vars := by
    rw [flatComp_vars _ _ _ c hd, flatComp_vars _ _ _ c hd]
    unfold cctx
    rw [gvars_stored (resolves_iff.mp h), svars_stored (resolves_iff.mp h) P hs]
  have hovr : (flatComp N (flatten N L P) P c).ovr = (flatComp N L P c).ovr := by
    rw [flatComp_ovr _ _ _ c hd, flatComp_ovr _ _ _ c hd]
  have hopts : ∀ k, get? (flatComp N (flatten N L P) P c).opts k = get? (flatComp N L P c).opts k := by
    intro k
    rw [flatComp_opts _ _ _ c hd, flatComp_opts _ _ _ c hd]
    exact layeredOpts_new c hs hcl k
  unfold sameComp sameLookups
  simp only [flatComp_stage, flatComp_name, flatComp_isDoc, hvars, hovr, beq_self_eq_true, Bool.true_and,
    List.all_eq_true, beq_iff_eq]
  intro e _
  exact hopts e.1

/-- **The restarted experiment continues the loop like the experiment that was never reloaded** (`_partial`, same
hypothesis as `new_component_after_reload_partial`, collected in `newCompsOk`): when the experiment `reload N E` loaded
from the instance directory and the experiment `E` that wrote it instantiate the same next iteration `cs`
(`addIteration`), the descriptions they store list, for every new component, the same component (`sameComp`); the
components that existed before are those of `store N E` in both (`session_disk_is_store`). -/
theorem iteration_after_reload_like_control_partial (N : Nat) (E : Exp) (cs : List Comp)
    (h : resolves N E.doc E.plat = true) (hok : newCompsOk N E.doc E.plat cs = true) :
    ∀ c ∈ cs, sameComp (flatComp N (addIteration (reload N E) cs).doc E.plat c)
      (flatComp N (addIteration E cs).doc E.plat c) = true := by
  intro c hc
  unfold newCompsOk at hok
  rw [List.all_eq_true] at hok
  have hc' := hok c hc
  simp only [Bool.and_eq_true, Bool.not_eq_true', List.contains_iff_mem] at hc'
  obtain ⟨⟨hd, hs⟩, hcl⟩ := hc'
  have e1 : flatComp N (addIteration (reload N E) cs).doc E.plat c = flatComp N (flatten N E.doc E.plat) E.plat c :=
    flatComp_congr N E.plat c rfl rfl
  have e2 : flatComp N (addIteration E cs).doc E.plat c = flatComp N E.doc E.plat c :=
    flatComp_congr N E.plat c rfl rfl
  rw [e1, e2]
  exact new_component_after_reload_partial N E.doc E.plat c h hd hs hcl

/-- the hypotheses are satisfiable by a non-trivial input: `exDoc` on platform 1 has blueprints in both layers -/
example : newCompsOk 6 exDoc 1 [⟨1, 40, false, [(30, [.ch 120])], [], []⟩] = true := by decide

/-- … and by one in which the default blueprint of the stage and the global blueprint of the platform set the same
option path (50): the shape the folding before fix 1b655bb got wrong (`Witness.C07`) is inside the theorem -/
def exConflict : Doc :=
  { vars := [(0, ⟨[(10, [.ch 49])], []⟩)]
    bps := [(0, ⟨[], [(1, [(50, [.ch 50])])]⟩), (1, ⟨[(50, [.ch 52]), (51, [.ch 101])], []⟩)]
    comps := [ { stage := 0, name := 30, isDoc := false, opts := [(23, [.ch 120])], vars := [], ovr := [] },
               { stage := 1, name := 31, isDoc := true, opts := [], vars := [], ovr := [] } ] }
example : resolves 4 exConflict 1 = true ∧ bpOrderFree exConflict 1 1 = false ∧
    newCompsOk 4 exConflict 1 [⟨1, 40, false, [(23, [.ch 121])], [], []⟩] = true := by decide +kernel

/-! ## components are identified by (stage, name): names shared between stages

The stored description is read back by looking components up by stage AND name.  For every description — also one in
which several stages use the same component name — every such lookup in the stored description answers the stored
form of what the same lookup answers in the description of the experiment that wrote it: no component is shadowed,
merged with or replaced by a namesake of another stage, after any number of load + store cycles. -/

/-- **Lookup by (stage, name) commutes with the store**: what the stored description answers for `(s, n)` is the
stored form of the component the writer's description answers for `(s, n)` (and nothing if the writer has none). -/
theorem stored_lookup (N : Nat) (L : Doc) (P : Name) (s : Nat) (n : Name) :
    findComp (flatten N L P) s n = (findComp L s n).map (flatComp N L P) := by
  show (L.comps.map (flatComp N L P)).find? _ = _
  rw [List.find?_map]
  simp only [Function.comp_def, flatComp_stage, flatComp_name]
  rfl

/-- … after any number of load + store cycles. -/
theorem stored_lookup_survives_cycles (N : Nat) (E : Exp) (h : resolves N E.doc E.plat = true) (k : Nat)
    (s : Nat) (n : Name) :
    findComp (storeAfterCycles N E k) s n = (findComp E.doc s n).map (flatComp N E.doc E.plat) := by
  rw [store_load_cycles N E h k]
  exact stored_lookup N E.doc E.plat s n

/-- **Namesakes of different stages stay apart**: two components that share a name and differ in the stage are both
found in the stored description, each under its own stage, each as its own stored form, and the two stored forms
differ. -/
theorem namesakes_stay_apart (N : Nat) (L : Doc) (P : Name) (a b : Comp)
    (ha : findComp L a.stage a.name = some a) (hb : findComp L b.stage b.name = some b)
    (_hn : a.name = b.name) (hst : a.stage ≠ b.stage) :
    findComp (flatten N L P) a.stage a.name = some (flatComp N L P a)
      ∧ findComp (flatten N L P) b.stage b.name = some (flatComp N L P b)
      ∧ flatComp N L P a ≠ flatComp N L P b := by
  refine ⟨by rw [stored_lookup, ha]; rfl, by rw [stored_lookup, hb]; rfl, ?_⟩
  intro heq
  apply hst
  have := congrArg Comp.stage heq
  rwa [flatComp_stage, flatComp_stage] at this

/-- a description without two components of the same (stage, name, kind) is stored as one -/
theorem distinct_components_stored_distinct (N : Nat) (L : Doc) (P : Name) (h : (compIds L).Nodup) :
    (compIds (flatten N L P)).Nodup := by
  rw [components_survive]; exact h

/-- the stored description resolves exactly one configuration per non-document component of the writer, in the
writer's order, under the writer's (stage, name) -/
theorem resolved_ids_survive (N : Nat) (L : Doc) (P Q : Name) :
    (resolveAll N (flatten N L P) Q).map (fun r => (r.stage, r.name))
      = (resolveAll N L P).map (fun r => (r.stage, r.name)) := by
  simp only [resolveAll, flatten, List.map_map, List.filter_map]
  simp [Function.comp_def, resolveComp, flatComp_stage, flatComp_name, flatComp_isDoc]

/-! ### a writer keyed by the name alone (NOT the code that exists; `Instance.keepLastByName`)

Why no test with stage-unique names tells such a writer from the real one, and why every description with a shared name
does: -/

private theorem keepLastByName_length_le : ∀ cs : List Comp, (keepLastByName cs).length ≤ cs.length
  | [] => Nat.le_refl _
  | c :: r => by
    have ih := keepLastByName_length_le r
    unfold keepLastByName
    split
    · exact Nat.le_succ_of_le ih
    · simpa using ih

private theorem any_name_iff (r : List Comp) (n : Name) :
    r.any (fun d => d.name == n) = true ↔ n ∈ r.map (·.name) := by
  simp [List.mem_map]

/-- with names that are unique across the whole description the name-keyed writer writes every component -/
theorem name_keyed_writer_exact_on_unique_names : ∀ cs : List Comp, (cs.map (·.name)).Nodup → keepLastByName cs = cs
  | [], _ => rfl
  | c :: r, h => by
    rw [List.map_cons, List.nodup_cons] at h
    have hno : r.any (fun d => d.name == c.name) = false :=
      Bool.eq_false_iff.mpr fun hx => h.1 ((any_name_iff r c.name).mp hx)
    unfold keepLastByName
    rw [hno, name_keyed_writer_exact_on_unique_names r h.2]
    rfl

/-- as soon as two components share a name (in different stages or not) the name-keyed writer writes fewer components
than the experiment has -/
theorem name_keyed_writer_loses_a_namesake : ∀ cs : List Comp, ¬ (cs.map (·.name)).Nodup →
    (keepLastByName cs).length < cs.length
  | [], h => absurd List.nodup_nil h
  | c :: r, h => by
    have hle := keepLastByName_length_le r
    unfold keepLastByName
    split
    · exact Nat.lt_succ_of_le hle
    · rename_i hany
      have hnot : c.name ∉ r.map (·.name) := fun hm => hany ((any_name_iff r c.name).mpr hm)
      have hr : ¬ (r.map (·.name)).Nodup := fun hn => h (by rw [List.map_cons, List.nodup_cons]; exact ⟨hnot, hn⟩)
      have := name_keyed_writer_loses_a_namesake r hr
      simpa using this

/-- stage 0 and stage 1 both have a component named 30, with different options; stage 1 has a second component -/
def exNamesakes : Doc :=
  { vars := [(0, ⟨[(10, [.ch 49])], [(0, [(11, [.ch 97])]), (1, [(11, [.ch 98])])]⟩)]
    bps := []
    comps := [ { stage := 0, name := 30, isDoc := false, opts := [(23, [.ch 120, .ref 11])], vars := [], ovr := [] },
               { stage := 1, name := 30, isDoc := false, opts := [(23, [.ch 121, .ref 11])], vars := [], ovr := [] },
               { stage := 1, name := 31, isDoc := false, opts := [(23, [.ref 10])], vars := [], ovr := [] } ] }
example : resolves 4 exNamesakes 0 = true ∧ (compIds exNamesakes).Nodup
    ∧ ¬ ((exNamesakes.comps.map (·.name)).Nodup) := by decide +kernel
example : (findComp (flatten 4 exNamesakes 0) 0 30).map (·.opts) = some [(23, [.ch 120, .ref 11])]
    ∧ (findComp (flatten 4 exNamesakes 0) 1 30).map (·.opts) = some [(23, [.ch 121, .ref 11])] := by decide +kernel

end St4sd.C07

/-! ## the instance directory: top-level folders and the references into them

Model: `St4sd/Model/InstanceDir.lean`.  The experiment that creates an instance knows the keys of the package
manifest and the folders of the directory as it is then; the experiment that reloads the directory re-derives its
folders from the listing alone (`Manifest.fromDirectory`, links to directories followed).  The theorems say that
for **every** manifest (copied, linked and nested entries), every directory that only grows afterwards and any
number of reloads, a reference that the creating experiment read as a reference into a folder (not to a
component) is read the same way by the reloaded experiment — hence same data references, same dataflow. -/
namespace St4sd.C07.Dir
open St4sd.InstanceDir

/-- every key of a manifest that deployed successfully is a folder of the resulting directory listing, whatever
its method (`:copy` gives a directory, `:link` a link to a directory) and however deeply it is nested -/
theorem manifest_folders_listed (m : List Entry) (l0 l1 : Listing) (hf : allFolders l0)
    (hd : deploy l0 m = some l1) : ∀ e ∈ m, e.top ∈ implied l1 := by
  intro e he
  obtain ⟨_, f1, n1⟩ := deploy_spec m hd hf
  obtain ⟨k, hk⟩ := (hasName_iff l1 e.top).mp (n1 e he)
  exact (mem_implied l1 e.top).mpr ⟨k, hk, f1 _ hk⟩

theorem grows_trans {a b c : Listing} (h1 : grows a b) (h2 : grows b c) : grows a c := fun x hx => h2 x (h1 x hx)

/-- every folder known to the creating experiment (manifest keys, folders of the directory at that time,
application dependencies and special folders) is known to an experiment that reloads the directory later -/
theorem creation_folders_survive_reload (m : List Entry) (l0 l1 l2 l3 : Listing) (extra : List Name)
    (hf : allFolders l0) (hd : deploy l0 m = some l1) (h12 : grows l1 l2) (h23 : grows l2 l3) :
    ∀ n, n ∈ foldersAtCreation m l2 extra → n ∈ foldersAtReload l3 extra := by
  intro n hn
  unfold foldersAtCreation at hn
  unfold foldersAtReload
  rcases List.mem_append.mp hn with hn | hn
  · rcases List.mem_append.mp hn with hn | hn
    · obtain ⟨e, he, rfl⟩ := List.mem_map.mp hn
      have := manifest_folders_listed m l0 l1 hf hd e he
      exact List.mem_append_left _ (implied_mono (grows_trans h12 h23) _ this)
    · exact List.mem_append_left _ (implied_mono h23 _ hn)
  · exact List.mem_append_right _ hn

/-- a reference that the creating experiment reads as a path (into a linked, copied or nested manifest folder, a
folder of the package, data/, input/, an application dependency …) is read as a path after the reload -/
theorem folder_references_stay_direct (m : List Entry) (l0 l1 l2 l3 : Listing) (extra : List Name)
    (hf : allFolders l0) (hd : deploy l0 m = some l1) (h12 : grows l1 l2) (h23 : grows l2 l3) (r : Ref)
    (h : isDirect (foldersAtCreation m l2 extra) r = true) : isDirect (foldersAtReload l3 extra) r = true :=
  isDirect_mono (creation_folders_survive_reload m l0 l1 l2 l3 extra hf hd h12 h23 _) h

/-- the decision is a function of the folder *set* restricted to the producer: it cannot change unless a folder
with the producer's name appears or disappears -/
theorem classification_stable (f f' : List Name) (r : Ref) (h1 : r.producer ∈ f → r.producer ∈ f')
    (h2 : r.producer ∈ f' → r.producer ∈ f) : isDirect f r = isDirect f' r :=
  Bool.eq_iff_iff.mpr ⟨isDirect_mono h1, isDirect_mono h2⟩

/-- **same reading of every reference after the reload**: references to components stay references to
components too, unless a new top-level folder with the name of the producer appeared in the directory -/
theorem references_classified_same (m : List Entry) (l0 l1 l2 l3 : Listing) (extra : List Name)
    (hf : allFolders l0) (hd : deploy l0 m = some l1) (h12 : grows l1 l2) (h23 : grows l2 l3) (r : Ref)
    (hnew : r.producer ∈ implied l3 → r.producer ∈ foldersAtCreation m l2 extra) :
    isDirect (foldersAtReload l3 extra) r = isDirect (foldersAtCreation m l2 extra) r := by
  apply classification_stable
  · intro h
    unfold foldersAtReload at h
    rcases List.mem_append.mp h with h | h
    · exact hnew h
    · exact List.mem_append_right _ h
  · exact creation_folders_survive_reload m l0 l1 l2 l3 extra hf hd h12 h23 _

/-- the directory listings seen by successive reloads -/
def growsAll : Listing → List Listing → Prop
  | _, [] => True
  | l, l' :: r => grows l l' ∧ growsAll l' r

theorem growsAll_mem {l : Listing} {ls : List Listing} (hg : growsAll l ls) : ∀ l' ∈ ls, grows l l' := by
  induction ls generalizing l with
  | nil => intro _ hl; cases hl
  | cons a rest ih =>
    intro l' hl
    rcases List.mem_cons.mp hl with rfl | hl
    · exact hg.1
    · exact grows_trans hg.1 (ih hg.2 l' hl)

/-- … for any number of reloads: whatever the creating experiment read as a path, every later reload does -/
theorem folder_references_stay_direct_every_reload (m : List Entry) (l0 l1 l2 : Listing) (extra : List Name)
    (hf : allFolders l0) (hd : deploy l0 m = some l1) (h12 : grows l1 l2) (r : Ref)
    (h : isDirect (foldersAtCreation m l2 extra) r = true) :
    ∀ (ls : List Listing), growsAll l2 ls → ∀ l ∈ ls, isDirect (foldersAtReload l extra) r = true :=
  fun _ hg l hl => folder_references_stay_direct m l0 l1 l2 l extra hf hd h12 (growsAll_mem hg l hl) r h

/-! ### non-vacuity -/

/-- folder 1 linked, folder 2 copied, `2/…` nested and linked, `3/…` nested and copied (parents created) -/
def exManifest : List Entry := [⟨1, false, .link⟩, ⟨2, false, .copy⟩, ⟨2, true, .link⟩, ⟨3, true, .copy⟩]

example : deploy [] exManifest = some [(1, .linkDir), (2, .dir), (3, .dir)] := by decide +kernel
example : allFolders ([] : Listing) := fun _ h => by cases h
/-- a nested link below a missing parent and a second entry for an existing target are refused -/
example : deploy [] [⟨4, true, .link⟩] = none := by decide
example : deploy [] [⟨1, false, .copy⟩, ⟨1, false, .link⟩] = none := by decide
/-- `1:ref` and `1/file:ref` are paths for the creating experiment and after a reload of the grown directory;
`5:ref` (no such folder) is a reference to a component in both; a link to a file or a broken link is no folder -/
example : isDirect (foldersAtCreation exManifest [(1, .linkDir), (2, .dir), (3, .dir), (7, .dir)] [9]) ⟨none, 1, false⟩ = true := by decide
example : isDirect (foldersAtReload [(1, .linkDir), (2, .dir), (3, .dir), (7, .dir), (8, .file)] [9]) ⟨none, 1, false⟩ = true := by decide
example : isDirect (foldersAtReload [(1, .linkDir), (2, .dir), (3, .dir), (7, .dir), (8, .file)] [9]) ⟨none, 5, false⟩ = false := by decide
example : isDirect (foldersAtReload [(1, .linkDir)] []) ⟨some 0, 1, false⟩ = false := by decide
example : implied [(1, .linkFile), (2, .linkBroken), (3, .file), (4, .linkDir)] = [4] := by decide

end St4sd.C07.Dir
