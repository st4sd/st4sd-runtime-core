import St4sd.Model.LoopDisk
/-!
Resolution of aggregate references against the state of the disk: the read loop of `:loopoutput` (`readAll`) as
`filterMap` / `filter`, and when a list of optional contents is complete.
-/
namespace St4sd.C05L
open St4sd.Str St4sd.Loop

/-- the file of instance `x` cannot be read -/
def missing (disk : Disk) (x : CId) : Bool := (disk x).content?.isNone

theorem readAll_eq (disk : Disk) (l : List CId) :
    readAll disk l = (l.filterMap fun x => (disk x).content?, l.filter (missing disk)) := by
  induction l with
  | nil => rfl
  | cons x xs ih => cases h : (disk x).content? <;> simp [readAll, missing, h, ih]

/-- `resolve()` of `:loopoutput` either yields all values or raises, naming the instances without a file: which of
the two is decided by whether some file is missing -/
theorem resolveLoopOutput_eq (disk : Disk) (l : List CId) :
    resolveLoopOutput disk l =
      if l.filter (missing disk) = [] then .ok (l.filterMap fun x => (disk x).content?)
      else .error (l.filter (missing disk)) := by
  rw [resolveLoopOutput, readAll_eq]
  cases l.filter (missing disk) <;> rfl

theorem map_eq_map_some_iff {α β : Type} (f : α → Option β) (l : List α) (vs : List β) :
    l.map f = vs.map some ↔ (l.filter fun x => (f x).isNone) = [] ∧ l.filterMap f = vs := by
  induction l generalizing vs with
  | nil => cases vs <;> simp
  | cons x xs ih =>
    cases hx : f x with
    | none => cases vs <;> simp [hx]
    | some v =>
      cases vs with
      | nil => simp [hx]
      | cons w ws =>
        simp only [List.map_cons, hx, List.cons.injEq, Option.some.injEq, List.filterMap_cons]
        rw [ih ws]
        simp [hx, and_left_comm]

theorem resolveLoopOutput_ok_iff (disk : Disk) (l : List CId) (vs : List S) :
    resolveLoopOutput disk l = .ok vs ↔ (l.map fun x => (disk x).content?) = vs.map some := by
  rw [map_eq_map_some_iff, resolveLoopOutput_eq]
  show _ ↔ l.filter (missing disk) = [] ∧ _
  split <;> simp [*]

theorem resolveLoopOutput_error_iff (disk : Disk) (l : List CId) (nf : List CId) :
    resolveLoopOutput disk l = .error nf ↔ nf ≠ [] ∧ nf = l.filter (missing disk) := by
  rw [resolveLoopOutput_eq]
  split
  · next h => simp only [h, reduceCtorEq, false_iff, not_and]; exact fun h1 h2 => h1 h2
  · next h => rw [Except.error.injEq, eq_comm]; exact ⟨fun e => ⟨e ▸ h, e⟩, fun e => e.2⟩

theorem stageLoopRef_ok_iff (ex : CId → Bool) (l r : List CId) :
    stageLoopRef ex l = .ok r ↔ r = l ∧ ∀ x ∈ l, ex x = true := by
  have h : (l.filter fun x => !ex x).isEmpty = true ↔ ∀ x ∈ l, ex x = true := by
    simp [List.isEmpty_iff, List.filter_eq_nil_iff]
  unfold stageLoopRef
  split
  · next he => rw [Except.ok.injEq]; exact ⟨fun e => ⟨e.symm, h.mp he⟩, fun e => e.1.symm⟩
  · next he => exact ⟨nofun, fun e => absurd (h.mpr e.2) he⟩

end St4sd.C05L
