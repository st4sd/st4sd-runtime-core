import St4sd.Lemmas.C12
import St4sd.Model.RestartKill
/-!
# C12 — Task restarts stay within the configured policy

Theorems about the model `St4sd.Restart` (Model/Restart.lean) of `Engine.restart`,
`RepeatingEngine.restart`, `ComponentState.restart`, `Controller._restartComponent` and
`Controller.postMortemCheck`, for **every** configuration, every start state and every history of task
exits (exit reason, hook answer, CONTROL file, `run()` failing, system stability).  `fin = true` is the
real controller (a refused restart finalises the component), `fin = false` lets the history continue
after a refusal (counters keep being exercised); every theorem holds for both.

The model is the code after the two repairs of `fixes/C12-*.diff` (`fix:` commits 694036b and ed41ca5 in /repo); the
code before them is `ctrlRestartOld` / `repeatingRestartOld`, refuted in `Witness/C12.lean`.
-/
namespace St4sd.C12
open St4sd.Restart St4sd.Gen

/-! ## Pin theorems: what the property text fixes about the regenerated constants -/

/-- "consecutive re-submissions after failed submissions never exceed five" -/
theorem pin_resubmission_cap : C12.resubmissionCap = 5 := by decide
/-- "three by default" -/
theorem pin_default_max_restarts : C12.defaultMaxRestarts = 3 := by decide
/-- "unlimited only when requested explicitly (-1) or when a restart hook file is named without a maximum" -/
theorem pin_unlimited : C12.unlimited = -1 ∧ C12.defaultMaxRestartsWithHookFile = C12.unlimited := by decide
/-- the model's enumerations are exactly the tables of `codes.py` -/
theorem pin_exit_reasons : Reason.all.map Reason.name = C12.exitReasons := rfl
theorem pin_restart_contexts : RCtx.all.map RCtx.name = C12.restartContexts := rfl
theorem pin_restart_codes : Code.all.map Code.name = C12.restartCodes := rfl
/-- the model's context -> code decision is the one extracted from `Engine.restart` -/
theorem pin_ctx_to_code : RCtx.all.map (fun x => (x.name, (ctxToCode x).name)) = C12.ctxToCode := rfl
theorem pin_run_failure_code : C12.runFailureCode = Code.couldNotInitiate.name := rfl
/-- the schema's `restartHookOn` domain excludes exactly Killed and Cancelled -/
theorem pin_schema_excludes : C12.dontRestartOn = [Reason.killed.name, Reason.cancelled.name] := rfl
theorem reasons_complete (r : Reason) : r ∈ Reason.all := by cases r <;> decide +kernel
theorem contexts_complete (x : RCtx) : x ∈ RCtx.all := by cases x <;> decide +kernel

/-- Killed/Cancelled are not restartable given the schema's domain of `restartHookOn`. -/
theorem schema_excludes_killed_cancelled (c : Cfg) (hv : schemaValid c = true) :
    Reason.killed ∉ c.hookOn ∧ Reason.cancelled ∉ c.hookOn := by
  simp only [schemaValid, Bool.and_eq_true, List.all_eq_true] at hv
  constructor <;> (intro h; have := hv.1 _ h; revert this; decide +kernel)

/-! ## Histories -/

private theorem exec_cons (fin : Bool) (c : Cfg) (s : St) (i : Inp) (is : List Inp) :
    exec fin c s (i :: is) =
      ⟨i.reason, (step fin c s i).2, (step fin c s i).1⟩ :: exec fin c (step fin c s i).1 is := rfl

private theorem final_cons (fin : Bool) (c : Cfg) (s : St) (i : Inp) (is : List Inp) :
    final fin c s (i :: is) = final fin c (step fin c s i).1 is := rfl

private theorem exec_nil (fin : Bool) (c : Cfg) (s : St) : exec fin c s [] = [] := rfl
private theorem final_nil (fin : Bool) (c : Cfg) (s : St) : final fin c s [] = s := rfl

private theorem exec_induct {fin : Bool} {c : Cfg} {P : St → Prop} {Q : Ev → Prop} {inps : List Inp}
    (hstep : ∀ s, ∀ i ∈ inps, P s → P (step fin c s i).1 ∧ Q ⟨i.reason, (step fin c s i).2, (step fin c s i).1⟩)
    {s : St} (h0 : P s) : (∀ e ∈ exec fin c s inps, Q e) ∧ P (final fin c s inps) := by
  induction inps generalizing s with
  | nil => exact ⟨fun _ he => absurd he List.not_mem_nil, h0⟩
  | cons i is ih =>
    obtain ⟨hP, hQ⟩ := hstep s i List.mem_cons_self h0
    obtain ⟨h1, h2⟩ := ih (fun s j hj => hstep s j (List.mem_cons_of_mem _ hj)) hP
    rw [exec_cons, final_cons]
    exact ⟨List.forall_mem_cons.mpr ⟨hQ, h1⟩, h2⟩

/-! ## The maximum number of restarts -/

/-- `restarts_le_max`: with a limit configured (`max ≠ -1`), the restart counter never exceeds it, at any
point of any history — including histories in which the counter is incremented by refused restarts
(hook says no / fails / cannot be imported, `run()` raises). -/
theorem restarts_le_max (fin : Bool) (c : Cfg) (s : St) (inps : List Inp)
    (hlim : effMax c ≠ C12.unlimited) (h0 : (s.restarts : Int) ≤ effMax c) :
    ∀ e ∈ exec fin c s inps, (e.st.restarts : Int) ≤ effMax c :=
  (exec_induct (P := fun s => (s.restarts : Int) ≤ effMax c)
    (fun s i _ h => ⟨(step_ok fin c s i).budget hlim h, (step_ok fin c s i).budget hlim h⟩) h0).1

theorem final_restarts_le_max (fin : Bool) (c : Cfg) (s : St) (inps : List Inp)
    (hlim : effMax c ≠ C12.unlimited) (h0 : (s.restarts : Int) ≤ effMax c) :
    ((final fin c s inps).restarts : Int) ≤ effMax c :=
  (exec_induct (Q := fun _ => True) (fun s i _ h => ⟨(step_ok fin c s i).budget hlim h, trivial⟩) h0).2

/-- a schema-valid configuration with a limit has a non-negative one -/
theorem effMax_nonneg (c : Cfg) (hv : schemaValid c = true) (hlim : effMax c ≠ C12.unlimited) : 0 ≤ effMax c := by
  cases hm : c.maxRestarts with
  | none => have := default_room c hm hlim; omega
  | some m =>
    -- the schema admits no maximum below -1, and -1 is the "no limit" marker
    simp only [schemaValid, hm, Bool.and_eq_true, decide_eq_true_eq] at hv
    simp only [effMax, hm, C12.unlimited] at hlim ⊢
    omega

/-- … hence from the start of a component's life (`restarts = 0`) the bound holds for every schema-valid
configuration with a limit. -/
theorem restarts_le_max_from_start (fin : Bool) (c : Cfg) (inps : List Inp)
    (hv : schemaValid c = true) (hlim : effMax c ≠ C12.unlimited) :
    ∀ e ∈ exec fin c St.init inps, (e.st.restarts : Int) ≤ effMax c :=
  restarts_le_max fin c St.init inps hlim (by simpa [St.init] using effMax_nonneg c hv hlim)

/-- "three by default": nothing configured and no hook file named ⇒ never more than three. -/
theorem at_most_three_by_default (fin : Bool) (c : Cfg) (inps : List Inp)
    (hm : c.maxRestarts = none) (hf : c.hookFileNamed = false) :
    ∀ e ∈ exec fin c St.init inps, e.st.restarts ≤ 3 := by
  have he : effMax c = 3 := by simp [effMax, hm, hf, C12.defaultMaxRestarts]
  intro e hmem
  have := restarts_le_max fin c St.init inps (by rw [he]; decide +kernel) (by rw [he]; decide +kernel) e hmem
  rw [he] at this; omega

/-- `unlimited_only_when_requested`: the counter is unbounded only if `maxRestarts = -1` was given or a
restart hook file is named and no maximum was given. -/
theorem unlimited_only_when_requested (c : Cfg) :
    effMax c = C12.unlimited ↔ c.maxRestarts = some (-1) ∨ (c.maxRestarts = none ∧ c.hookFileNamed = true) := by
  unfold effMax
  cases hm : c.maxRestarts with
  | none =>
    cases hf : c.hookFileNamed <;>
      simp [C12.defaultMaxRestarts, C12.defaultMaxRestartsWithHookFile, C12.unlimited]
  | some m => simp [C12.unlimited]

/-- number of times the task was started again for a reason other than a failed submission -/
def restartCount (evs : List Ev) : Nat := (evs.filter Ev.isRestart).length

/-- `run_count_le`: every start of the task for a reason other than SubmissionFailed consumes one unit of
the budget: the number of such starts plus the initial counter is at most the final counter … -/
theorem run_count_le_counter (fin : Bool) (c : Cfg) (s : St) (inps : List Inp) :
    s.restarts + restartCount (exec fin c s inps) ≤ (final fin c s inps).restarts := by
  induction inps generalizing s with
  | nil => exact Nat.le_refl _
  | cons i is ih =>
    have hk := step_ok fin c s i
    have := ih (step fin c s i).1
    rw [exec_cons, final_cons]
    simp only [restartCount, List.filter_cons] at this ⊢
    split
    · rename_i h
      simp only [Ev.isRestart, Bool.and_eq_true, decide_eq_true_eq] at h
      have := hk.consumed h.2 h.1
      simp only [List.length_cons]; omega
    · have := hk.restarts_mono; omega

/-- … hence at most the maximum. -/
theorem run_count_le (fin : Bool) (c : Cfg) (s : St) (inps : List Inp)
    (hlim : effMax c ≠ C12.unlimited) (h0 : (s.restarts : Int) ≤ effMax c) :
    ((s.restarts + restartCount (exec fin c s inps) : Nat) : Int) ≤ effMax c := by
  have h1 := run_count_le_counter fin c s inps
  have h2 := final_restarts_le_max fin c s inps hlim h0
  omega

/-! ## Which exits may start the task again -/

/-- `only_listed_reasons` (one step): the task is started (`run()` invoked, or `RestartInitiated` returned)
only when the exit reason is listed in `restartHookOn` or is SubmissionFailed — whatever the hook answers,
whether or not the system is stable. -/
theorem started_only_for_listed (fin : Bool) (c : Cfg) (s : St) (i : Inp)
    (h : s.runs < (step fin c s i).1.runs ∨ (step fin c s i).2 = .initiated) :
    i.reason = .submissionFailed ∨ i.reason ∈ c.hookOn :=
  (step_ok fin c s i).listed h

/-- `only_listed_reasons` over histories. -/
theorem only_listed_reasons (fin : Bool) (c : Cfg) (s : St) (inps : List Inp) :
    ∀ e ∈ exec fin c s inps, e.code = .initiated → e.reason = .submissionFailed ∨ e.reason ∈ c.hookOn :=
  (exec_induct (P := fun _ => True)
    (fun s i _ _ => ⟨trivial, fun h => started_only_for_listed fin c s i (.inr h)⟩) trivial).1

/-- `no_restart_after_kill`: after a killed or cancelled task nothing is started (given the schema's domain
of `restartHookOn`, see `schema_excludes_killed_cancelled`), even when the system is reported unstable. -/
theorem no_restart_after_kill (fin : Bool) (c : Cfg) (s : St) (i : Inp) (hv : schemaValid c = true)
    (hr : i.reason = .killed ∨ i.reason = .cancelled) :
    (step fin c s i).2 ≠ .initiated ∧ (step fin c s i).1.runs = s.runs := by
  obtain ⟨hk, hc⟩ := schema_excludes_killed_cancelled c hv
  have hl := (step_ok fin c s i).listed
  have hm := (step_ok fin c s i).runs_mono
  have key : ¬ (i.reason = .submissionFailed ∨ i.reason ∈ c.hookOn) := by
    rcases hr with hr | hr <;> rw [hr] <;> simp [hk, hc]
  have : ¬ s.runs < (step fin c s i).1.runs := fun h => key (hl (.inl h))
  exact ⟨fun h => key (hl (.inr h)), by omega⟩

/-- `repeating_at_most_one`: a RepeatingEngine is restarted at most once. -/
theorem repeating_at_most_one (fin : Bool) (c : Cfg) (s : St) (inps : List Inp)
    (hc : c.repeating = true) (h0 : s.restarts ≤ 1) :
    ∀ e ∈ exec fin c s inps, e.st.restarts ≤ 1 :=
  (exec_induct (P := fun s => s.restarts ≤ 1)
    (fun s i _ h => ⟨(step_ok fin c s i).repeating_once hc h, (step_ok fin c s i).repeating_once hc h⟩) h0).1

/-- a RepeatingEngine is only ever restarted after ResourceExhausted -/
theorem repeating_only_resource_exhausted (fin : Bool) (c : Cfg) (s : St) (i : Inp) (hc : c.repeating = true)
    (h : (step fin c s i).2 = .initiated) : i.reason = .resourceExhausted := by
  rw [step_eq] at h
  rcases ctrlRestart_repeating c (exit c s i.reason) i hc with ⟨hre, _⟩ | ⟨code, hne, h'⟩
  · exact hre
  · rw [h'] at h; exact absurd h hne

/-! ## The cap on consecutive re-submissions -/

theorem resub_invariant (fin : Bool) (c : Cfg) (s : St) (inps : List Inp) (h0 : s.resub ≤ cap) :
    (final fin c s inps).resub ≤ cap :=
  (exec_induct (Q := fun _ => True) (fun s i _ h => ⟨(step_ok fin c s i).resub_inv h, trivial⟩) h0).2

private theorem window (fin : Bool) (c : Cfg) (s : St) (win : List Inp) (h0 : s.resub ≤ cap)
    (hw : ∀ e ∈ exec fin c s win, e.isResub = true) : s.resub + win.length ≤ cap := by
  induction win generalizing s with
  | nil => simpa using h0
  | cons i is ih =>
    rw [exec_cons] at hw
    have h1 := hw _ (List.mem_cons_self)
    simp only [Ev.isResub, Bool.and_eq_true, decide_eq_true_eq] at h1
    have hk := (step_ok fin c s i).resub_window h1.2 h1.1
    have := ih (step fin c s i).1 (by omega) (fun e he => hw e (List.mem_cons_of_mem _ he))
    simp only [List.length_cons]; omega

/-- `resubmission_cap`: in any history `pre ++ win ++ …`, if every exit of the window `win` was a failed
submission answered by an initiated re-submission, the window is at most `resubmissionCap` long — also when
`SubmissionFailed ∈ restartHookOn`, for the simulator backend, and whatever happened in `pre`. -/
theorem resubmission_cap (fin : Bool) (c : Cfg) (s : St) (pre win : List Inp) (h0 : s.resub ≤ cap)
    (hw : ∀ e ∈ exec fin c (final fin c s pre) win, e.isResub = true) :
    win.length ≤ C12.resubmissionCap := by
  have h1 := resub_invariant fin c s pre h0
  have := window fin c (final fin c s pre) win h1 hw
  unfold cap at *; omega

/-- … "never exceed five". -/
theorem consecutive_resubmissions_le_five (fin : Bool) (c : Cfg) (pre win : List Inp)
    (hw : ∀ e ∈ exec fin c (final fin c St.init pre) win, e.isResub = true) : win.length ≤ 5 := by
  have := resubmission_cap fin c St.init pre win (by simp [St.init]) hw
  rw [pin_resubmission_cap] at this; exact this

/-! ## Task creation does not end a streak of failed submissions -/

/-- The `taskCreated` event (`SetLaunchTime` after the backend accepted the task) changes no counter. -/
theorem task_creation_keeps_counters (c : Cfg) (s : St) :
    (taskCreated c s).resub = s.resub ∧ (taskCreated c s).restarts = s.restarts ∧
    (taskCreated c s).runs = s.runs ∧ (taskCreated c s).shutdown = s.shutdown := ⟨rfl, rfl, rfl, rfl⟩

/-- From the launch to the exit the streak counter is reset by nothing but a successful task: not by the
creation of a Task object, not by a launch that raises, not by any other exit reason. -/
theorem streak_reset_only_by_success (c : Cfg) (s : St) (i : Inp) (h : i.reason ≠ .success) :
    (arrive c s i).resub = s.resub := by
  obtain ⟨_, _, _, _, hkeep⟩ := exit_fields c s i.reason
  rw [arrive_eq]; exact hkeep h

/-- number of initiated re-submissions after failed submissions in a list of events -/
def resubCount (evs : List Ev) : Nat := (evs.filter Ev.isResub).length

/-- `resubmissions_without_success_le_cap`: in any stretch of a history in which no task succeeds — whether
the Task objects were created fine and then REPORTED SubmissionFailed (`launch = .task`), or the task generator
raised, whatever other failures, refused restarts and hook answers lie in between — the number of initiated
re-submissions plus the counter at the start of the stretch never exceeds the cap. -/
theorem resubmissions_without_success_le_cap (fin : Bool) (c : Cfg) (s : St) (win : List Inp)
    (h0 : s.resub ≤ cap) (hns : ∀ i ∈ win, i.reason ≠ .success) :
    s.resub + resubCount (exec fin c s win) ≤ cap := by
  induction win generalizing s with
  | nil => exact h0
  | cons i is ih =>
    have hk := step_ok fin c s i
    have hne : i.reason ≠ .success := hns i (List.mem_cons_self)
    have h1 := hk.resub_inv h0
    have := ih (step fin c s i).1 h1 (fun j hj => hns j (List.mem_cons_of_mem _ hj))
    rw [exec_cons]
    simp only [resubCount, List.filter_cons] at this ⊢
    split
    · rename_i h
      simp only [Ev.isResub, Bool.and_eq_true, decide_eq_true_eq] at h
      have := hk.resub_window h.2 h.1
      simp only [List.length_cons]; omega
    · have := hk.resub_keep hne; omega

/-- … from the start of a component's life, after any prefix: never more than five re-submissions until a task
succeeds, task creation events included. -/
theorem at_most_five_resubmissions_until_success (fin : Bool) (c : Cfg) (pre win : List Inp)
    (hns : ∀ i ∈ win, i.reason ≠ .success) :
    resubCount (exec fin c (final fin c St.init pre) win) ≤ 5 := by
  have h1 := resub_invariant fin c St.init pre (by simp [St.init])
  have := resubmissions_without_success_le_cap fin c _ win h1 hns
  have hc : cap = 5 := pin_resubmission_cap
  omega

/-! ## A refused restart is final -/

/-- `refused_then_final`: under `postMortemCheck`, any answer other than RestartInitiated gives the
component its final state (engine shut down). -/
theorem refused_then_final (c : Cfg) (s : St) (i : Inp) (h : (step true c s i).2 ≠ .initiated) :
    (step true c s i).1.shutdown = true :=
  (step_ok true c s i).refused_final rfl h

/-- … and after the final state no exit whatsoever starts the task again or changes the restart counter. -/
theorem nothing_after_final (fin : Bool) (c : Cfg) (s : St) (inps : List Inp) (h : s.shutdown = true) :
    ∀ e ∈ exec fin c s inps, e.code ≠ .initiated ∧ e.st.runs = s.runs ∧ e.st.restarts = s.restarts :=
  (exec_induct (P := fun s' => s'.shutdown = true ∧ s'.runs = s.runs ∧ s'.restarts = s.restarts)
    (fun s' i _ ⟨hsd, hr, hrs⟩ =>
      have ⟨hcode, hruns, hrest, hsd'⟩ := (step_ok fin c s' i).absorbing hsd
      ⟨⟨hsd', hruns.trans hr, hrest.trans hrs⟩, hcode, hruns.trans hr, hrest.trans hrs⟩)
    ⟨h, rfl, rfl⟩).1

/-- Both together, as the property states it: once a restart is refused, the rest of the history contains
no further start of the task. -/
theorem refused_is_definitive (c : Cfg) (s : St) (i : Inp) (rest : List Inp)
    (h : (step true c s i).2 ≠ .initiated) :
    ∀ e ∈ exec true c (step true c s i).1 rest, e.code ≠ .initiated ∧ e.st.runs = (step true c s i).1.runs := by
  intro e he
  obtain ⟨hcode, hruns, _⟩ := nothing_after_final true c _ rest (refused_then_final c s i h) e he
  exact ⟨hcode, hruns⟩

/-! ## What every restart-hook outcome means

The property quantifies over "every restart-hook outcome (possible, not required, not possible, failed, raising,
returning junk)".  `HookAns.refuses` are the outcomes that refuse: not required (`RestartContextRestartNotRequired`
or the old interface's `False`), not possible, failed (`RestartContextHookFailed`) and raising (an exception that
is not an IOError: "Will consider it RestartContextHookFailed"). -/

/-- `refusing_hook_never_restarts`: a plain engine (not the simulator's unconditional restart, not a
RepeatingEngine) whose hook module answers with a refusing outcome does not start the task again at an exit that
is not a failed submission — from every state, whatever the budget, the exit reason, the stability of the
system, `run()` failing or not: no `RestartInitiated`, no `run()`. -/
theorem refusing_hook_never_restarts (fin : Bool) (c : Cfg) (s : St) (i : Inp) (hrep : c.repeating = false)
    (hsim : c.simulator = false) (hm : c.hookModule = .scripted) (hsf : i.reason ≠ .submissionFailed)
    (hr : i.hook.refuses = true) :
    (step fin c s i).2 ≠ .initiated ∧ (step fin c s i).1.runs = s.runs := by
  obtain ⟨_, hexit, _⟩ := exit_fields c s i.reason
  rw [step_eq]
  -- the controller refuses by itself, or `ComponentState.restart` hands the exit to `Engine.restart`, which asks the hook
  rcases ctrlRestart_cases c (exit c s i.reason) i with ⟨h, _⟩ | ⟨code, hne, h⟩ <;> rw [h]
  · unfold compRestart
    split
    · exact ⟨nofun, hexit⟩
    · simp only [hrep, Bool.false_eq_true, if_false]
      obtain ⟨hcode, hruns⟩ := engineRestart_refusing c (exit c s i.reason) i hsim hm hsf hr
      generalize engineRestart c (exit c s i.reason) i = r at hcode hruns
      obtain ⟨a, b⟩ := r
      cases b with
      | none => exact ⟨nofun, hruns.trans hexit⟩
      | some cd => exact ⟨fun h => hcode (congrArg some h), hruns.trans hexit⟩
  · exact ⟨hne, hexit⟩

/-- … and under the real post-mortem handling the component then receives its final state: "once a restart is
refused the component receives its final state" for a hook that answers not required / not possible / failed or
raises. -/
theorem refusing_hook_is_final (c : Cfg) (s : St) (i : Inp) (hrep : c.repeating = false)
    (hsim : c.simulator = false) (hm : c.hookModule = .scripted) (hsf : i.reason ≠ .submissionFailed)
    (hr : i.hook.refuses = true) :
    (step true c s i).1.shutdown = true :=
  refused_then_final c s i (refusing_hook_never_restarts true c s i hrep hsim hm hsf hr).1

/-- … over histories: if every exit of a history is answered by a refusing hook (and none is a failed
submission), nothing is ever started again — also with an unlimited budget (hook file named, no maximum). -/
theorem refusing_hooks_never_restart (fin : Bool) (c : Cfg) (s : St) (inps : List Inp) (hrep : c.repeating = false)
    (hsim : c.simulator = false) (hm : c.hookModule = .scripted)
    (hall : ∀ i ∈ inps, i.reason ≠ .submissionFailed ∧ i.hook.refuses = true) :
    (∀ e ∈ exec fin c s inps, e.code ≠ .initiated) ∧ (final fin c s inps).runs = s.runs :=
  exec_induct (P := fun s' => s'.runs = s.runs) (Q := fun e => e.code ≠ .initiated)
    (fun s' i hi hr' =>
      have k := refusing_hook_never_restarts fin c s' i hrep hsim hm (hall i hi).1 (hall i hi).2
      ⟨k.2.trans hr', k.1⟩) rfl

/-- the hook is asked (`stepAsksHook`, compared with the real hook module's call count on every run) only at
exits whose reason is listed, that are no failed submissions, and while the budget is not used up -/
theorem hook_asked_only_when_listed (c : Cfg) (s : St) (i : Inp) (h : stepAsksHook c s i = true) :
    i.reason ∈ c.hookOn ∧ i.reason ≠ .submissionFailed ∧ c.repeating = false := by
  simp only [stepAsksHook, ctrlAsksHook, Bool.and_eq_true, Bool.not_eq_true'] at h
  have := engineAsksHook_spec c _ i h.2
  exact ⟨this.1, this.2.1, h.1.2⟩

/-! ## The loader: the policy the runtime sees is the policy written -/

/-- the default list of restartable exit reasons of `flowir.py` is exactly `[ResourceExhausted]` -/
theorem pin_default_hook_on : defaultHookOn = [.resourceExhausted] := by decide +kernel

/-- `explicit_list_preserved`: a `restartHookOn` that is written — the empty list included — reaches the runtime
unchanged … -/
theorem explicit_list_preserved (w : Written) (l : List Reason) (h : w.hookOn = some l) : (load w).hookOn = l := by
  simp [load, h]

/-- … and only a missing list gets the default. -/
theorem only_missing_list_gets_default (w : Written) :
    (w.hookOn = none ∧ (load w).hookOn = defaultHookOn) ∨ w.hookOn = some (load w).hookOn := by
  cases h : w.hookOn <;> simp [load, h]

/-- `maxRestarts` (0 included) and `restartHookFile` ('' included) are seen as written -/
theorem load_keeps_max_and_hook_file (w : Written) :
    (load w).maxRestarts = w.maxRestarts ∧ (load w).hookFile = w.hookFile := ⟨rfl, rfl⟩

/-- the budget of the loaded policy is the written one: the written maximum if there is one, else unlimited exactly
when a non-empty hook file name is written, else the default of three -/
theorem loaded_budget (w : Written) (sim rep : Bool) (m : HookModule) :
    effMax ((load w).cfg sim rep m) =
      match w.maxRestarts with
      | some k => k
      | none => if (match w.hookFile with | some f => f != "" | none => false) then C12.unlimited else 3 := by
  cases hm : w.maxRestarts with
  | some k => simp [effMax, load, Seen.cfg, hm]
  | none =>
    simp only [effMax, load, Seen.cfg, hm]
    split <;> simp_all [C12.defaultMaxRestarts, C12.defaultMaxRestartsWithHookFile, C12.unlimited]

/-- `only_written_reasons`: through the loader, the task is started again only for an exit reason the component
WROTE in `restartHookOn` (for the default `[ResourceExhausted]` when it wrote no list) or a failed submission. -/
theorem only_written_reasons (fin : Bool) (w : Written) (sim rep : Bool) (m : HookModule) (s : St) (inps : List Inp) :
    ∀ e ∈ exec fin ((load w).cfg sim rep m) s inps, e.code = .initiated →
      e.reason = .submissionFailed ∨ e.reason ∈ w.hookOn.getD defaultHookOn := by
  intro e he hi
  have h := only_listed_reasons fin _ s inps e he hi
  cases hw : w.hookOn <;> simpa [load, Seen.cfg, hw] using h

/-- `empty_list_never_restarts`: a component that writes `restartHookOn: []` is never restarted (re-submissions after
failed submissions apart), whatever its hook, its budget, the stability of the system. -/
theorem empty_list_never_restarts (fin : Bool) (w : Written) (sim rep : Bool) (m : HookModule) (s : St)
    (inps : List Inp) (h : w.hookOn = some []) :
    ∀ e ∈ exec fin ((load w).cfg sim rep m) s inps, e.isRestart = false := by
  intro e he
  have h1 := only_written_reasons fin w sim rep m s inps e he
  simp only [h, Option.getD_some, List.not_mem_nil, or_false] at h1
  by_cases hc : e.code = .initiated
  · simp [Ev.isRestart, h1 hc]
  · simp [Ev.isRestart, hc]

/-! ## Several components of one experiment: every component is judged by its own policy and its own hook file -/

private theorem mexec_cons (fin : Bool) (files : String → HookAns) (cf : Nat → MCfg) (ss : Nat → St) (m : MInp)
    (ms : List MInp) :
    mexec fin files cf ss (m :: ms) =
      (m.comp, (mstep fin files cf ss m).2) :: mexec fin files cf (mstep fin files cf ss m).1 ms := rfl

/-- `component_decisions_independent`: in any interleaved history of exits of any number of components, the events
of component `k` (codes, counters, final state) are exactly those of `k` running alone on its own exits answered by
its own hook file — the restarts of the other components, their hook files and their order do not matter. -/
theorem component_decisions_independent (fin : Bool) (files : String → HookAns) (cf : Nat → MCfg) (k : Nat)
    (ss : Nat → St) (ms : List MInp) :
    eventsOf k (mexec fin files cf ss ms) = exec fin (cf k).cfg (ss k) (ownInps files cf k ms) := by
  induction ms generalizing ss with
  | nil => rfl
  | cons m ms ih =>
    rw [mexec_cons]
    by_cases hk : m.comp = k
    · subst hk
      have := ih (mstep fin files cf ss m).1
      simp only [eventsOf, ownInps, List.filter_cons, beq_self_eq_true, if_true, List.map_cons] at this ⊢
      rw [exec_cons, this]
      simp [mstep, ownInp]
    · have := ih (mstep fin files cf ss m).1
      have hb : (m.comp == k) = false := by simpa using hk
      have hk' : ¬ k = m.comp := fun h => hk h.symm
      simp only [eventsOf, ownInps, List.filter_cons, hb] at this ⊢
      simpa [mstep, hk'] using this

/-- … in particular they depend on the contents of no hook file but the component's own. -/
theorem depends_only_on_own_hook_file (fin : Bool) (files files' : String → HookAns) (cf : Nat → MCfg) (k : Nat)
    (ss : Nat → St) (ms : List MInp) (h : files (cf k).hookFile = files' (cf k).hookFile) :
    eventsOf k (mexec fin files cf ss ms) = eventsOf k (mexec fin files' cf ss ms) := by
  rw [component_decisions_independent, component_decisions_independent]
  simp [ownInps, ownInp, h]

/-- `own_refusing_file_never_restarts`: a component (plain engine, hook module imported fine) whose OWN hook file
refuses is never started again at an exit other than a failed submission, whatever the other components' hook files
answer and whenever they restarted. -/
theorem own_refusing_file_never_restarts (fin : Bool) (files : String → HookAns) (cf : Nat → MCfg) (k : Nat)
    (ss : Nat → St) (ms : List MInp) (hrep : (cf k).cfg.repeating = false) (hsim : (cf k).cfg.simulator = false)
    (hm : (cf k).cfg.hookModule = .scripted) (hr : (files (cf k).hookFile).refuses = true)
    (hsf : ∀ m ∈ ms, m.comp = k → m.inp.reason ≠ .submissionFailed) :
    ∀ e ∈ eventsOf k (mexec fin files cf ss ms), e.code ≠ .initiated := by
  rw [component_decisions_independent]
  refine (refusing_hooks_never_restart fin (cf k).cfg (ss k) _ hrep hsim hm ?_).1
  intro i hi
  simp only [ownInps, List.mem_map, List.mem_filter, beq_iff_eq] at hi
  obtain ⟨m, ⟨hm1, hm2⟩, rfl⟩ := hi
  exact ⟨hsf m hm1 hm2, hr⟩

/-! ## Non-vacuity: the hypotheses are met by concrete, non-trivial inputs -/

private def hookYes : Inp := ⟨.knownIssue, .ctx .possible, false, false, true, .task⟩
private def hookNo : Inp := ⟨.knownIssue, .ctx .notPossible, false, false, true, .task⟩
private def subFailed : Inp := ⟨.submissionFailed, .junk, false, false, true, .task⟩
private def cfgDefault : Cfg := ⟨none, false, [.knownIssue], false, false, .scripted⟩
private def cfgListsSF : Cfg := ⟨some 2, false, [.submissionFailed, .knownIssue], false, false, .scripted⟩

/-- default maximum: three restarts are initiated, the fourth is refused -/
example : (exec false cfgDefault St.init (List.replicate 5 hookYes)).map (·.code) =
    [.initiated, .initiated, .initiated, .maxAttemptsExceeded, .maxAttemptsExceeded] := by decide +kernel
/-- refused restarts use up the budget too (counter incremented before the hook is asked) -/
example : (exec false cfgDefault St.init [hookNo, hookNo, hookYes, hookYes]).map (fun e => (e.code, e.st.restarts)) =
    [(.couldNotInitiate, 1), (.couldNotInitiate, 2), (.initiated, 3), (.maxAttemptsExceeded, 3)] := by decide +kernel
/-- SubmissionFailed listed in restartHookOn: five re-submissions, then refused; the window hypothesis of
`resubmission_cap` holds for the first five -/
example : (exec false cfgListsSF St.init (List.replicate 7 subFailed)).map (·.code) =
    [.initiated, .initiated, .initiated, .initiated, .initiated, .maxAttemptsExceeded, .maxAttemptsExceeded] := by decide +kernel
example : ∀ e ∈ exec false cfgListsSF (final false cfgListsSF St.init [hookYes]) (List.replicate 5 subFailed),
    e.isResub = true := by decide +kernel
/-- tasks that are created fine and then report SubmissionFailed: five re-submissions, the sixth exit is refused and
(real controller) the component gets its final state; a launch that raises in between does not change that -/
example : (exec true cfgDefault St.init (List.replicate 7 subFailed)).map (fun e => (e.code, e.st.resub, e.st.shutdown)) =
    [(.initiated, 1, false), (.initiated, 2, false), (.initiated, 3, false), (.initiated, 4, false),
     (.initiated, 5, false), (.maxAttemptsExceeded, 5, true), (.maxAttemptsExceeded, 5, true)] := by decide +kernel
example : resubCount (exec false cfgDefault St.init
    [subFailed, { subFailed with launch := .submitError }, hookYes, subFailed, subFailed, hookNo, subFailed, subFailed]) = 5 := by
  decide +kernel
/-- the real controller stops at the first refusal -/
example : (exec true cfgDefault St.init [hookYes, hookNo, hookYes]).map (fun e => (e.code, e.st.shutdown, e.st.runs)) =
    [(.initiated, false, 1), (.couldNotInitiate, true, 1), (.couldNotInitiate, true, 1)] := by decide +kernel
example : schemaValid cfgListsSF = true ∧ effMax cfgListsSF ≠ C12.unlimited := by decide +kernel
/-- a hook that raises / reports failure at an exit with a listed reason: asked, refused, final state; with a named
hook file and no maximum (unlimited budget) as well; the same exits answered "possible" restart every time -/
private def cfgNamedHook : Cfg := ⟨none, true, [.knownIssue], false, false, .scripted⟩
private def hookRaises : Inp := ⟨.knownIssue, .raises, false, false, true, .task⟩
private def hookFailed : Inp := ⟨.knownIssue, .ctx .hookFailed, false, false, true, .task⟩
example : stepAsksHook cfgNamedHook St.init hookRaises = true ∧ hookRaises.hook.refuses = true ∧
    hookFailed.hook.refuses = true ∧ effMax cfgNamedHook = C12.unlimited := by decide
example : (exec true cfgNamedHook St.init [hookYes, hookYes, hookYes, hookYes, hookRaises, hookYes]).map
    (fun e => (e.code, e.st.shutdown, e.st.runs)) =
    [(.initiated, false, 1), (.initiated, false, 2), (.initiated, false, 3), (.initiated, false, 4),
     (.couldNotInitiate, true, 4), (.couldNotInitiate, true, 4)] := by decide +kernel
example : (exec false cfgDefault St.init [hookFailed, hookRaises, hookNo]).map (·.code) =
    [.couldNotInitiate, .couldNotInitiate, .couldNotInitiate] := by decide
example : effMax ⟨none, true, [], false, false, .fallback⟩ = C12.unlimited := by decide

/-! ## kill() before a launch: what the engine reports, and that the task is not started again

`St4sd.RestartKill` (Model/RestartKill.lean): the `self.process` / `self._exitReason` ivars of a plain `Engine`
through launches, exits, `kill()` and the reset made by `Engine.restart`.  For every history of launches, exits
and kills, from every engine state without a stale Task object: a `kill()` that finds the engine alive and not
launched — in the launch delay of the first `run()`, in the launch delay of the `run()` of a restart, or before
`run()` — is reported as `Killed`, and the task is not started again. -/
section Kill
open St4sd.RestartKill

/-- no Task object of an earlier launch is left in `self.process` while a launch is awaited or before `run()` -/
def KInv (e : Eng) : Prop := (e.pending = true ∨ e.runCalled = false) → e.proc = none

theorem kinv_init : KInv Eng.init ∧ KInv (RestartKill.run Eng.init) := by
  constructor <;> intro _ <;> rfl

/-- launches, exits and kills keep the invariant -/
theorem kinv_arrive (e : Eng) (a : Arrival) (h : KInv e) : KInv (arriveEng e a) := by
  unfold KInv at *
  cases a with
  | exits l r =>
    cases l <;> simp [arriveEng, setExitReason]
    intro hr; simp [h (Or.inr hr)]
  | kill =>
    simp only [arriveEng]
    split
    · simp [setExitReason]; intro hr; exact h (Or.inr hr)
    · split
      · simpa [setExitReason] using h
      · exact h

/-- the reset of `Engine.restart` (`self.process = None`) establishes it -/
theorem kinv_after_decision (e : Eng) (s s' : St) (code : Code) (h : KInv e) :
    KInv (afterDecision false e s s' code) := by
  unfold afterDecision
  split
  · intro _; rfl
  · exact h

/-- `kill_before_launch_reports_killed`: a kill that finds the engine alive and not launched is reported as Killed -/
theorem kill_before_launch_reports_killed (e : Eng) (h : KInv e) (hk : e.killable = true) :
    (arriveEng e .kill).exitReason = some .killed := by
  unfold KInv at h
  unfold Eng.killable at hk
  simp only [arriveEng]
  by_cases hp : e.pending = true
  · simp [hp, setExitReason, h (Or.inl hp)]
  · simp [hp] at hk
    simp [hp, hk, setExitReason, h (Or.inr hk.1)]

/-- one step keeps the invariant -/
theorem kinv_kstep (fin : Bool) (c : Cfg) (s : St) (e : Eng) (k : KInp) (h : KInv e) :
    KInv (kstep false fin c (s, e) k).1.2 := by
  unfold kstep
  exact kinv_after_decision _ _ _ _ (kinv_arrive e k.arrival h)

/-- `killed_before_launch_never_started_again`: in every history of launches, exits and kills, at every `kill()` that
finds the engine alive and not launched the engine reports Killed, the restart is not initiated and `run()` is not
called (schema domain of `restartHookOn`; even when the system is reported unstable, whatever the hook says). -/
theorem killed_before_launch_never_started_again (fin : Bool) (c : Cfg) (hv : schemaValid c = true) (s : St)
    (e : Eng) (h : KInv e) (ks : List KInp) :
    ∀ ev ∈ kexec false fin c (s, e) ks, ev.arrival = .kill → ev.killable = true →
      ev.reported = .killed ∧ ev.code ≠ .initiated ∧ ev.st.runs = ev.runsBefore := by
  induction ks generalizing s e with
  | nil => intro ev hev; simp [kexec] at hev
  | cons k ks ih =>
    intro ev hev
    simp only [kexec] at hev
    rcases List.mem_cons.mp hev with rfl | hev
    · intro ha hk
      simp only [kstep] at ha hk ⊢
      have hrep : (arriveEng e k.arrival).exitReason = some .killed := by
        rw [ha]; exact kill_before_launch_reports_killed e h hk
      simp only [hrep, Option.getD_some]
      have := no_restart_after_kill fin c s
        { k.inp with reason := .killed, launch := match k.arrival with | .exits l _ => l | .kill => .none } hv (Or.inl rfl)
      exact ⟨trivial, this.1, this.2⟩
    · have hi := kinv_kstep fin c s e k h
      exact ih (kstep false fin c (s, e) k).1.1 (kstep false fin c (s, e) k).1.2 hi ev hev

/-- the same from the engine as it is created (with or without the first `run()`) -/
theorem killed_before_launch_never_started_again_from_start (fin : Bool) (c : Cfg) (hv : schemaValid c = true)
    (firstRun : Bool) (ks : List KInp) :
    ∀ ev ∈ kexec false fin c (St.init, if firstRun then RestartKill.run Eng.init else Eng.init) ks,
      ev.arrival = .kill → ev.killable = true →
      ev.reported = .killed ∧ ev.code ≠ .initiated ∧ ev.st.runs = ev.runsBefore := by
  apply killed_before_launch_never_started_again fin c hv
  cases firstRun
  · exact kinv_init.1
  · exact kinv_init.2

/-! non-vacuity: a restart is initiated, the kill arrives in its launch delay, is reported as Killed and refused;
in the history-continues mode a later listed exit restarts again -/
private def cfgExh : Cfg := ⟨none, false, [.resourceExhausted], false, false, .fallback⟩
private def kI (a : Arrival) : KInp := ⟨a, ⟨.success, .ctx .possible, true, false, true, .task⟩⟩
example : (kexec false false cfgExh (St.init, RestartKill.run Eng.init)
    [kI (.exits .task .resourceExhausted), kI .kill, kI (.exits .none .resourceExhausted)]).map
    (fun ev => (ev.killable, ev.reported, ev.code, ev.st.runs)) =
    [(true, .resourceExhausted, .initiated, 1), (true, .killed, .couldNotInitiate, 1),
     (false, .resourceExhausted, .initiated, 2)] := by decide +kernel
example : schemaValid cfgExh = true := by decide +kernel

end Kill

/-! non-vacuity of the loader and several-components theorems -/
private def wEmpty : Written := ⟨none, none, some []⟩
private def wMissing : Written := ⟨some 0, some "", none⟩
private def exhaustedI : Inp := ⟨.resourceExhausted, .ctx .possible, false, false, true, .task⟩
example : (load wEmpty).hookOn = [] ∧ (load wMissing).hookOn = [.resourceExhausted] ∧
    (load wMissing).maxRestarts = some 0 ∧ (load wMissing).hookFile = some "" := by decide +kernel
example : (exec true ((load wEmpty).cfg false false .scripted) St.init [exhaustedI]).map (·.code) = [.couldNotInitiate] ∧
    (exec true ((load ⟨none, none, none⟩).cfg false false .scripted) St.init [exhaustedI]).map (·.code) = [.initiated] := by
  decide +kernel
private def twoFiles : String → HookAns := fun f => if f = "allow.py" then .ctx .possible else .ctx .notPossible
private def twoComps : Nat → MCfg := fun k =>
  ⟨⟨none, true, [.resourceExhausted], false, false, .scripted⟩, if k = 0 then "allow.py" else "refuse.py"⟩
example : (mexec true twoFiles twoComps (fun _ => St.init) [⟨0, exhaustedI⟩, ⟨1, exhaustedI⟩, ⟨0, exhaustedI⟩]).map
    (fun e => (e.1, e.2.code, e.2.st.shutdown)) =
    [(0, .initiated, false), (1, .couldNotInitiate, true), (0, .initiated, false)] := by decide +kernel
example : (twoFiles (twoComps 1).hookFile).refuses = true ∧ (twoComps 1).cfg.hookModule = .scripted := by decide

end St4sd.C12
