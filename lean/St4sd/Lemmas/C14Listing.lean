import St4sd.Model.C14Listing
import St4sd.Lemmas.C14Status
/-! Helper lemmas for C14: one line of the key-output listing (dosini writer / reader). -/
namespace St4sd.Listing
open St4sd.StatusFile

theorem listKey_mem (k : List Char) (h : listKey k = true) : ∀ c ∈ k, letter c = true := by
  simpa [listKey, letter, List.all_eq_true] using h

theorem letter_props (c : Char) (h : letter c = true) :
    pyIsSpace c = false ∧ isDelim c = false ∧ (c == '#' || c == ';') = false := by
  have ne : ∀ d : Char, letter d = false → c ≠ d := fun d hd e => by
    rw [e, hd] at h
    cases h
  have hr : (97 ≤ c.toNat ∧ c.toNat ≤ 122) ∨ (65 ≤ c.toNat ∧ c.toNat ≤ 90) := by simpa [letter] using h
  refine ⟨pyIsSpace_printable c (by omega) (by omega), ?_, ?_⟩
  · simp [isDelim, ne '=' (by decide), ne ':' (by decide)]
  · simp [ne '#' (by decide), ne ';' (by decide)]

theorem cutInline_append (inl : List Char) (k w : List Char) (hne : k ≠ [])
    (hk : ∀ c ∈ k, pyIsSpace c = false ∧ inl.contains c = false) :
    ∀ ps, cutInline inl ps (k ++ w) = k ++ cutInline inl false w := by
  induction k with
  | nil => exact absurd rfl hne
  | cons c k ih =>
    intro ps
    have hc := hk c (by simp)
    cases k with
    | nil => simp only [List.cons_append, List.nil_append, cutInline, hc.1, hc.2, Bool.and_false, Bool.false_eq_true, if_false]
    | cons d k =>
      have := ih (by simp) (fun x hx => hk x (by simp [hx])) (pyIsSpace c)
      simp only [List.cons_append, cutInline, hc.2, Bool.and_false, Bool.false_eq_true, if_false] at this ⊢
      rw [this]

theorem cutInline_id (inl : List Char) : ∀ (l : List Char) (ps : Bool), markGo inl ps l = false → cutInline inl ps l = l := by
  intro l
  induction l with
  | nil => intro ps _; rfl
  | cons c s ih =>
    intro ps h
    simp only [markGo, Bool.or_eq_false_iff] at h
    simp only [cutInline, h.1, Bool.false_eq_true, if_false, ih _ h.2]

theorem markGo_nil (l : List Char) : ∀ ps, markGo [] ps l = false := by
  induction l with
  | nil => intro ps; rfl
  | cons c s ih => intro ps; simp [markGo, ih]

/-- a white-space character followed by an inline prefix: everything from the prefix on is dropped -/
theorem cutInline_mark_length (inl : List Char) (c p : Char) (y : List Char) (hc : pyIsSpace c = true)
    (hp : inl.contains p = true) :
    ∀ (x : List Char) (ps : Bool), (cutInline inl ps (x ++ c :: p :: y)).length ≤ x.length + 1 := by
  intro x
  induction x with
  | nil =>
    intro ps
    simp only [List.nil_append, cutInline, hc, hp, Bool.and_self, if_true]
    split <;> simp
  | cons d x ih =>
    intro ps
    simp only [List.cons_append, cutInline]
    split
    · simp
    · have := ih (pyIsSpace d)
      simp only [List.length_cons]
      omega

theorem splitDelim_key (k r : List Char) (hk : ∀ c ∈ k, isDelim c = false) :
    splitDelim (k ++ '=' :: r) = some (k, r) := by
  induction k with
  | nil => simp [splitDelim, isDelim]
  | cons c k ih =>
    have hc := hk c (by simp)
    simp [splitDelim, hc, ih (fun x hx => hk x (by simp [hx]))]

theorem pyStrip_length_le (s : List Char) : (pyStrip s).length ≤ s.length := by
  unfold pyStrip
  have h1 := (List.dropWhile_sublist (l := s) pyIsSpace).length_le
  have h2 := (List.dropWhile_sublist (l := (s.dropWhile pyIsSpace).reverse) pyIsSpace).length_le
  simp only [List.length_reverse] at h2 ⊢
  omega

theorem fullComment_key (k w : List Char) (hne : k ≠ []) (hk : ∀ c ∈ k, letter c = true) :
    fullComment (k ++ w) = false := by
  cases k with
  | nil => exact absurd rfl hne
  | cons c k =>
    have hc := letter_props c (hk c (by simp))
    simp [fullComment, hc.1, hc.2.2]

theorem readLine_writeLine (inl k v : List Char) (hk : listKey k = true) (hne : k ≠ [])
    (hinl : ∀ c ∈ k, inl.contains c = false) :
    readLine inl (writeLine k v) = some (lowerAscii k, pyStrip (cutInline inl false v)) := by
  have hm := listKey_mem k hk
  have hcut : cutInline inl true (k ++ '=' :: v) = k ++ '=' :: cutInline inl false v := by
    rw [cutInline_append inl k _ hne (fun c hc => ⟨(letter_props c (hm c hc)).1, hinl c hc⟩)]
    simp [cutInline, pyIsSpace]
  unfold readLine writeLine
  rw [fullComment_key k _ hne hm, hcut, splitDelim_key k _ (fun c hc => (letter_props c (hm c hc)).2.1)]
  simp [pyStrip_none k (fun c hc => (letter_props c (hm c hc)).1)]

end St4sd.Listing
