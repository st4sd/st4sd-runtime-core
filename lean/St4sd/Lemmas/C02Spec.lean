import St4sd.Lemmas.C02Inv
/-!
# C02 — the rule table `spec`, and agreement with it as long as nothing has failed

`spec wf c` is the state the documented rules give component `c`.  `Good wf s`: every final state in `s` is the
one `spec` prescribes; `GStep wf s s'`: the only final states that appear between `s` and `s'` are those `spec`
prescribes.  Without a kill every operation is a `GStep` as long as no component is FAILED (`Inv2`).
-/
namespace St4sd.C02L
open St4sd.Ctrl
open St4sd.C01L (rule mustShutdown_eq ruleShutdown_eq launch launch_comp launch_ctrl launch_rest)

theorem any_congr' {l : List Nat} {f g : Nat → Bool} (h : ∀ x ∈ l, f x = g x) : l.any f = l.any g := by
  induction l with
  | nil => rfl
  | cons a l ih =>
    simp only [List.any_cons]
    rw [h a (List.mem_cons_self ..), ih (fun x hx => h x (List.mem_cons_of_mem _ hx))]

theorem all_congr' {l : List Nat} {f g : Nat → Bool} (h : ∀ x ∈ l, f x = g x) : l.all f = l.all g := by
  rw [List.all_eq_not_any_not, List.all_eq_not_any_not, any_congr' fun x hx => congrArg not (h x hx)]

theorem rule_congr {wf : Wf} {c : Nat} {f g f' g' : Nat → Bool}
    (h : ∀ p ∈ (wf.cdef c).preds, f p = f' p ∧ g p = g' p) : rule wf c f g = rule wf c f' g' := by
  unfold rule
  dsimp only
  rw [any_congr' (fun p hp => (h p hp).1), any_congr' (g := g') (l := (wf.cdef c).preds) (fun p hp => (h p hp).2),
    any_congr' (g := g') (l := (wf.cdef c).preds.filter _) (fun p hp => (h p (List.mem_filter.1 hp).1).2),
    all_congr' (g := g') (l := (wf.cdef c).preds.filter _) (fun p hp => (h p (List.mem_filter.1 hp).1).2)]

theorem specTable_eq (wf : Wf) : ∀ k p, p < k → specTable wf k p = spec wf p := by
  intro k
  induction k with
  | zero => intro p hp; omega
  | succ k ih =>
    intro p hp
    by_cases e : p = k
    · subst e; rfl
    · have : specTable wf (k + 1) p = specTable wf k p := by simp [specTable, e]
      rw [this]; exact ih p (by omega)

theorem spec_unfold' (wf : Wf) (h : wf.WF) (c : Nat) :
    spec wf c = if ruleShutdown wf (spec wf) c then .shutdown else own wf c := by
  have h1 : spec wf c = if ruleShutdown wf (specTable wf c) c then .shutdown else own wf c := by
    simp [spec, specTable]
  rw [h1, ruleShutdown_eq, ruleShutdown_eq]
  rw [rule_congr (f' := fun p => spec wf p == .failed) (g' := fun p => spec wf p == .shutdown)]
  intro p hp
  have := specTable_eq wf c p (h.topo c p hp)
  simp [this]

/-! ## agreement with `spec` as long as nothing has failed -/

def RepeatSafe (wf : Wf) : Prop :=
  ∀ c, c < wf.n → (wf.cdef c).isRepeat = true → ∀ p ∈ (wf.cdef c).preds,
    (wf.cdef p).stage = (wf.cdef c).stage → spec wf p = .finished

theorem RepeatSafe.of_no_repeat {wf : Wf} (h : ((List.range wf.n).all fun c => !(wf.cdef c).isRepeat) = true) :
    RepeatSafe wf := by
  intro c hc hrep
  simp only [List.all_eq_true, List.mem_range, Bool.not_eq_true'] at h
  rw [h c hc] at hrep
  cases hrep

/-- well-formedness of a concrete workflow: nothing from `n` on has producers; the rest is a finite check -/
theorem wf_of_check {wf : Wf} (hn : ∀ k, (wf.cdef (k + wf.n)).preds = [])
    (hb : (((List.range wf.n).all fun c => (wf.cdef c).preds.all (· < c) && wf.order.contains c) &&
      wf.order.all (· < wf.n)) = true) : wf.WF := by
  simp only [Bool.and_eq_true, List.all_eq_true, List.mem_range, decide_eq_true_eq, List.contains_iff_mem] at hb
  refine ⟨fun c p hp => ?_, hb.2, fun c hc => (hb.1 c hc).2⟩
  by_cases hc : c < wf.n
  · exact (hb.1 c hc).1 p hp
  · obtain ⟨k, rfl⟩ := Nat.exists_eq_add_of_le' (Nat.le_of_not_lt hc)
    rw [hn k] at hp
    cases hp

structure Good (wf : Wf) (s : St) : Prop where
  stop : s.stop = false
  pf : ∀ c, (s.comp c).pendingFinal = none
  agree : ∀ c f, (s.comp c).ctrl = some f → f = spec wf c
  ranOwn : ∀ c, (s.comp c).ran = true → spec wf c = own wf c

def NoFailed (s : St) : Prop := ∀ c, (s.comp c).ctrl ≠ some .failed

def FailedWit (wf : Wf) (s : St) : Prop :=
  ∃ c, c < wf.n ∧ spec wf c = .failed ∧ (s.comp c).ctrl = some .failed

def Inv2 (wf : Wf) (s : St) : Prop := FailedWit wf s ∨ (Good wf s ∧ NoFailed s)

theorem Inv2.failed_of_spec {wf : Wf} {s : St} (h2 : Inv2 wf s)
    (hall : ∀ c, c < wf.n → (s.comp c).ctrl.isSome = true) (hf : ∃ c, c < wf.n ∧ spec wf c = .failed) :
    ∃ c, c < wf.n ∧ (s.comp c).ctrl = some .failed := by
  rcases h2 with ⟨d, hd, _, hd'⟩ | ⟨hG, _⟩
  · exact ⟨d, hd, hd'⟩
  · obtain ⟨c, hc, hsp⟩ := hf
    cases hct : (s.comp c).ctrl with
    | none => have := hall c hc; simp [hct] at this
    | some f => exact ⟨c, hc, by rw [hct, hG.agree c f hct, hsp]⟩

/-- one "good" step: the only final states that appear are the ones `spec` prescribes -/
structure GStep (wf : Wf) (s s' : St) : Prop where
  stop : s'.stop = s.stop
  pf : ∀ j, (s.comp j).pendingFinal = none → (s'.comp j).pendingFinal = none
  ran : ∀ j, (s'.comp j).ran = true → (s.comp j).ran = true ∨ spec wf j = own wf j
  ctrl : ∀ j, (s'.comp j).ctrl = (s.comp j).ctrl ∨
    ((s.comp j).ctrl = none ∧ (s'.comp j).ctrl = some (spec wf j) ∧ j ∈ wf.order)

theorem GStep.of_eq {wf : Wf} {s s' : St} (hc : s'.comp = s.comp) (hs : s'.stop = s.stop) : GStep wf s s' :=
  ⟨hs, fun j h => by rw [hc]; exact h, fun j h => by rw [hc] at h; exact Or.inl h, fun j => by rw [hc]; exact Or.inl rfl⟩

theorem GStep.trans {wf : Wf} {a b c : St} (h1 : GStep wf a b) (h2 : GStep wf b c) : GStep wf a c := by
  refine ⟨by rw [h2.stop, h1.stop], fun j h => h2.pf j (h1.pf j h), fun j h => ?_, fun j => ?_⟩
  · rcases h2.ran j h with h | h
    · exact h1.ran j h
    · exact Or.inr h
  · rcases h2.ctrl j with e2 | ⟨e2, e2', e2''⟩
    · rw [e2]; exact h1.ctrl j
    · rcases h1.ctrl j with e1 | ⟨e1, e1', _⟩
      · right; rw [← e1]; exact ⟨e2, e2', e2''⟩
      · rw [e1'] at e2; simp at e2

theorem GStep.good {wf : Wf} {s s' : St} (hG : Good wf s) (h : GStep wf s s') : Good wf s' := by
  refine ⟨by rw [h.stop]; exact hG.stop, fun j => h.pf j (hG.pf j), fun j f hf => ?_, fun j hr => ?_⟩
  · rcases h.ctrl j with e | ⟨_, e, _⟩
    · rw [e] at hf; exact hG.agree j f hf
    · rw [e] at hf; simp at hf; exact hf.symm
  · rcases h.ran j hr with e | e
    · exact hG.ranOwn j e
    · exact e

theorem GStep.inv2 {wf : Wf} (hwf : wf.WF) {s s' : St} (hG : Good wf s) (hN : NoFailed s)
    (h : GStep wf s s') : Inv2 wf s' := by
  by_cases hw : FailedWit wf s'
  · exact Or.inl hw
  · refine Or.inr ⟨h.good hG, fun j hj => ?_⟩
    rcases h.ctrl j with e | ⟨_, e, ho⟩
    · rw [e] at hj; exact hN j hj
    · rw [e] at hj
      simp only [Option.some.injEq] at hj
      exact hw ⟨j, hwf.order_lt j ho, hj, by rw [e, hj]⟩

theorem GStep.upd {wf : Wf} (s : St) (c : Nat) (f : CompS → CompS)
    (hpf : (s.comp c).pendingFinal = none → (f (s.comp c)).pendingFinal = none)
    (hran : (f (s.comp c)).ran = true → (s.comp c).ran = true ∨ spec wf c = own wf c)
    (hctrl : (f (s.comp c)).ctrl = (s.comp c).ctrl ∨
      ((s.comp c).ctrl = none ∧ (f (s.comp c)).ctrl = some (spec wf c) ∧ c ∈ wf.order)) :
    GStep wf s (s.upd c f) := by
  refine ⟨rfl, fun j => ?_, fun j => ?_, fun j => ?_⟩ <;> simp only [upd_comp] <;> split
  · next e => subst e; exact hpf
  · exact id
  · next e => subst e; exact hran
  · exact Or.inl
  · next e => subst e; exact hctrl
  · exact .inl rfl

theorem GStep.push {wf : Wf} {s t : St} (h : GStep wf s t) (n : Notif) : GStep wf s (t.push n) :=
  ⟨h.stop, h.pf, h.ran, h.ctrl⟩

theorem taskExit_gstep {wf : Wf} {s : St} (c : Nat) (hpf : (s.comp c).pendingFinal = none) :
    GStep wf s (taskExit wf s c) := by
  refine C01L.taskExit_cases (P := GStep wf s) wf s c (.of_eq rfl rfl)
    (fun _ _ st h => by simp [hpf] at h) (fun _ _ _ => ?_)
  have h : GStep wf s (s.upd c fun _ => C01L.exited wf c (s.comp c)) := .upd s c _ (fun _ => hpf) Or.inl (.inl rfl)
  split
  · exact h
  · exact h.push _

theorem finish_pm_gstep {wf : Wf} {s : St} {c : Nat} {st : Fin3} (hct : (s.comp c).ctrl = none)
    (hex : (s.comp c).exit.isSome = true) (hsp : st = spec wf c) (ho : c ∈ wf.order) :
    GStep wf s (finish s c st) := by
  have e := C01L.finishC_pm st hex
  have hu : GStep wf s (s.upd c (C01L.finishC st)) :=
    .upd s c _ (by rw [e]; exact id) (by rw [e]; exact Or.inl) (.inr ⟨hct, by rw [e, hsp], ho⟩)
  rw [C01L.finish_eq]
  split
  · exact hu.push _
  · exact hu

theorem deliverPM_gstep {wf : Wf} {s : St} (c : Nat) (hI : Inv wf none s) (hG : Good wf s) :
    GStep wf s (deliverPM wf s c) := by
  have h0 : GStep wf s { s with pending := s.pending.erase (.pm c) } := .of_eq rfl rfl
  refine C01L.deliverPM_cases (P := GStep wf s) wf s c (.of_eq rfl rfl) (fun _ => h0)
    (fun r _ _ _ => h0.trans (.upd _ c _ id Or.inl (.inl rfl))) (fun r hfc hex hr => ?_)
  have hcI := hI.ci c
  have hct := hI.core.ctrl_none_of_not_fc c hfc
  have hexs : (s.comp c).exit.isSome = true := by simp [hex]
  have hs2 := hcI.s2 r hex hct
  rw [afterPM, hr] at hs2
  exact h0.trans (finish_pm_gstep hct hexs (by rw [hG.ranOwn c (hcI.k9' hexs hct)]; exact hs2)
    (hcI.u (hcI.k9 hexs)))

theorem deliverFin_gstep {wf : Wf} {s : St} (c : Nat) (hN : NoFailed s) :
    GStep wf s (deliverFin wf s c) := by
  unfold deliverFin
  by_cases hp : Notif.fin c ∈ s.pending
  · simp only [hp, if_true, hN c, if_false]
    exact GStep.of_eq rfl rfl
  · simp only [hp, if_false]; exact GStep.of_eq rfl rfl

theorem fakeFinish_gstep {wf : Wf} {s : St} {c : Nat} (hI : Inv wf none s)
    (hst : (s.comp c).staged = false) (ho : c ∈ wf.order) (hsp : spec wf c = .shutdown) :
    GStep wf s (fakeFinish s c .shutdown) := by
  obtain ⟨_, hct, hr, hex, hpf⟩ := unstaged_facts (hI.ci c) hst
  rw [C01L.fakeFinish_eq hct hex hr]
  exact (GStep.upd s c _ id (fun h => by simp [hr] at h) (.inr ⟨hct, by simp [hsp], ho⟩)).push _

theorem mustShutdown_spec {wf : Wf} {s : St} {c : Nat} (hrs : RepeatSafe wf)
    (hI : Inv wf none s) (hG : Good wf s) (hc : c < wf.n) (hdeps : depsSatisfied wf s c = true) :
    mustShutdown wf s c = ruleShutdown wf (spec wf) c := by
  rw [mustShutdown_eq, ruleShutdown_eq]
  apply rule_congr
  intro p hp
  simp only [depsSatisfied, List.all_eq_true, Bool.or_eq_true, Bool.and_eq_true, beq_iff_eq] at hdeps
  cases hct : (s.comp p).ctrl with
  | some f => cases hG.agree p f hct; simp [predState, hct]
  | none =>
    -- not final, hence not recorded: a same-stage producer of a repeating component, `finished` by `RepeatSafe`
    rcases hdeps p hp with hd | ⟨⟨hrep, hstage⟩, _⟩
    · have := (hI.ci p).k8 hd; simp [hct] at this
    · simp [predState, hct, hrs c hc hrep p hp hstage]

theorem visit_fold_good {wf : Wf} {s : St} (hwf : wf.WF) (hrs : RepeatSafe wf)
    (hI : Inv wf none s) (hG : Good wf s) (l : List Nat) (hl : ∀ c ∈ l, c ∈ wf.order) :
    let r := l.foldl (visit wf) (s, [])
    Inv wf none r.1 ∧ Good wf r.1 ∧ GStep wf s r.1 ∧ ∀ c ∈ r.2, c ∈ wf.order ∧ spec wf c = own wf c := by
  -- the scheduler's decision is the rule's: `spec_unfold'` then says what `spec` gives the component
  have hsu : ∀ {t : St} {c : Nat}, Inv wf none t → Good wf t → c ∈ l → depsSatisfied wf t c = true →
      spec wf c = if mustShutdown wf t c then .shutdown else own wf c := fun hIt hGt hc hdeps => by
    rw [mustShutdown_spec hrs hIt hGt (hwf.order_lt _ (hl _ hc)) hdeps]; exact spec_unfold' wf hwf _
  refine C01L.visit_fold_rec (P := fun a => Inv wf none a.1 ∧ Good wf a.1 ∧ GStep wf s a.1 ∧
      ∀ c ∈ a.2, c ∈ wf.order ∧ spec wf c = own wf c) l ⟨hI, hG, GStep.of_eq rfl rfl, nofun⟩ ?_ ?_
  · intro a c hc ⟨hIa, hGa, hSa, hla⟩ _ _ hst hdeps hm
    have hg := fakeFinish_gstep hIa hst (hl c hc) (by rw [hsu hIa hGa hc hdeps, hm]; rfl)
    exact ⟨fakeFinish_inv hIa hst (hl c hc) (Or.inl rfl), hg.good hGa, hSa.trans hg, hla⟩
  · intro a c hc ⟨hIa, hGa, hSa, hla⟩ hdeps hm
    refine ⟨hIa, hGa, hSa, fun d hd => ?_⟩
    rcases List.mem_append.1 hd with hd | hd
    · exact hla d hd
    · cases List.mem_singleton.1 hd
      exact ⟨hl _ hc, by rw [hsu hIa hGa hc hdeps, hm]; rfl⟩

theorem schedPass_gstep {wf : Wf} {s : St} (hwf : wf.WF) (hrs : RepeatSafe wf)
    (hI : Inv wf none s) (hG : Good wf s) : GStep wf s (schedPass wf s) := by
  unfold schedPass
  obtain ⟨h1, h2, h3, h4⟩ := visit_fold_good hwf hrs hI hG wf.order (fun _ h => h)
  dsimp only
  simp only [h2.stop, Bool.false_eq_true, if_false]
  refine h3.trans ?_
  generalize (wf.order.foldl (visit wf) (s, [])) = r at h4
  have hcomp := launch_comp wf r.2 r.1
  have hctrl := launch_ctrl wf r.2 r.1
  have hs := (launch_rest wf r.2 r.1).2.2.2
  change GStep wf r.1 (launch wf r.2 r.1)
  generalize launch wf r.2 r.1 = t at hcomp hctrl hs
  refine ⟨hs, fun j h => ?_, fun j h => ?_, fun j => .inl (hctrl j)⟩ <;> obtain ⟨k, hk⟩ := hcomp j
  · rw [hk]; split <;> simp [h]
  · rw [hk] at h
    by_cases hj : j ∈ r.2
    · exact Or.inr (h4 j hj).2
    · left; simpa [hj] using h

theorem advance_gstep {wf : Wf} {s : St} (hG : Good wf s) : GStep wf s (advance wf s) := by
  unfold advance
  split
  · exact ⟨hG.stop.symm, fun _ h => h, fun _ h => Or.inl h, fun _ => Or.inl rfl⟩
  · exact GStep.of_eq rfl rfl

theorem step_inv2 {wf : Wf} {s : St} (hwf : wf.WF) (hrs : RepeatSafe wf) (hI : Inv wf none s)
    (h2 : Inv2 wf s) (op : Op) (hk : op ≠ .kill) : Inv2 wf (step wf s op) := by
  rcases h2 with ⟨c, hc, hsp, hct⟩ | ⟨hG, hN⟩
  · exact Or.inl ⟨c, hc, hsp, (step_inv op hI).2.ctrl c _ hct⟩
  · have : GStep wf s (step wf s op) := by
      cases op with
      | sched => exact schedPass_gstep hwf hrs hI hG
      | exit c => exact taskExit_gstep c (hG.pf c)
      | fin c => exact deliverFin_gstep c hN
      | pm c => exact deliverPM_gstep c hI hG
      | kill => exact absurd rfl hk
      | tick c => exact GStep.of_eq rfl rfl
      | next => exact advance_gstep hG
    exact this.inv2 hwf hG hN

theorem run_inv2 {wf : Wf} (hwf : wf.WF) (hrs : RepeatSafe wf) (ops : List Op) (hk : Op.kill ∉ ops) :
    Inv2 wf (run wf ops) := by
  refine (List.foldlRecOn (motive := fun s => Inv wf none s ∧ Inv2 wf s) ops (step wf)
    ⟨inv_init wf, Or.inr ⟨⟨rfl, ?_, ?_, ?_⟩, ?_⟩⟩
    fun s h op hop => ⟨(step_inv op h.1).1, step_inv2 hwf hrs h.1 h.2 op fun e => hk (e ▸ hop)⟩).2
  · intro c; rfl
  · intro c f h; simp [init] at h
  · intro c h; simp [init] at h
  · intro c h; simp [init] at h

end St4sd.C02L
