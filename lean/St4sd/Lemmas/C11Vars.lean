import St4sd.Model.Validate
import St4sd.Lemmas.C11Options
/-!
# C11 — lemmas about the variable scope of a component (`Validate.defsOf`)

`lookup` over flattened definition lists; the scope of a component does not depend on the
sections of other stages.
-/
namespace St4sd.C11
open St4sd.ValSchema St4sd.Validate

theorem lookup_flatMap_none {α β : Type} (k : S) (l : List β) (f : β → List (S × α))
    (h : ∀ x ∈ l, lookup k (f x) = none) : lookup k (l.flatMap f) = none := by
  induction l with
  | nil => rfl
  | cons x xs ih =>
    rw [List.flatMap_cons, lookup_append, h x (List.mem_cons_self ..),
      ih (fun y hy => h y (List.mem_cons_of_mem _ hy))]
    rfl

theorem lookup_sectionOf_none (k : S) (l : List (Nat × List (S × List S))) (s : Nat)
    (h : ∀ sec ∈ l, sec.1 = s → lookup k sec.2 = none) : lookup k (sectionOf l s) = none := by
  unfold sectionOf
  apply lookup_flatMap_none
  intro sec hsec
  rw [List.mem_filter] at hsec
  exact h sec hsec.1 (by simpa using hsec.2)

theorem sectionOf_filter (l : List (Nat × List (S × List S))) (s : Nat) :
    sectionOf (l.filter (fun p => p.1 == s)) s = sectionOf l s := by
  unfold sectionOf
  rw [List.filter_filter]
  simp

/-- drop every stage section (`default`'s, the active platform's, those of the user's files) that is not for
stage `s` -/
def onlyStage (s : Nat) (d : Doc) : Doc :=
  { d with stageVars := d.stageVars.filter (fun p => p.1 == s),
           platStageVars := d.platStageVars.filter (fun p => p.1 == s),
           userFiles := d.userFiles.map (fun f => { f with stages := f.stages.filter (fun p => p.1 == s) }) }

theorem userGlobals_onlyStage (s : Nat) (d : Doc) : userGlobals (onlyStage s d) = userGlobals d := by
  unfold userGlobals onlyStage
  simp only
  rw [← List.map_reverse, List.flatMap_map]

theorem userStage_onlyStage (s : Nat) (d : Doc) : userStage (onlyStage s d) s = userStage d s := by
  unfold userStage onlyStage
  simp only
  rw [← List.map_reverse, List.flatMap_map]
  congr 1
  funext f
  exact sectionOf_filter f.stages s

end St4sd.C11
