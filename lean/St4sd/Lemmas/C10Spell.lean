import St4sd.Model.ArgSubst
import St4sd.Lemmas.Str
/-!
# C10 — lemmas about the text of a reference: digits and separators, `os.path.join`, `stage<N>.<name>`
-/
namespace St4sd.C10.Spell
open St4sd.Str St4sd.ArgSubst

/-- `int(str(n)) = n` on naturals -/
theorem digitsToNat_natToDigits (n : Nat) : digitsToNat? (natToDigits n) = some n :=
  Str.digitsToNat_natToDigits n

theorem not_mem_digits {c : Char} (hc : isDigit c = false) (n : Nat) : c ∉ natToDigits n := fun hm => by
  have := natToDigits_all n c hm
  rw [hc] at this
  cases this

theorem dot_not_mem_stage (n : Nat) : '.' ∉ "stage".toList ++ natToDigits n := by
  simp [not_mem_digits (c := '.') (by decide) n]

theorem stageText_separators (n : Nat) : ':' ∉ stageText n ∧ '/' ∉ stageText n := by
  simp [stageText, not_mem_digits (c := ':') (by decide) n, not_mem_digits (c := '/') (by decide) n]

theorem getLast?_ne_of_not_mem {c : Char} {a : S} (h : c ∉ a) : a.getLast? ≠ some c := by
  intro e
  exact h (List.mem_of_getLast? e)

/-- a non-empty base without trailing separator and a relative second part: one separator in between —
also when the second part is EMPTY -/
theorem pjoin_rel (a b : S) (ha : a ≠ []) (hl : a.getLast? ≠ some '/') (hb : b.head? ≠ some '/') :
    pjoin a b = a ++ '/' :: b := by
  unfold pjoin
  have h1 : a.isEmpty = false := by cases a with
    | nil => exact absurd rfl ha
    | cons _ _ => rfl
  simp [hb, h1, hl]

theorem withFile_eq_pathText (base : S) (file : Option S) (hb : base ≠ []) (hl : base.getLast? ≠ some '/')
    (hf : ∀ f, file = some f → f.head? ≠ some '/') : withFile base file = pathText base file := by
  cases file with
  | none => rfl
  | some f => exact pjoin_rel base f hb hl (hf f rfl)

/-- the separator is in the text whenever the file part is: `none` and the empty file part give different texts -/
theorem pathText_injective (base : S) : ∀ f1 f2 : Option S, pathText base f1 = pathText base f2 → f1 = f2
  | none, none, _ => rfl
  | none, some g, h => by simp [pathText] at h
  | some f, none, h => by simp [pathText] at h
  | some f, some g, h => by simpa [pathText] using h

theorem stagePrefix?_stage (n : Nat) : stagePrefix? ("stage".toList ++ natToDigits n) = some n := by
  have h : (natToDigits n).takeWhile isDigit = natToDigits n := by
    simpa using List.takeWhile_append_of_pos (l₂ := []) (natToDigits_all n)
  simp [stagePrefix?, h, Str.digitsToNat_natToDigits]

theorem parseProducer_staged (k n : Nat) (producer : S) :
    parseProducer k (stageText n ++ producer) = (n, producer) := by
  unfold parseProducer stageText
  rw [List.append_assoc, List.singleton_append, splitFirst_append '.' _ producer (dot_not_mem_stage n)]
  simp only [stagePrefix?_stage]

end St4sd.C10.Spell
