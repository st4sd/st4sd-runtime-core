import St4sd.Model.ValSchema
/-!
# C11 — options: the conversion pre-pass and the schema check, on floats and along an option path

`FlowIR.convert_component_types.convert` touches `str`/`int`/`bool` values and dictionaries only; a YAML float
(and `None`) reaches `validate_object_schema` as it was written.  Along an option path `{p₀: {p₁: … {pₙ: v}}}` whose
keys the schema declares once each, what is reported is what the rule at the end of the path says about `v`.
-/
namespace St4sd.ValSchema

theorem lookup_head {α : Type} (k : S) (v : α) (rest : List (S × α)) : lookup k ((k, v) :: rest) = some v :=
  if_pos rfl

theorem lookup_append {α : Type} (k : S) (a b : List (S × α)) :
    lookup k (a ++ b) = (lookup k a).or (lookup k b) := by
  induction a with
  | nil => rfl
  | cons hd tl ih =>
    obtain ⟨k', v⟩ := hd
    simp only [List.cons_append, lookup]
    split
    · rfl
    · exact ih

theorem lookup_map_snd {α β : Type} (k : S) (l : List (S × α)) (f : α → β) :
    lookup k (l.map (fun kv => (kv.1, f kv.2))) = (lookup k l).map f := by
  induction l with
  | nil => rfl
  | cons hd tl ih =>
    obtain ⟨k', v⟩ := hd
    simp only [List.map_cons, lookup]
    split
    · rfl
    · exact ih

theorem mem_of_lookup {α : Type} {k : S} {l : List (S × α)} {v : α} (h : lookup k l = some v) : (k, v) ∈ l := by
  induction l with
  | nil => cases h
  | cons hd tl ih =>
    obtain ⟨k', v'⟩ := hd
    simp only [lookup] at h
    split at h
    · rename_i hk; cases h; subst hk; exact List.mem_cons_self ..
    · exact List.mem_cons_of_mem _ (ih h)

/-! ### the conversion pre-pass -/

/-- no conversion (leaf or table) changes a float -/
theorem convert_float (c : Conv) (i : Int) (f : Bool) : convert c (.float i f) = some (.float i f) := by
  cases c <;> simp [convert, isConvertible]

theorem convert_null (c : Conv) : convert c .null = some .null := by
  cases c <;> simp [convert, isConvertible]

theorem convert_leaf_dict (k : ConvKind) (kvs : List (S × Val)) : convert (.leaf k) (.dict kvs) = some (.dict kvs) := by
  simp [convert, isConvertible]

theorem convert_node_dict (es : List (S × Conv)) (kvs : List (S × Val)) :
    convert (.node es) (.dict kvs) = (mapKvs (fun k v => convLookup es k v) kvs).map Val.dict := by
  simp [convert]

/-- the value of a key after the `for key in value` loop is the converted value of that key -/
theorem lookup_mapKvs {f : S → Val → Option Val} {kvs kvs' : List (S × Val)} {k : S} {v : Val}
    (h : mapKvs f kvs = some kvs') (hl : lookup k kvs = some v) :
    ∃ v', lookup k kvs' = some v' ∧ f k v = some v' := by
  induction kvs generalizing kvs' with
  | nil => simp [lookup] at hl
  | cons hd rest ih =>
    obtain ⟨k0, v0⟩ := hd
    rw [mapKvs] at h
    split at h
    · rename_i v0' rest' h0 hrest
      cases h
      rw [lookup] at hl
      by_cases hk : k = k0
      · subst hk
        rw [if_pos rfl] at hl
        cases hl
        exact ⟨v0', lookup_head .., h0⟩
      · rw [if_neg hk] at hl
        obtain ⟨v', h1, h2⟩ := ih hrest hl
        exact ⟨v', by rw [lookup, if_neg hk]; exact h1, h2⟩
    · cases h

theorem convLookup_cases (es : List (S × Conv)) (k : S) (v v' : Val) (h : convLookup es k v = some v') :
    v' = v ∨ ∃ c, convert c v = some v' := by
  induction es with
  | nil => left; simp [convLookup] at h; exact h.symm
  | cons hd rest ih =>
    obtain ⟨k0, c0⟩ := hd
    rw [convLookup] at h
    split at h
    · exact .inr ⟨c0, h⟩
    · exact ih h

theorem convLookup_of_fixed {v : Val} (hv : ∀ c, convert c v = some v) (es : List (S × Conv)) (k : S) :
    convLookup es k v = some v := by
  induction es with
  | nil => rfl
  | cons hd rest ih =>
    rw [convLookup]
    split
    · exact hv _
    · exact ih

theorem convert_treeAt_of_fixed {v : Val} (hv : ∀ c, convert c v = some v) (c : Conv) (p : List S) :
    convert c (treeAt p v) = some (treeAt p v) := by
  induction p generalizing c with
  | nil => exact hv c
  | cons k rest ih =>
    cases c with
    | leaf ck => exact convert_leaf_dict ..
    | node es => simp [treeAt, convert_node_dict, mapKvs, convLookup_of_fixed ih]

theorem convert_treeAt {c : Conv} {p : List S} {v o : Val} (h : convert c (treeAt p v) = some o) :
    ∃ v', o = treeAt p v' := by
  induction p generalizing c o with
  | nil => exact ⟨o, rfl⟩
  | cons k rest ih =>
    cases c with
    | leaf ck => rw [treeAt, convert_leaf_dict] at h; cases h; exact ⟨v, rfl⟩
    | node es =>
      rw [treeAt, convert_node_dict, mapKvs] at h
      cases hc : convLookup es k (treeAt rest v) with
      | none => simp [hc] at h
      | some t =>
        simp [hc, mapKvs] at h
        subst h
        rcases convLookup_cases es k _ t hc with rfl | ⟨c', hc'⟩
        · exact ⟨v, rfl⟩
        · obtain ⟨v', rfl⟩ := ih hc'
          exact ⟨v', rfl⟩

/-! ### the schema check -/

theorem entryOf_mem {k : S} {entries : List (S × Bool × Schema)} {s : Schema} (h : entryOf k entries = some s) :
    ∃ o, (k, o, s) ∈ entries := by
  induction entries with
  | nil => simp [entryOf] at h
  | cons hd rest ih =>
    obtain ⟨k0, o0, s0⟩ := hd
    rw [entryOf] at h
    split at h
    · rename_i hk; cases h; subst hk; exact ⟨o0, .head _⟩
    · obtain ⟨o, ho⟩ := ih h; exact ⟨o, .tail _ ho⟩

theorem entryOf_eq_none {k : S} {entries : List (S × Bool × Schema)} :
    entryOf k entries = none ↔ k ∉ keysOf entries := by
  induction entries with
  | nil => exact ⟨fun _ => nofun, fun _ => rfl⟩
  | cons hd rest ih =>
    obtain ⟨k0, o0, s0⟩ := hd
    rw [entryOf, keysOf, List.map_cons, List.mem_cons, not_or]
    split
    · rename_i hk; exact ⟨nofun, fun h => absurd hk h.1⟩
    · rename_i hk; exact ⟨fun h => ⟨hk, ih.mp h⟩, fun h => ih.mpr h.2⟩

theorem mem_check_dict {entries : List (S × Bool × Schema)} {kvs : List (S × Val)} {k o s v}
    (hm : (k, o, s) ∈ entries) (hl : lookup k kvs = some v) (hv : v ≠ .null) {e : SErr} (he : e ∈ check s v) :
    e ∈ check (.dict entries) (.dict kvs) := by
  rw [check]
  refine List.mem_append_right _ ?_
  induction entries with
  | nil => cases hm
  | cons hd rest ih =>
    obtain ⟨k', o', s'⟩ := hd
    rw [checkEntries, List.mem_append]
    rcases List.mem_cons.mp hm with h | h
    · left
      cases h
      rw [hl]
      cases v <;> first | exact absurd rfl hv | exact he
    · right; exact ih h

/-- what is reported about the value found for a declared key: `None` is "not set" -/
def checkSet (s : Schema) : Val → List SErr
  | .null => []
  | v => check s v

theorem checkEntries_other {entries : List (S × Bool × Schema)} {k : S} (v : Val) (h : k ∉ keysOf entries) :
    (checkEntries entries [(k, v)]).filter (fun e => !e.isMissing) = [] := by
  induction entries with
  | nil => rfl
  | cons hd rest ih =>
    obtain ⟨k', o, s⟩ := hd
    simp only [keysOf, List.map_cons, List.mem_cons, not_or] at h
    have hk : ¬ k' = k := fun e => h.1 e.symm
    rw [checkEntries, List.filter_append, ih h.2]
    cases o <;> simp [lookup, hk, SErr.isMissing]

theorem checkEntries_single {entries : List (S × Bool × Schema)} {k : S} {s : Schema} (v : Val)
    (hs : entryOf k entries = some s) (h1 : (keysOf entries).count k = 1) :
    (checkEntries entries [(k, v)]).filter (fun e => !e.isMissing) = (checkSet s v).filter (fun e => !e.isMissing) := by
  induction entries with
  | nil => cases hs
  | cons hd rest ih =>
    obtain ⟨k', o, s'⟩ := hd
    rw [entryOf] at hs
    rw [checkEntries, List.filter_append]
    split at hs
    · rename_i hk
      subst hk
      cases hs
      have : k ∉ keysOf rest := List.count_eq_zero.mp (by simpa [keysOf] using h1)
      rw [checkEntries_other v this, List.append_nil]
      cases v <;> simp [lookup, checkSet]
    · rename_i hk
      have hk' : ¬ k' = k := fun e => hk e.symm
      have : (keysOf rest).count k = 1 := by simpa [keysOf, List.count_cons, hk'] using h1
      rw [ih hs this]
      cases o <;> simp [lookup, hk', SErr.isMissing]

/-- the option path `p` stays inside the dictionary rules of the schema, every key on it declared by exactly one
entry -/
def declaredOnce : Schema → List S → Bool
  | _, [] => true
  | .dict entries, k :: rest =>
      (keysOf entries).count k == 1 &&
        (match entryOf k entries with
         | some s => declaredOnce s rest
         | none => false)
  | _, _ :: _ => false

/-- the option path leaves the schema at a dictionary rule: some key on it is not declared where it stands -/
def leavesSchema : Schema → List S → Bool
  | .dict entries, k :: rest =>
      (match entryOf k entries with
       | some s => leavesSchema s rest
       | none => true)
  | _, _ => false

theorem check_treeAt {sch s : Schema} {p : List S} (v : Val) (hp : p ≠ []) (hs : schemaAt sch p = some s)
    (h1 : declaredOnce sch p = true) :
    (check sch (treeAt p v)).filter (fun e => !e.isMissing) = (checkSet s v).filter (fun e => !e.isMissing) := by
  induction p generalizing sch with
  | nil => exact absurd rfl hp
  | cons k rest ih =>
    cases sch with
    | dict entries =>
      rw [schemaAt] at hs
      rw [declaredOnce] at h1
      cases he : entryOf k entries with
      | none => rw [he] at hs; cases hs
      | some s1 =>
        rw [he] at hs h1
        simp only [Bool.and_eq_true, beq_iff_eq] at h1
        have hk : k ∈ keysOf entries := List.count_pos_iff.mp (by rw [h1.1]; exact Nat.one_pos)
        rw [treeAt, check, List.filter_append, checkEntries_single _ he h1.1]
        simp only [List.filter_cons, List.contains_eq_mem, hk, decide_true, List.filter_nil, Bool.not_true, Bool.false_eq_true, if_false, List.map_nil,
          List.nil_append]
        cases rest with
        | nil => simp only [schemaAt, Option.some.injEq] at hs; subst hs; rfl
        | cons k2 rest2 => exact ih (by simp) hs h1.2
    | _ => simp [schemaAt] at hs

theorem optErrors_treeAt_null (tbl : List (S × Conv)) {sch s : Schema} {p : List S} (hp : p ≠ [])
    (hs : schemaAt sch p = some s) (h1 : declaredOnce sch p = true) : optErrors tbl sch (treeAt p .null) = [] := by
  rw [optErrors, convert_treeAt_of_fixed convert_null]
  exact check_treeAt .null hp hs h1

/-! ### floats -/

theorem pred_holds_float (p : Pred) (i j : Int) (f g : Bool) : p.holds (.float i f) = p.holds (.float j g) := by
  cases p <;> rfl

theorem ty_any_float (ts : List Ty) (i : Int) (f : Bool) :
    (ts.any (·.admits (.float i f))) = ts.contains .float := by
  induction ts with
  | nil => rfl
  | cons t rest ih =>
    rw [List.any_cons, List.contains_cons, ih]
    cases t <;> simp [Ty.admits]

mutual
theorem check_float_eq (s : Schema) (i : Int) (f : Bool) :
    check s (.float i f) = if mayAdmitFloat s then [] else [.valueInvalid] := by
  cases s with
  | null => rfl
  | const c => rfl
  | ty ts => rw [check, ty_any_float, mayAdmitFloat]
  | pred p => rw [check, pred_holds_float p i 0 f false, mayAdmitFloat]
  | opt s =>
    rw [check, mayAdmitFloat]
    · exact check_float_eq s i f
    · intro hn; cases hn
  | or alts => rw [check, checkAny_float_eq alts i f, mayAdmitFloat]
  | many s => rfl
  | dict es => rfl
theorem checkAny_float_eq (alts : List Schema) (i : Int) (f : Bool) :
    checkAny alts (.float i f) = mayAdmitFloatAny alts := by
  cases alts with
  | nil => rfl
  | cons s rest =>
    rw [checkAny, mayAdmitFloatAny, checkAny_float_eq rest i f, check_float_eq s i f]
    cases mayAdmitFloat s <;> rfl
end

/-- **a rule that admits no float reports every float** (whole or not) -/
theorem check_float (s : Schema) (i : Int) (f : Bool) (h : mayAdmitFloat s = false) :
    SErr.valueInvalid ∈ check s (.float i f) := by
  rw [check_float_eq, h]
  exact .head _

theorem checkAny_float (alts : List Schema) (i : Int) (f : Bool) (h : mayAdmitFloatAny alts = false) :
    checkAny alts (.float i f) = false := by
  rw [checkAny_float_eq, h]

theorem optErrors_treeAt_float (tbl : List (S × Conv)) {sch s : Schema} {p : List S} (i : Int) (f : Bool)
    (hp : p ≠ []) (hs : schemaAt sch p = some s) (h1 : declaredOnce sch p = true) :
    (optErrors tbl sch (treeAt p (.float i f))).isEmpty = mayAdmitFloat s := by
  rw [optErrors, convert_treeAt_of_fixed (fun c => convert_float c i f)]
  simp only [check_treeAt (.float i f) hp hs h1, checkSet, check_float_eq]
  cases mayAdmitFloat s <;> rfl

end St4sd.ValSchema
