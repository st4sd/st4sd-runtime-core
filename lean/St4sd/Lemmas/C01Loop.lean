import St4sd.Model.CtrlLoop
/-!
State invariant of `St4sd.CtrlLoop.step` (consumer of a DoWhile loop) and its preservation.
-/
namespace St4sd.C01Loop
open St4sd.CtrlLoop

theorem ready_spec {L : Loop} {s : LS} (h : ready L s = true) :
    (∀ k, k ≤ s.cur → (∀ n ∈ L.refs, n < L.n → s.ph k n = 3) ∧ s.ph k L.cond = 3) ∧ s.ph s.cur L.cond = 3 := by
  simp only [ready, Bool.and_eq_true, List.all_eq_true, List.mem_range, decide_eq_true_eq] at h
  exact ⟨fun k hk => h k (by omega), (h s.cur (by omega)).2⟩

structure Inv (L : Loop) (s : LS) : Prop where
  /-- iterations that were not instantiated have no history -/
  fresh : ∀ k n, s.cur < k → s.ph k n = 0
  /-- after the launch of the consumer: the loop is where it was at the launch, the producer of its condition is in
  `comp_done`, and the launch saw every instance of every referenced looped component and of the producer of the
  condition in `comp_done` -/
  launch : ∀ c lp, s.launched = some (c, lp) →
    c = s.cur ∧ s.ph s.cur L.cond = 3 ∧
      (∀ k, k ≤ c → (∀ n ∈ L.refs, n < L.n → lp k n = 3) ∧ lp k L.cond = 3)

theorem inv_init (L : Loop) (script : List Bool) : Inv L (init script) :=
  ⟨fun _ _ _ => rfl, fun _ _ h => by simp [init] at h⟩

theorem setPh_other {ph : Nat → Nat → Nat} {k n v k' n' : Nat} (h : ¬ (k' = k ∧ n' = n)) :
    setPh ph k n v k' n' = ph k' n' := by simp [setPh, h]

/-- an instance that exists moves on; if it produces the current condition and the consumer was launched it is
in `comp_done` already, so only `v = 3` or another instance is possible -/
theorem Inv.setPh {L : Loop} {s : LS} (h : Inv L s) {k n v : Nat} (hk : k ≤ s.cur)
    (hv : v = 3 ∨ s.ph k n ≠ 3) : Inv L { s with ph := setPh s.ph k n v } := by
  refine ⟨fun k' n' hk' => ?_, fun c lp hl => ?_⟩
  · have hk' : s.cur < k' := hk'
    show CtrlLoop.setPh s.ph k n v k' n' = 0
    rw [setPh_other (fun e => by have := e.1; omega)]
    exact h.fresh k' n' hk'
  · obtain ⟨h1, h2, h3⟩ := h.launch c lp hl
    refine ⟨h1, ?_, h3⟩
    show CtrlLoop.setPh s.ph k n v s.cur L.cond = 3
    unfold CtrlLoop.setPh
    split
    · next e =>
      rcases hv with rfl | hv
      · rfl
      · exact absurd (e.1 ▸ e.2 ▸ h2) hv
    · exact h2

theorem inv_step (L : Loop) (s : LS) (op : Op) (h : Inv L s) : Inv L (step L s op) := by
  cases op with
  | exit k n =>
    simp only [step, stepWith]
    split
    · next g => exact h.setPh g.1 (.inr (by omega))
    · exact h
  | post k n =>
    simp only [step, stepWith]
    split
    · next g => exact h.setPh g.1 (.inl rfl)
    · exact h
  | sched =>
    simp only [step, stepWith]
    split
    · next g =>
      refine ⟨h.fresh, fun c lp hl => ?_⟩
      cases hl
      exact ⟨rfl, (ready_spec g.2).2, (ready_spec g.2).1⟩
    · exact h
  | crit k n ok =>
    simp only [step, stepWith]
    split
    · next g =>
      have keep := h.setPh (n := n) (v := 2) g.1 (.inr (by omega))
      split
      · next gc =>
        -- the producer of the current condition is not in `comp_done` yet: the consumer was not launched
        have noLaunch : ∀ c lp, s.launched ≠ some (c, lp) := fun c lp hl => by
          have := (h.launch c lp hl).2.1
          rw [← gc.1, ← gc.2] at this
          omega
        split
        · exact keep
        · split
          · exact ⟨fun k' n' hk => keep.fresh k' n' (Nat.lt_of_succ_lt hk), fun c lp hl => absurd hl (noLaunch c lp)⟩
          · exact ⟨keep.fresh, keep.launch⟩
      · exact keep
    · exact h

theorem inv_run (L : Loop) (script : List Bool) (ops : List Op) : Inv L (run L script ops) :=
  List.foldlRecOn (motive := Inv L) ops (step L) (inv_init L script) fun s h op _ => inv_step L s op h

theorem launched_step (L : Loop) (s : LS) (op : Op) (v : Nat × (Nat → Nat → Nat))
    (h : s.launched = some v) : (step L s op).launched = some v := by
  cases op with
  | sched => simp [step, stepWith, h]
  | exit k n => simp only [step, stepWith]; split <;> exact h
  | post k n => simp only [step, stepWith]; split <;> exact h
  | crit k n ok =>
    simp only [step, stepWith]
    split
    · split
      · split
        · exact h
        · split <;> exact h
      · exact h
    · exact h

theorem launched_foldl (L : Loop) (ops : List Op) (s : LS) (v : Nat × (Nat → Nat → Nat))
    (h : s.launched = some v) : (ops.foldl (step L) s).launched = some v :=
  List.foldlRecOn (motive := fun t => t.launched = some v) ops (step L) h fun t ht op _ => launched_step L t op v ht

end St4sd.C01Loop
