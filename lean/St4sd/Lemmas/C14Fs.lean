import St4sd.Model.FsAtomic
/-! Lemmas for C14 about single-writer traces: `set`, `run`, and operations that do not name a path. -/
namespace St4sd.FsAtomic

theorem set_same (fs : Fs) (p : Path) (v : Option Content) : set fs p v p = v := by simp [set]

theorem set_other (fs : Fs) (p q : Path) (v : Option Content) (h : q ≠ p) : set fs p v q = fs q := by
  simp [set, h]

theorem set_set (fs : Fs) (p : Path) (v w : Option Content) : set (set fs p v) p w = set fs p w := by
  funext q
  by_cases h : q = p <;> simp [set, h]

theorem set_self (fs : Fs) (p : Path) : set fs p (fs p) = fs := by
  funext q
  by_cases h : q = p <;> simp [set, h]

theorem run_nil (fs : Fs) : run [] fs = fs := rfl
theorem run_cons (o : Op) (tr : List Op) (fs : Fs) : run (o :: tr) fs = run tr (apply fs o) := rfl
theorem run_append (a b : List Op) (fs : Fs) : run (a ++ b) fs = run b (run a fs) := by
  simp [run, List.foldl_append]

theorem apply_noTouch (fs : Fs) (o : Op) (t : Path) (h : touches t o = false) : apply fs o t = fs t := by
  cases o with
  | close p => rfl
  | create p | remove p => simp [apply, set, Ne.symm (by simpa [touches] using h : p ≠ t)]
  | append p b =>
    have hp : t ≠ p := Ne.symm (by simpa [touches] using h)
    cases hc : fs p <;> simp [apply, hc, set, hp]
  | rename a b =>
    have hab : a ≠ t ∧ b ≠ t := by simpa [touches] using h
    simp only [apply]
    cases fs a with
    | none => rfl
    | some c =>
      show (if a = b then fs else set (set fs b (some c)) a none) t = fs t
      split
      · rfl
      · simp [set, Ne.symm hab.1, Ne.symm hab.2]

theorem run_noTouch (tr : List Op) (fs : Fs) (t : Path) (h : noTouch t tr = true) : run tr fs t = fs t := by
  induction tr generalizing fs with
  | nil => rfl
  | cons o tr ih =>
    simp only [noTouch, List.all_cons, Bool.and_eq_true, Bool.not_eq_true'] at h
    rw [run_cons, ih _ (by simpa [noTouch] using h.2), apply_noTouch _ _ _ h.1]

theorem noTouch_take (tr : List Op) (t : Path) (n : Nat) (h : noTouch t tr = true) : noTouch t (tr.take n) = true := by
  simp only [noTouch, List.all_eq_true] at *
  exact fun o ho => h o (List.mem_of_mem_take ho)

theorem run_appends (p : Path) (chunks : List Content) (fs : Fs) (c : Content) (h : fs p = some c) :
    run (chunks.map (Op.append p)) fs = set fs p (some (c ++ flatten chunks)) := by
  induction chunks generalizing fs c with
  | nil => rw [flatten, List.append_nil, ← h, set_self]; rfl
  | cons b bs ih =>
    rw [List.map_cons, run_cons, apply, h, ih _ (c ++ b) (set_same _ _ _), set_set, flatten, List.append_assoc]

theorem atomicGo_skip (t : Path) (pre rest : List Op) (h : noTouch t pre = true) (dirty : List Path) :
    atomicGo t dirty (pre ++ rest) = atomicGo t (pre.foldl updDirty dirty) rest := by
  induction pre generalizing dirty with
  | nil => rfl
  | cons o pre ih =>
    simp only [noTouch, List.all_cons, Bool.and_eq_true, Bool.not_eq_true'] at h
    simp only [List.cons_append, atomicGo, h.1, List.foldl_cons]
    exact ih (by simpa [noTouch] using h.2) _

end St4sd.FsAtomic
