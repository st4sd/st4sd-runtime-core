import St4sd.Lemmas.C18Confine
import St4sd.Model.C18Keys
/-!
# C18 — manifest entries with their keys as text, whole manifests and histories of deployments

A key in any spelling is answered like its parsed form or with an error that touches nothing
(`deployOneK_deployed`), so everything known of `deployOne` carries over; the deployment invariant `DGood` then goes
through manifests and histories.
-/
namespace St4sd.Confine

variable {target : Path} {fs0 : Fs} {st : St}

theorem deployOneK_deployed (target : Path) (st : St) (e : KEntry) :
    Deployed target st e.entry (deployOneK true target st e) := by
  have hd := deployOne_deployed target st e.entry
  unfold deployOneK
  refine ite_elim (fun _ => ?_) fun _ => ite_elim (fun _ => ?_) fun _ => hd
  · -- the key ends in a `.` component
    refine ite_elim (fun _ => .error _) fun _ => ite_elim (fun _ => .error _) fun _ => ?_
    split
    · exact .error _
    refine ite_elim (fun _ => .error _) fun _ => ?_
    split
    · exact .error _
    · exact ite_elim (fun _ => .error _) fun _ => hd
  · -- a link entry whose key ends with a separator
    generalize deployOne true target st e.entry = r at hd ⊢
    obtain ⟨st1, _ | x⟩ := r
    · exact .error _
    · exact hd

theorem deployAllK_good : ∀ (es : List KEntry) (st : St), DGood target fs0 st →
    DGood target fs0 (deployAllK true target st es).1
  | [], _, hg => hg
  | e :: es, st, hg => by
    have h1 := deployed_good (deployOneK_deployed target st e) hg
    unfold deployAllK
    generalize deployOneK true target st e = r at h1 ⊢
    obtain ⟨st1, _ | x⟩ := r
    · exact deployAllK_good es st1 h1
    · exact h1

theorem deployK_good (hg : DGood target fs0 st) (es : List KEntry) : DGood target fs0 (deployK true target st es).1 := by
  have h1 := deployAllK_good es st hg
  unfold deployK
  generalize deployAllK true target st es = r at h1 ⊢
  obtain ⟨st1, _ | x⟩ := r
  · exact deployConf_good h1 _
  · exact h1

theorem deployStep_good (hg : DGood target fs0 st) (d : Deployment) :
    DGood target fs0 (deployStep true target st d).1 := by
  unfold deployStep loadAndDeployK
  split
  · split
    · exact deployK_good hg _
    · exact hg
  · exact deployK_good hg _

theorem deployHistory_good : ∀ (ds : List Deployment) (st : St), DGood target fs0 st →
    DGood target fs0 (deployHistory true target st ds).1
  | [], _, hg => hg
  | d :: ds, _, hg => deployHistory_good ds _ (deployStep_good hg d)

end St4sd.Confine
