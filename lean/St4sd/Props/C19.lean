import St4sd.Model.IniProc
import St4sd.Model.IniDir
import St4sd.Gen.C19
import St4sd.Lemmas.C19Names
import St4sd.Lemmas.C19Float
/-!
# C19 — The legacy configuration format round-trips an instance

`Gen.C19.dumpTable / parseTable / knownKeys / optionPaths` are regenerated from
`dosini.py` / `flowir.py` on every run; the pin theorems below are re-checked against them.
The round trips of single values (printer/parser pairs) are in `Lemmas/C19.lean`, decimal literals in `C19Float`, packed
names in `C19Names`; here a section is read line by line (`section_roundtrip`) and a line pair by pair (`line_roundtrip`).
-/
namespace St4sd.C19
open St4sd.Str St4sd.Ini St4sd.Gen.C19

/-- Pin theorem on the generated tables: every key the writer uses is a known (non-variable) key of the
reader, the reader's branch for that key stores the value under the *same* option path, through a
converter that inverts the writer's printer, and anything else the branch stores is a constant. -/
theorem tables_agree : dumpTable.all (agrees parseTable knownKeys) = true := by decide +kernel

private theorem agrees_spec {pt : List ParseEntry} {known : List S} {e : DumpEntry} (h : agrees pt known e = true) :
    known.contains e.key = true ∧ ∃ pe pa rest, findParse pt e.key = some pe ∧
      pe.outs = (e.path, .parsed pa) :: rest ∧ good e.printer pa = true ∧ rest.all isConst = true := by
  unfold agrees at h
  obtain ⟨hk, hm⟩ := Bool.and_eq_true_iff.mp h
  refine ⟨hk, ?_⟩
  split at hm
  · next pe hf =>
    split at hm
    · next q pa rest ho =>
      simp only [Bool.and_eq_true, decide_eq_true_eq] at hm
      obtain ⟨⟨rfl, hgood⟩, hrest⟩ := hm
      exact ⟨pe, pa, rest, hf, ho, hgood, hrest⟩
    · cases hm
  · cases hm

/-- The writer never uses one key for two option paths: the reader's branch for a key stores under ONE path, and both
entries agree with it. -/
theorem dump_keys_injective :
    dumpTable.all (fun e => dumpTable.all fun f => e.key != f.key || e.path == f.path) = true := by
  refine List.all_eq_true.mpr fun e he => List.all_eq_true.mpr fun f hf => ?_
  obtain ⟨_, pe, pa, rest, h1, h2, _⟩ := agrees_spec (List.all_eq_true.mp tables_agree e he)
  obtain ⟨_, pe', pa', rest', h1', h2', _⟩ := agrees_spec (List.all_eq_true.mp tables_agree f hf)
  by_cases hk : e.key = f.key
  · obtain rfl : pe' = pe := Option.some.inj ((hk ▸ h1').symm.trans h1)
    simp [(Prod.mk.inj (List.cons.inj (h2'.symm.trans h2)).1).1]
  · simp [hk]

/-- Options of a component (leaves of `FlowIR.default_component_structure`) that have NO key in the
legacy format: these are outside "expressible in the legacy format".  `isRepeat` is derived by the
reader from `repeat-interval`; `command.interpreter` has a key but no builtin default leaf other than None. -/
theorem options_without_legacy_key :
    optionPaths.filter (fun p => !(dumpTable.any fun e => e.path == p)) =
      [ [['w','o','r','k','f','l','o','w','A','t','t','r','i','b','u','t','e','s'], ['i','s','M','i','g','r','a','t','e','d']],
        [['w','o','r','k','f','l','o','w','A','t','t','r','i','b','u','t','e','s'], ['i','s','R','e','p','e','a','t']],
        [['r','e','s','o','u','r','c','e','M','a','n','a','g','e','r'], ['k','u','b','e','r','n','e','t','e','s'], ['q','o','s']],
        [['r','e','s','o','u','r','c','e','M','a','n','a','g','e','r'], ['k','u','b','e','r','n','e','t','e','s'], ['p','o','d','S','p','e','c']],
        [['r','e','s','o','u','r','c','e','M','a','n','a','g','e','r'], ['d','o','c','k','e','r'], ['i','m','a','g','e']],
        [['r','e','s','o','u','r','c','e','M','a','n','a','g','e','r'], ['d','o','c','k','e','r'], ['i','m','a','g','e','P','u','l','l','P','o','l','i','c','y']],
        [['r','e','s','o','u','r','c','e','M','a','n','a','g','e','r'], ['d','o','c','k','e','r'], ['p','l','a','t','f','o','r','m']],
        [['r','e','s','o','u','r','c','e','R','e','q','u','e','s','t'], ['g','p','u','s']] ] := by decide +kernel

private theorem parseOuts_consts (s : S) : ∀ (rest : List (Path × POut)), rest.all isConst = true →
    ∃ t, parseOuts s rest = some t
  | [], _ => ⟨[], rfl⟩
  | (p, .const v) :: r, h => by
    obtain ⟨t, ht⟩ := parseOuts_consts s r (Bool.and_eq_true_iff.mp h).2
    exact ⟨(p, v) :: t, by simp only [parseOuts, ht, Option.map_some]⟩
  | (_, .parsed _) :: _, h => nomatch h

private theorem mem_dropEmptyTop (p : Path) (w : Val) (l : List (Path × Val)) (h : (p, w) ∈ l) :
    (p, w) ∈ dropEmptyTop l ∨ (p.length = 1 ∧ w = .words []) := by
  by_cases hc : p.length = 1 ∧ w = .words []
  · exact Or.inr hc
  · exact Or.inl (List.mem_filter.mpr ⟨h, by simpa [-not_and, ← Decidable.not_and_iff_not_or_not] using hc⟩)

/-- `table_roundtrip`, for any pair of tables that agree: for every entry `e` of the dump table there is
a parser `pa` such that for EVERY value `v` of the parser's type domain, reading the line the writer
produces for `(e.path, v)` succeeds and stores `v` (up to `norm`: the memory text and its number of
bytes) under the same path `e.path` — unless it is an empty top-level list (`references`), which the
reader does not store. -/
theorem table_roundtrip_of (dt : List DumpEntry) (pt : List ParseEntry) (known : List S)
    (hag : dt.all (agrees pt known) = true) (e : DumpEntry) (he : e ∈ dt) :
    ∃ pa, entryParser pt e = some pa ∧ ∀ v, inDom pa v = true →
      ∃ w out, parsePair pt known (e.key, print e.printer v) = some out ∧ norm pa w = norm pa v ∧
        ((e.path, w) ∈ out ∨ (e.path.length = 1 ∧ w = .words [])) := by
  obtain ⟨hk, pe, pa, rest, hf, ho, hgood, hrest⟩ := agrees_spec (List.all_eq_true.mp hag e he)
  refine ⟨pa, by simp only [entryParser, hf, ho], fun v hv => ?_⟩
  obtain ⟨w, hw, hn⟩ := print_parse e.printer pa v hgood hv
  obtain ⟨t, ht⟩ := parseOuts_consts (print e.printer v) rest hrest
  exact ⟨w, dropEmptyTop ((e.path, w) :: t),
    by simp only [parsePair, hk, if_true, hf, ho, parseOuts, hw, ht, Option.map_some],
    hn, mem_dropEmptyTop e.path w _ List.mem_cons_self⟩

/-- `table_roundtrip` for the tables of the code that exists. -/
theorem table_roundtrip (e : DumpEntry) (he : e ∈ dumpTable) :
    ∃ pa, entryParser parseTable e = some pa ∧ ∀ v, inDom pa v = true →
      ∃ w out, parsePair parseTable knownKeys (e.key, print e.printer v) = some out ∧ norm pa w = norm pa v ∧
        ((e.path, w) ∈ out ∨ (e.path.length = 1 ∧ w = .words [])) :=
  table_roundtrip_of dumpTable parseTable knownKeys tables_agree e he

private theorem section_roundtrip (dt : List DumpEntry) (pt : List ParseEntry) (known : List S) (pass : List Path) :
    ∀ c : List (Path × Val), (∀ pv ∈ c, ∀ kv, dumpPair dt pass pv = some kv → ∃ o, parsePair pt known kv = some o) →
    ∃ out, parseSection pt known (dumpSection dt pass c) = some out ∧
      ∀ pv ∈ c, ∀ kv o, dumpPair dt pass pv = some kv → parsePair pt known kv = some o → ∀ x ∈ o, x ∈ out
  | [], _ => ⟨[], rfl, nofun⟩
  | pv :: c, h => by
    obtain ⟨out, hout, hmem⟩ := section_roundtrip dt pt known pass c fun pv' hpv' => h pv' (List.mem_cons_of_mem _ hpv')
    unfold dumpSection at hout ⊢
    rw [List.filterMap_cons]
    cases hd : dumpPair dt pass pv with
    | none =>
      refine ⟨out, hout, fun pv' hpv' kv o hkv => ?_⟩
      rcases List.mem_cons.mp hpv' with rfl | hin
      · rw [hd] at hkv; cases hkv
      · exact hmem pv' hin kv o hkv
    | some kv =>
      obtain ⟨o, ho⟩ := h pv List.mem_cons_self kv hd
      refine ⟨o ++ out, by simp only [parseSection, ho, hout], fun pv' hpv' kv' o' hkv' ho' x hx => ?_⟩
      rcases List.mem_cons.mp hpv' with rfl | hin
      · obtain rfl : kv = kv' := Option.some.inj (hd.symm.trans hkv')
        obtain rfl : o = o' := Option.some.inj (ho.symm.trans ho')
        exact List.mem_append_left _ hx
      · exact List.mem_append_right _ (hmem pv' hin kv' o' hkv' ho' x hx)

private theorem pairOkSome_cases (dt : List DumpEntry) (pt : List ParseEntry) (known : List S) (pass : List Path)
    (p : Path) (v : Val) (h : pairOkSome dt pt known p v = true) :
    (∃ name s, p = [variablesSeg, name] ∧ v = .str s ∧ known.contains name = false) ∨
    (∃ e pa, findDump dt p = some e ∧ dumpSome dt pass p v = some (e.key, print e.printer v) ∧
      entryParser pt e = some pa ∧ inDom pa v = true) := by
  -- `d` is what `dumpSome dt pass p v` unfolds to; that differs between a two-component path and any other
  have htable : tableOk dt pt p v = true → ∀ d,
      (∀ e, findDump dt p = some e → d = some (e.key, print e.printer v)) →
      ∃ e pa, findDump dt p = some e ∧ d = some (e.key, print e.printer v) ∧
        entryParser pt e = some pa ∧ inDom pa v = true := by
    intro hok d hsome
    unfold tableOk at hok
    split at hok
    · next e hf =>
      split at hok
      · next pa hpa => exact ⟨e, pa, hf, hsome e hf, hpa, hok⟩
      · cases hok
    · cases hok
  unfold pairOkSome at h
  unfold dumpSome
  split at h
  · next seg name =>
    split at h
    · next hs =>
      cases v with
      | str s => exact Or.inl ⟨name, s, by rw [hs], rfl, by simpa using h⟩
      | _ => cases h
    · next hs => exact Or.inr (htable h _ fun e hf => by simp only [hs, if_false, hf])
  · exact Or.inr (htable h _ fun e hf => by simp only [hf])

/-- Component variables pass through unchanged: a name that is not a legacy key is written as
`name = text` and read back as the variable `name` with the same text. -/
theorem variable_roundtrip (pt : List ParseEntry) (known : List S) (dt : List DumpEntry) (pass : List Path)
    (name s : S) (hk : known.contains name = false) :
    ∃ kv, dumpPair dt pass ([variablesSeg, name], .str s) = some kv ∧
      parsePair pt known kv = some [([variablesSeg, name], .str s)] :=
  ⟨(name, s), by simp only [dumpPair, dumpSome, if_true, pyStr],
    by simp only [parsePair, hk, Bool.false_eq_true, if_false]⟩

private theorem line_roundtrip (dt : List DumpEntry) (pt : List ParseEntry) (known : List S) (pass : List Path)
    (hag : dt.all (agrees pt known) = true) (p : Path) (v : Val) (hv : v ≠ .none)
    (hok : pairOk dt pt known (p, v) = true) :
    ∃ kv, dumpPair dt pass (p, v) = some kv ∧ ∃ o, parsePair pt known kv = some o ∧
      ∃ w pa, norm pa w = norm pa v ∧ ((p, w) ∈ o ∨ (p.length = 1 ∧ w = .words [])) := by
  obtain ⟨hd, hok'⟩ : dumpPair dt pass (p, v) = dumpSome dt pass p v ∧ pairOkSome dt pt known p v = true := by
    cases v with
    | none => exact absurd rfl hv
    | _ => exact ⟨rfl, hok⟩
  rcases pairOkSome_cases dt pt known pass p v hok' with ⟨name, s, rfl, rfl, hk⟩ | ⟨e, pa, hf, hds, hpa, hdom⟩
  · obtain ⟨kv, hkv, hp⟩ := variable_roundtrip pt known dt pass name s hk
    exact ⟨kv, hkv, _, hp, .str s, .raw, rfl, Or.inl List.mem_cons_self⟩
  · obtain ⟨pa', hpa', hrt⟩ := table_roundtrip_of dt pt known hag e (List.mem_of_find?_eq_some hf)
    obtain rfl : pa = pa' := Option.some.inj (hpa.symm.trans hpa')
    obtain ⟨w, o, ho, hn, hm⟩ := hrt v hdom
    rw [show e.path = p by simpa using List.find?_some hf] at hm
    exact ⟨_, hd.trans hds, o, ho, w, pa, hn, hm⟩

/-- `instance_roundtrip`, for any pair of agreeing tables: a component (flat list of option path / value
pairs, variables included) all of whose pairs are expressible (`pairOk`) is written to a section that the
reader accepts, and every pair with a value other than `None` is found again under the same path with
the same value (up to `norm`, i.e. the memory text versus its number of bytes) — except an empty
top-level list (`references = `), which is the default anyway. -/
theorem instance_roundtrip_of (dt : List DumpEntry) (pt : List ParseEntry) (known : List S) (pass : List Path)
    (hag : dt.all (agrees pt known) = true) (c : List (Path × Val))
    (hc : ∀ pv ∈ c, pairOk dt pt known pv = true) :
    ∃ out, parseSection pt known (dumpSection dt pass c) = some out ∧
      ∀ p v, (p, v) ∈ c → v ≠ .none →
        ∃ w pa, norm pa w = norm pa v ∧ ((p, w) ∈ out ∨ (p.length = 1 ∧ w = .words [])) := by
  have hne : ∀ {p v kv}, dumpPair dt pass (p, v) = some kv → v ≠ .none := by rintro p v kv h rfl; cases h
  obtain ⟨out, hout, hsub⟩ := section_roundtrip dt pt known pass c fun (p, v) hpv kv hkv =>
    have ⟨kv', hkv', o, ho, _⟩ := line_roundtrip dt pt known pass hag p v (hne hkv) (hc _ hpv)
    ⟨o, Option.some.inj (hkv'.symm.trans hkv) ▸ ho⟩
  refine ⟨out, hout, fun p v hpv hv => ?_⟩
  obtain ⟨kv, hkv, o, ho, w, pa, hn, hm⟩ := line_roundtrip dt pt known pass hag p v hv (hc _ hpv)
  exact ⟨w, pa, hn, hm.imp_left (hsub _ hpv kv o hkv ho _)⟩

/-- `instance_roundtrip` for the tables of the code that exists. -/
theorem instance_roundtrip (c : List (Path × Val)) (hc : ∀ pv ∈ c, pairOk dumpTable parseTable knownKeys pv = true) :
    ∃ out, parseSection parseTable knownKeys (dumpSection dumpTable passthrough c) = some out ∧
      ∀ p v, (p, v) ∈ c → v ≠ .none →
        ∃ w pa, norm pa w = norm pa v ∧ ((p, w) ∈ out ∨ (p.length = 1 ∧ w = .words [])) :=
  instance_roundtrip_of dumpTable parseTable knownKeys passthrough tables_agree c hc

/-! ## The reader as a process: sections parsed earlier do not matter

Model: `St4sd/Model/IniProc.lean`.  Stated for every parse table, backend table, initial answer of
`known_flowir_options()` and every sequence of sections read earlier in the process (components of earlier stages,
earlier loads of other workflows, components of any backend). -/
section Process
open St4sd.IniProc

/-- the reader has no state: whatever was parsed, `known_flowir_options()` answers as before -/
theorem reader_state_constant (pt : List ParseEntry) (bt : BackendTable) (P : Proc) (secs : List Section) :
    (parseSeq false pt bt P secs).1 = P := by
  induction secs with
  | nil => rfl
  | cons s r ih => simpa [parseSeq, parseComponent, validate] using ih

/-- every section of a process is parsed as if it were the only one -/
theorem parseSeq_pointwise (pt : List ParseEntry) (bt : BackendTable) (P : Proc) (secs : List Section) :
    (parseSeq false pt bt P secs).2 = secs.map (parseSection pt P.known) := by
  induction secs with
  | nil => rfl
  | cons s r ih => simpa [parseSeq, parseComponent, validate] using ih

/-- **what a section parses to does not depend on what the process parsed before** -/
theorem parse_independent_of_history (pt : List ParseEntry) (bt : BackendTable) (P : Proc) (earlier : List Section)
    (sec : Section) :
    (parseComponent false pt bt (parseSeq false pt bt P earlier).1 sec).2 = parseSection pt P.known sec := by
  rw [reader_state_constant]; rfl

/-- **`instance_roundtrip` at any point of a process**: after any sections read earlier (components of the simulator
backend included, whose options are not legacy keys), an expressible component is written to a section that the
reader accepts and every pair is found again — component variables whose names are options of some backend too. -/
theorem instance_roundtrip_any_history (earlier : List Section) (c : List (Path × Val))
    (hc : ∀ pv ∈ c, pairOk dumpTable parseTable knownKeys pv = true) :
    ∃ out, (parseComponent false parseTable backendTable
              (parseSeq false parseTable backendTable ⟨knownKeys⟩ earlier).1
              (dumpSection dumpTable passthrough c)).2 = some out ∧
      ∀ p v, (p, v) ∈ c → v ≠ .none →
        ∃ w pa, norm pa w = norm pa v ∧ ((p, w) ∈ out ∨ (p.length = 1 ∧ w = .words [])) := by
  rw [parse_independent_of_history]
  exact instance_roundtrip c hc

/-- a name that some backend accepts as an option but that is not a legacy key is a component variable, before and
after any component of that backend was read -/
theorem backend_option_name_is_a_variable (earlier : List Section) (name s : S)
    (hk : knownKeys.contains name = false) :
    (parseComponent false parseTable backendTable
        (parseSeq false parseTable backendTable ⟨knownKeys⟩ earlier).1 [(name, s)]).2
      = some [([variablesSeg, name], .str s)] := by
  rw [parse_independent_of_history]
  have hk' : ¬ name ∈ knownKeys := by simpa using hk
  simp [parseSection, parsePair, hk']

/-- non-vacuity: a simulator section read first, then a section with a variable named like a simulator option -/
example :
    (parseSeq false parseTable backendTable ⟨knownKeys⟩
      [[("job-type".toList, "simulator".toList), ("sim_x".toList, "1".toList)],
       [("sim_x".toList, "3".toList)]]).2
    = [some [(["resourceManager".toList, "config".toList, "backend".toList], .str "simulator".toList),
             ([variablesSeg, "sim_x".toList], .str "1".toList)],
       some [([variablesSeg, "sim_x".toList], .str "3".toList)]] := by
  -- a literal is `String.ofList [chars]`: as a character list it is not run through the UTF-8 decoder by the kernel
  simp -index only [String.toList_ofList]
  decide +kernel

end Process

/-! ## Executors: every subset of the executor kinds of the format

The format has a key for four executor fields: the payload of the `lsf-dm-in` pre-executor (`rstage-in`), the payload of
the `lsf-dm-out` post-executor (`rstage-out`) and the two options of the `docker` main executor.  A component may carry
any subset of them (stage-in without stage-out, stage-out without stage-in, both, none, with and without the docker
executor).  In the model the writer looks at one `(path, value)` pair at a time; the harness compares the real
`_flowir_component_to_dict` with `dumpSection` on components carrying every subset. -/
section Executors

def stageInPath : Path := ["executors".toList, "pre".toList, "lsf-dm-in".toList, "payload".toList]
def stageOutPath : Path := ["executors".toList, "post".toList, "lsf-dm-out".toList, "payload".toList]
def dockerImagePath : Path := ["executors".toList, "main".toList, "docker".toList, "docker-image".toList]
def dockerArgsPath : Path := ["executors".toList, "main".toList, "docker".toList, "docker-args".toList]
def executorPaths : List Path := [stageInPath, stageOutPath, dockerImagePath, dockerArgsPath]

/-- **what is written for some pairs of a component does not depend on its other pairs** (for every dump table): an
executor is written in the same way whichever other executors and options stand before or after it -/
theorem dump_independent_of_siblings (dt : List DumpEntry) (pass : List Path) (a c b : List (Path × Val)) :
    dumpSection dt pass (a ++ c ++ b) = dumpSection dt pass a ++ dumpSection dt pass c ++ dumpSection dt pass b := by
  simp [dumpSection, List.filterMap_append]

/-- a pair that is written is written in every component that holds it, whatever else the component holds -/
theorem dump_pair_in_every_component (dt : List DumpEntry) (pass : List Path) (c : List (Path × Val)) (pv : Path × Val)
    (kv : S × S) (h : dumpPair dt pass pv = some kv) (hm : pv ∈ c) : kv ∈ dumpSection dt pass c :=
  List.mem_filterMap.mpr ⟨pv, hm, h⟩

private theorem executor_fields_raw :
    executorPaths.all (rawFieldOk dumpTable parseTable knownKeys passthrough) = true := by
  unfold executorPaths stageInPath stageOutPath dockerImagePath dockerArgsPath
  simp -index only [String.toList_ofList]
  decide +kernel

/-- **every executor field of the format**: its text is written unchanged under its key, and that line is read back as
exactly that field of exactly that executor (tables of the code that exists) -/
theorem executor_field_roundtrip (p : Path) (hp : p ∈ executorPaths) (s : S) :
    ∃ k, dumpPair dumpTable passthrough (p, .str s) = some (k, s) ∧
      parsePair parseTable knownKeys (k, s) = some [(p, .str s)] :=
  rawField_roundtrip (List.all_eq_true.mp executor_fields_raw p hp) s

/-- a field of the `docker` main executor holding text: written under its own name (pass-through), so it has no entry in
the dump table and `pairOk` does not cover it -/
def dockerFieldOk : Path × Val → Bool
  | (p, .str _) => decide (p = dockerImagePath ∨ p = dockerArgsPath)
  | _ => false

/-- **every subset of executors survives the round trip**: a component all of whose pairs are expressible (`pairOk`) or
fields of the docker executor — so: any subset of the executor fields (stage-in without stage-out, stage-out without
stage-in, both, none, with and without docker image / arguments) next to any options, references and variables, in any
order — is written to a section that the reader accepts; every executor field it holds is in the component that is read
back, with exactly the text that was written; and every other pair is found again as in `instance_roundtrip`. -/
theorem executor_subsets_roundtrip (c : List (Path × Val))
    (hc : ∀ pv ∈ c, pairOk dumpTable parseTable knownKeys pv = true ∨ dockerFieldOk pv = true) :
    ∃ out, parseSection parseTable knownKeys (dumpSection dumpTable passthrough c) = some out ∧
      (∀ p ∈ executorPaths, ∀ s, (p, Val.str s) ∈ c → (p, Val.str s) ∈ out) ∧
      (∀ p v, (p, v) ∈ c → v ≠ .none → pairOk dumpTable parseTable knownKeys (p, v) = true →
        ∃ w pa, norm pa w = norm pa v ∧ ((p, w) ∈ out ∨ (p.length = 1 ∧ w = .words []))) := by
  obtain ⟨out, hout, hsub⟩ := section_roundtrip dumpTable parseTable knownKeys passthrough c fun (p, v) hpv kv hkv => by
    rcases hc _ hpv with hok | hdock
    · have hv : v ≠ .none := by rintro rfl; cases hkv
      obtain ⟨kv', hkv', o, ho, _⟩ := line_roundtrip _ _ _ passthrough tables_agree p v hv hok
      exact ⟨o, Option.some.inj (hkv'.symm.trans hkv) ▸ ho⟩
    · cases v with
      | str s =>
        have hp : p ∈ executorPaths := by
          rcases of_decide_eq_true hdock with rfl | rfl <;> simp [executorPaths]
        obtain ⟨k, hd, hpar⟩ := executor_field_roundtrip p hp s
        exact ⟨_, Option.some.inj (hd.symm.trans hkv) ▸ hpar⟩
      | _ => cases hdock
  refine ⟨out, hout, fun p hp s hmem => ?_, fun p v hmem hv hok => ?_⟩
  · obtain ⟨k, hd, hpar⟩ := executor_field_roundtrip p hp s
    exact hsub _ hmem _ _ hd hpar _ List.mem_cons_self
  · obtain ⟨kv, hkv, o, ho, w, pa, hn, hm⟩ := line_roundtrip _ _ _ passthrough tables_agree p v hv hok
    exact ⟨w, pa, hn, hm.imp_left (hsub _ hmem kv o hkv ho _)⟩

/-- all sublists -/
def subsets {α : Type} : List α → List (List α)
  | [] => [[]]
  | x :: r => subsets r ++ (subsets r).map (x :: ·)

/-- the hypothesis of `executor_subsets_roundtrip` holds for every one of the 16 subsets of the four executor fields next
to an option and a variable (stage-in WITHOUT stage-out among them), and the section that is read back is exactly what
was written -/
example :
    (subsets ([stageInPath, stageOutPath, dockerImagePath, dockerArgsPath].map fun p => (p, Val.str "all".toList))).all
      (fun ex =>
        let c := ([variablesSeg, "MyVar".toList], Val.str "x y".toList) :: ex
        c.all (fun pv => pairOk dumpTable parseTable knownKeys pv || dockerFieldOk pv) &&
        parseSection parseTable knownKeys (dumpSection dumpTable passthrough c) == some c) = true ∧
    (subsets [1, 2, 3, 4]).length = 16 := by
  unfold stageInPath stageOutPath dockerImagePath dockerArgsPath
  simp -index only [String.toList_ofList]
  decide +kernel

end Executors

/-! ## The configuration directory over several writes

Model: `St4sd/Model/IniDir.lean`. -/
section Directory
open St4sd.IniDir

/-- `dump(update_existing=True)` replaces the stage files of the flavour it writes and leaves the other flavour alone -/
theorem dump_replaces_flavour {α : Type} (d : Dir α) (f : Bool) (desc : Files α) :
    (dump d f desc).files f = writeAll [] desc ∧ (dump d f desc).files (!f) = d.files (!f) := by
  cases f <;> simp [dump, Dir.files]

/-- **the last write wins, whatever was written before**: after any history of writes (longer workflows, other
workflows, the other flavour) into the directory, the stage files of the flavour written last are exactly those of
the description written last — no file of an earlier write survives -/
theorem dump_history_last_wins {α : Type} (d : Dir α) (hist : List (Bool × Files α)) (f : Bool) (desc : Files α) :
    (dumpAll d (hist ++ [(f, desc)])).files f = writeAll [] desc := by
  simp only [dumpAll, List.foldl_append, List.foldl_cons, List.foldl_nil]
  exact (dump_replaces_flavour _ f desc).1

private theorem writeAll_descFrom {α : Type} : ∀ (l : List α) (k : Nat) (fs : Files α), (∀ e ∈ fs, e.1 < k) →
    writeAll fs (descFrom k l) = fs ++ descFrom k l
  | [], _, _, _ => (List.append_nil _).symm
  | a :: r, k, fs, h => by
    have hw : writeFile fs (k, a) = fs ++ [(k, a)] :=
      congrArg (· ++ [(k, a)]) (List.filter_eq_self.mpr fun e he => by simpa using Nat.ne_of_lt (h e he))
    show writeAll (writeFile fs (k, a)) (descFrom (k + 1) r) = _
    rw [hw, writeAll_descFrom r (k + 1), List.append_assoc]
    · rfl
    · intro e he
      rcases List.mem_append.mp he with he | he
      · exact Nat.lt_succ_of_lt (h e he)
      · rw [List.mem_singleton.mp he]; exact Nat.lt_succ_self k

private theorem collect_cons_lt {α : Type} (fs : Files α) (k : Nat) (a : α) :
    ∀ (n i : Nat), k < i → collect ((k, a) :: fs) i n = collect fs i n
  | 0, _, _ => rfl
  | n + 1, i, h => by
    have hne : (k == i) = false := by simpa using Nat.ne_of_lt h
    simp only [collect, stageFile, List.find?_cons, hne, collect_cons_lt fs k a n (i + 1) (Nat.lt_succ_of_lt h)]

private theorem collect_descFrom {α : Type} : ∀ (l : List α) (k : Nat), collect (descFrom k l) k l.length = some l
  | [], _ => rfl
  | a :: r, k => by
    simp only [descFrom, List.length_cons, collect, stageFile, List.find?_cons, beq_self_eq_true, Option.map_some,
      collect_cons_lt _ k a _ _ (Nat.lt_succ_self k), collect_descFrom r (k + 1)]

private theorem descFrom_length {α : Type} : ∀ (l : List α) (k : Nat), (descFrom k l).length = l.length
  | [], _ => rfl
  | _ :: r, k => congrArg (· + 1) (descFrom_length r (k + 1))

/-- **what is discovered is what was written last**: after any history of writes, the reader finds exactly the stages
`0 … n-1` of the description written last (with the content written last), never a stage of an earlier write -/
theorem discover_after_history {α : Type} (d : Dir α) (hist : List (Bool × Files α)) (f : Bool) (stages : List α) :
    discover ((dumpAll d (hist ++ [(f, descOf stages)])).files f) = some stages := by
  rw [dump_history_last_wins, descOf, writeAll_descFrom stages 0 [] nofun, List.nil_append, discover, descFrom_length]
  exact collect_descFrom stages 0

/-- non-vacuity: three stages written, then two: two are found -/
example : discover ((dumpAll (⟨[], []⟩ : Dir Nat) [(true, descOf [10, 11, 12]), (false, descOf [7]), (true, descOf [20, 21])]).files true)
    = some [20, 21] := by decide +kernel

end Directory

/-! ## Non-vacuity: concrete instances of the hypotheses and of the round trip -/

/-- the domain hypotheses are satisfiable by non-trivial values of every type -/
example : inDom .toInt (.int (-42)) = true ∧ inDom .toBool (.str "%(MyVar)s".toList) = true ∧
    inDom .split (.words ["KnownIssue".toList, "Killed".toList]) = true ∧
    inDom .toMem (.str "2Gi".toList) = true ∧ inDom .toFloat (.float "1e-05".toList) = true := by decide +kernel

/-- a whole section: written and read back by the generated tables -/
example :
    parseSection parseTable knownKeys (dumpSection dumpTable passthrough
      [ ([['c','o','m','m','a','n','d'], ['r','e','s','o','l','v','e','P','a','t','h']], .bool false),
        ([['r','e','s','o','u','r','c','e','R','e','q','u','e','s','t'], ['m','e','m','o','r','y']], .int 1024),
        ([variablesSeg, ['f','o','o']], .str ['b','a','r']),
        ([['r','e','s','o','u','r','c','e','R','e','q','u','e','s','t'], ['g','p','u','s']], .int 1) ])
    = some
      [ ([['c','o','m','m','a','n','d'], ['r','e','s','o','l','v','e','P','a','t','h']], .bool false),
        ([['r','e','s','o','u','r','c','e','R','e','q','u','e','s','t'], ['m','e','m','o','r','y']], .str ['1','0','2','4']),
        ([variablesSeg, ['f','o','o']], .str ['b','a','r']) ] := by decide +kernel

/-- the hypothesis of `instance_roundtrip` holds for a component that uses typed options, a variable
reference in a typed option, a list option, a memory text, a variable and a `None` -/
example : ([ ([['c','o','m','m','a','n','d'], ['e','x','e','c','u','t','a','b','l','e']], Val.str "bin/run.sh".toList),
             ([['r','e','s','o','u','r','c','e','R','e','q','u','e','s','t'], ['n','u','m','b','e','r','P','r','o','c','e','s','s','e','s']], .str "%(gInt)s".toList),
             ([['r','e','s','o','u','r','c','e','R','e','q','u','e','s','t'], ['m','e','m','o','r','y']], .str "2Gi".toList),
             ([['r','e','f','e','r','e','n','c','e','s']], .words ["stage0.a:ref".toList]),
             ([variablesSeg, "MyVar".toList], .str "x y".toList),
             ([['c','o','m','m','a','n','d'], ['i','n','t','e','r','p','r','e','t','e','r']], .none) ]
           : List (Path × Val)).all (pairOk dumpTable parseTable knownKeys) = true := by
  simp -index only [String.toList_ofList]
  decide +kernel

/-! ## Names packed into the syntax of the files (`Model/IniNames.lean`)

For EVERY name — whatever delimiters of the section syntax (`-`, `_`, `.`, digits, `ENV-`, `stage`) it contains. -/
section Names
open St4sd.IniNames

private theorem startsWith_append (p x : S) : startsWith (p ++ x) p = true := by
  simp [startsWith]

/-- An environment `n` is written as section `ENV-<N>` and read back as `N`: the reader returns exactly the
upper-cased name, so up to letter case (environment names are case-insensitive; the format stores them
upper-cased) the loaded name is the written one — also when `n` itself contains `-`, starts with `ENV-`
or is a reserved word. -/
theorem section_name_roundtrip (n : S) :
    envName (envSection n) = some (upper n) ∧ (envName (envSection n)).map lower = some (lower n) := by
  have hu : upper (envSection n) = envPrefix ++ upper n := by
    rw [envSection, upper_append, upper_idem]; rfl
  have hv : virtualEnvs.contains (envPrefix ++ upper n) = false := by
    simp only [virtualEnvs, List.contains_cons, List.contains_nil, Bool.or_false, Bool.or_eq_false_iff,
      beq_eq_false_iff_ne, ne_eq]
    constructor <;> (intro h; simp [envPrefix, sandboxName, environmentName] at h)
  have h1 : envName (envSection n) = some (upper n) := by
    unfold envName
    simp only [hu, hv, startsWith_append]
    simp [envSection, envPrefix]
  exact ⟨h1, by rw [h1]; simp [lower_upper]⟩

/-- two environments whose names differ by more than letter case are written to different sections -/
theorem env_sections_distinct (a b : S) (h : upper a ≠ upper b) : envSection a ≠ envSection b := by
  intro e
  exact h (List.append_cancel_left e)

/-- `int(text[5:])` of a five-letter word followed by the digits of `i` -/
private theorem index_after_word (w : S) (hw : w.length = 5) (i : Nat) :
    digitsToNat? ((w ++ natToDigits i).drop 5) = some i := by
  rw [← hw, List.drop_left]
  exact St4sd.Ini.digitsToNat_natToDigits i

/-- `STAGE%d` sections of `status.conf` come back as the same stage index, for every number of digits. -/
theorem stage_section_roundtrip (i : Nat) : stageIndex (stageSection i) = some i := by
  unfold stageIndex stageSection
  rw [startsWith_append, if_pos rfl]
  exact index_after_word stageUpper rfl i

private theorem stageWord_index (i : Nat) : stageWordIndex (stageWord i) = some i := by
  unfold stageWordIndex stageWord
  rw [show lower (stageLower ++ natToDigits i) = stageLower ++ lower (natToDigits i) from List.map_append,
    startsWith_append, if_pos rfl]
  exact index_after_word stageLower rfl i

private theorem stageWord_chars (i : Nat) (c : Char) (hc : c ∈ stageWord i) : isSpace c = false ∧ c ≠ ',' ∧ c ≠ '.' := by
  unfold stageWord at hc
  rcases List.mem_append.mp hc with h | h
  · simp [stageLower] at h
    rcases h with h | h | h | h | h <;> subst h <;> decide +kernel
  · have := natToDigits_all i c h
    refine ⟨digit_not_space c this, ?_, ?_⟩ <;> (intro e; subst e; simp [isDigit] at this)

private theorem mapOpt_stageWords (l : List Nat) : mapOpt stageWordIndex (l.map stageWord) = some l := by
  induction l with
  | nil => rfl
  | cons i r ih => simp [mapOpt, stageWord_index, ih]

/-- The `stages` list of an output entry (`stage0,stage10,…`) comes back as the same list of indices. -/
theorem output_stages_roundtrip (l : List Nat) : parseOutputStages (outputStages l) = some l := by
  unfold parseOutputStages outputStages
  cases l with
  | nil => rfl
  | cons i r =>
    rw [splitChar_join ',' _ (by simp) (by
      intro p hp
      obtain ⟨j, _, rfl⟩ := List.mem_map.mp hp
      intro hm; exact (stageWord_chars j ',' hm).2.1 rfl)]
    have hs : ((i :: r).map stageWord).map strip = (i :: r).map stageWord := by
      rw [List.map_map]
      apply List.map_congr_left
      intro j _
      exact strip_id _ (fun c hc => (stageWord_chars j c hc).1)
    rw [hs]
    have hf : ((i :: r).map stageWord).filter (fun w => !w.isEmpty) = (i :: r).map stageWord := by
      apply List.filter_eq_self.mpr
      intro w hw
      obtain ⟨j, _, rfl⟩ := List.mem_map.mp hw
      simp [stageWord, stageLower]
    rw [hf]
    exact mapOpt_stageWords (i :: r)

/-- `stage<i>.instance.conf` is recognised as the file of stage `i`, for every number of digits. -/
theorem stage_file_roundtrip (i : Nat) : stageFileIndex (stageFile i) = some i := by
  unfold stageFileIndex stageFile instanceSuffix
  rw [String.toList_ofList, splitChar_append '.' (stageWord i) _ (fun hm => (stageWord_chars i '.' hm).2.2 rfl)]
  exact index_after_word stageLower rfl i

-- non-vacuity / concrete readings
example : envSection "hpc-python".toList = "ENV-HPC-PYTHON".toList ∧
    envName "ENV-HPC-PYTHON".toList = some "HPC-PYTHON".toList := by
  simp -index only [String.toList_ofList]
  decide +kernel
example : envName (envSection "ENV-inner".toList) = some "ENV-INNER".toList := by decide +kernel
example : envName "SANDBOX".toList = some "SANDBOX".toList ∧ envName "Sandbox".toList = some "Sandbox".toList ∧
    envName "other".toList = none := by decide +kernel
example : parseOutputStages " stage2 ,stage10,, Stage3".toList = some [2, 10, 3] := by
  simp -index only [String.toList_ofList]
  decide +kernel
example : stageFileIndex "stage12.instance.conf".toList = some 12 ∧ stageIndex "STAGE101".toList = some 101 := by
  simp -index only [String.toList_ofList]
  decide +kernel

end Names

/-! ## Numbers written as text (`Model/IniFloat.lean`): the status section

A float field of the legacy files is the text `str(value)`; the reader applies `float(text)`.  On the level of
decimal literals (CPython's `float(repr(x)) == x` is the trusted step to floats) the written text is read back
as the SAME literal, whatever the number of fraction digits, with or without exponent. -/
section Numbers
open St4sd.IniFloat St4sd.IniNames

/-- `float(str(x))` has the literal of `x`: for EVERY canonical literal (sign, any number of integer and
fraction digits, optional exponent), the text that `_dump_status` writes for a stage weight is parsed by
`parse_status` to the same literal. -/
theorem status_weight_roundtrip (w : Lit) (h : canonical w = true) : parseWeight (printWeight w) = some w :=
  parseWeight_printWeight w (canonical_wf w h)

/-- two different canonical literals are never written as the same text -/
theorem status_weight_text_injective (a b : Lit) (ha : canonical a = true) (hb : canonical b = true)
    (h : printWeight a = printWeight b) : a = b := by
  have h1 := status_weight_roundtrip a ha
  rw [h, status_weight_roundtrip b hb] at h1
  exact (Option.some.inj h1).symm

/-- One `STAGE<i>` section of `status.conf` (stage weight of any precision, status script with arguments and
references) is read back as the stage that was written. -/
theorem status_stage_roundtrip (st : Stage) (h : stageOk st = true) : parseStage (dumpStage st) = some st := by
  obtain ⟨i, w, e⟩ := st
  unfold stageOk at h
  simp only [Bool.and_eq_true] at h
  obtain ⟨hw, he⟩ := h
  have h1 : stageIndex (dumpStage ⟨i, w, e⟩).1 = some i := stage_section_roundtrip i
  have h2 : readWeight (get kWeight (dumpStage ⟨i, w, e⟩).2) = some w := by
    simp only [dumpStage, get_weight_lines]
    cases w with
    | none => rfl
    | some w =>
      simp only at hw
      simp only [Option.map_some, readWeight, status_weight_roundtrip w hw]
  have h3 : readExe (dumpStage ⟨i, w, e⟩).2 = e := by
    simp only [dumpStage]
    apply readExe_lines
    intro x hx
    subst hx
    simp only [Bool.and_eq_true, Bool.not_eq_true'] at he
    exact he
  simp only [parseStage, h1, h2, h3]

/-- The whole status section: every list of stages (any stage indices, weights of any precision, proper or
improper sums) is read back as the same list. -/
theorem status_section_roundtrip (l : List Stage) (h : ∀ st ∈ l, stageOk st = true) :
    parseStatus (dumpStatus l) = some l := by
  induction l with
  | nil => rfl
  | cons st r ih =>
    have h1 := status_stage_roundtrip st (h st List.mem_cons_self)
    have h2 := ih (fun x hx => h x (List.mem_cons_of_mem _ hx))
    simp only [dumpStatus, List.map_cons, parseStatus, h1]
    simp only [dumpStatus] at h2
    simp only [h2]

private theorem fixed2_wf (w : Lit) (h : wf w = true) : wf (fixed2 w) = true := by
  obtain ⟨hi, hf, he⟩ := wf_parts w h
  unfold wf fixed2
  simp only [Bool.and_eq_true]
  refine ⟨⟨hi, ?_⟩, he⟩
  rw [List.all_eq_true]
  intro c hc
  rcases List.mem_append.mp (List.mem_of_mem_take hc) with h1 | h1
  · cases hfr : w.frac with
    | none => rw [hfr] at h1; simp at h1
    | some d =>
      rw [hfr] at h1
      exact List.all_eq_true.mp (hf d hfr) c h1
  · have : c = '0' := by simpa using h1
    subst this; decide +kernel

/-- A printer with a fixed precision of two fraction digits is NOT a round trip: every canonical literal that
has more than two fraction digits is read back as a different literal. -/
theorem fixed_precision_loses_digits (w : Lit) (h : canonical w = true) (f : S) (hf : w.frac = some f)
    (h2 : 2 < f.length) : parseWeight (printFixed2 w) ≠ some w := by
  have hwf := fixed2_wf w (canonical_wf w h)
  unfold printFixed2
  rw [parseWeight_printWeight _ hwf]
  intro heq
  have := congrArg Lit.frac (Option.some.inj heq)
  simp only [fixed2, hf, Option.getD_some] at this
  have hl := congrArg List.length (Option.some.inj this)
  simp only [List.length_take, List.length_append, List.length_cons, List.length_nil] at hl
  omega

-- non-vacuity: canonical literals of every shape `str()` produces, and a status section with a script
example : (["0.005", "1.0", "0.30000000000000004", "1e-05", "1.5e+300", "-0.0", "3", "100.0", "5e-324",
            "1.7976931348623157e+308", "0.333", "123456789.125"].map fun t =>
    (parseWeight t.toList).map canonical) = List.replicate 12 (some true) := by
  simp -index only [List.map, String.toList_ofList]
  decide +kernel
example : (["0.50", "007.5", "1.0e-05", "1e-5", "12e+20", ".5", "5."].map fun t =>
    (parseWeight t.toList).map canonical) = List.replicate 7 (some false) := by decide +kernel
example : (["", "abc", "1e", "--1", ".", "e5", "1.2.3", "1e+", "0x10", " 1", "1 "].map fun t =>
    parseWeight t.toList) = List.replicate 11 none := by decide +kernel
example : stageOk ⟨10, some ⟨false, ['0'], some ['0', '0', '5'], none⟩,
    some ⟨"bin/status.py".toList, "-v %(gStr)s".toList, ["stage0.a:ref".toList, "data/x.yaml:copy".toList]⟩⟩ = true := by
  simp -index only [String.toList_ofList]
  decide +kernel
example : dumpStage ⟨10, some ⟨false, ['0'], some ['0', '0', '5'], none⟩, none⟩
    = ("STAGE10".toList, [("stage-weight".toList, "0.005".toList)]) := by decide +kernel

end Numbers

end St4sd.C19
