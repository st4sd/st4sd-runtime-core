import St4sd.Model.Confine
/-!
# C18 — invariants of the confinement model and the lemmas that carry them through every operation

`Good dest fs0 st` is the invariant threaded through extraction:

* `Safe dest st.fs`   — every symbolic link located under `dest` has a relative text without `..`
  ("descending"), and every regular file under `dest` is a name of an inode whose first name is under
  `dest` (no hard link from inside to outside);
* `LogUnder dest st.log` — everything created or modified so far lies under `dest`;
* `Frame dest fs0 st.fs` — no location outside `dest` has changed with respect to the initial state `fs0`.

Extraction of vetted members keeps `Good` and, what is more, only READS under `dest`: run on a second state that
looks the same from inside `dest` (`Eqv`) it does the same.  Both facts are one statement per operation
(`Confined`, `descend_conf` … `extractAll_conf`), proved in one pass over the operation's definition.

Deployment has its own invariant `DGood` (links under the target may point anywhere; the guard looks at real
paths).  What a guarded manifest entry can do is enumerated once (`Deployed`, `deployOne_deployed`); the
invariant and "a copy entry never merges" are read off that enumeration.
-/
namespace St4sd.Confine
open St4sd.Str

/-- what a node placed under `dest` must satisfy -/
def NodeOk (dest : Path) : Node → Prop
  | Node.dir => True
  | Node.file ino => dest <:+ ino
  | Node.link a t => a = false ∧ allNames t = true

def Safe (dest : Path) (fs : Fs) : Prop :=
  ∀ p n, dest <:+ p → fs.get p = some n → NodeOk dest n

def LogUnder (dest : Path) (log : List Path) : Prop := ∀ p ∈ log, dest <:+ p

def Frame (dest : Path) (fs0 fs : Fs) : Prop := ∀ q, ¬ dest <:+ q → fs.get q = fs0.get q

structure Good (dest : Path) (fs0 : Fs) (st : St) : Prop where
  safe : Safe dest st.fs
  log : LogUnder dest st.log
  frame : Frame dest fs0 st.fs

def AgreeUnder (d : Path) (fs1 fs2 : Fs) : Prop := ∀ p, d <:+ p → fs1.get p = fs2.get p

theorem agree_refl (d : Path) (fs : Fs) : AgreeUnder d fs fs := fun _ _ => rfl

theorem agree_symm {d : Path} {fs1 fs2 : Fs} (h : AgreeUnder d fs1 fs2) : AgreeUnder d fs2 fs1 :=
  fun p hp => (h p hp).symm

theorem agree_trans {d : Path} {fs1 fs2 fs3 : Fs} (h1 : AgreeUnder d fs1 fs2) (h2 : AgreeUnder d fs2 fs3) :
    AgreeUnder d fs1 fs3 := fun p hp => (h1 p hp).trans (h2 p hp)

/-- two states that look the same from inside `d` -/
structure Eqv (d : Path) (st1 st2 : St) : Prop where
  log : st1.log = st2.log
  agree : AgreeUnder d st1.fs st2.fs

theorem eqv_refl (d : Path) (st : St) : Eqv d st st := ⟨rfl, fun _ _ => rfl⟩

/-! ### locations and components -/

theorem get_put (fs : Fs) (q p : Path) (n : Node) :
    (fs.put q n).get p = if q = p then some n else fs.get p := rfl

theorem under_iff {dest p : Path} : under dest p = true ↔ dest <:+ p := List.isSuffixOf_iff_suffix

theorem under_cons {dest cur : Path} (s : S) (h : dest <:+ cur) : dest <:+ s :: cur :=
  h.trans (List.suffix_cons s cur)

theorem not_allNames_up {r : List Seg} : ¬ allNames (Seg.up :: r) = true := Bool.false_ne_true

theorem allNames_append {a b : List Seg} : allNames (a ++ b) = true ↔ allNames a = true ∧ allNames b = true := by
  simp [allNames]

theorem splitLastSeg_eq {l parents : List Seg} {x : Seg} (h : splitLastSeg l = some (parents, x)) :
    l = parents ++ [x] := by
  fun_induction splitLastSeg l generalizing parents with
  | case1 => cases h
  | case2 => cases h; rfl
  | case3 _ _ _ _ => cases h
  | case4 a b r i l hs ih => cases h; rw [ih hs]; rfl

theorem allNames_of_splitLast {l parents : List Seg} {x : Seg} (h : splitLastSeg l = some (parents, x))
    (hn : allNames l = true) : allNames parents = true ∧ ∃ s, x = Seg.name s := by
  rw [splitLastSeg_eq h] at hn
  obtain ⟨hp, hx⟩ := allNames_append.mp hn
  refine ⟨hp, ?_⟩
  cases x with
  | up => exact absurd hx not_allNames_up
  | name s => exact ⟨s, rfl⟩

/-! ### the invariant under a logged write -/

theorem good_init {dest : Path} {fs : Fs} (h : Safe dest fs) : Good dest fs ⟨fs, []⟩ :=
  ⟨h, nofun, fun _ _ => rfl⟩

theorem frame_put {dest : Path} {fs0 fs : Fs} (h : Frame dest fs0 fs) {q : Path} (hq : dest <:+ q) (n : Node) :
    Frame dest fs0 (fs.put q n) := by
  intro p hp
  rw [get_put, if_neg (fun e : q = p => hp (e ▸ hq))]
  exact h p hp

theorem good_put {dest : Path} {fs0 : Fs} {st : St} (h : Good dest fs0 st) {q : Path} {n : Node}
    (hq : dest <:+ q) (hn : NodeOk dest n) :
    Good dest fs0 { fs := st.fs.put q n, log := q :: st.log } := by
  refine ⟨?_, List.forall_mem_cons.mpr ⟨hq, h.log⟩, frame_put h.frame hq n⟩
  intro p m hp hget
  rw [get_put] at hget
  split at hget
  · cases hget; exact hn
  · exact h.safe p m hp hget

theorem good_log {dest : Path} {fs0 : Fs} {st : St} (h : Good dest fs0 st) {q : Path} (hq : dest <:+ q) :
    Good dest fs0 { st with log := q :: st.log } :=
  ⟨h.safe, List.forall_mem_cons.mpr ⟨hq, h.log⟩, h.frame⟩

theorem eqv_put {d : Path} {st1 st2 : St} (h : Eqv d st1 st2) (q : Path) (n : Node) :
    Eqv d { fs := st1.fs.put q n, log := q :: st1.log } { fs := st2.fs.put q n, log := q :: st2.log } :=
  ⟨congrArg (q :: ·) h.log, fun p hp => by rw [get_put, get_put, h.agree p hp]⟩

theorem eqv_log {d : Path} {st1 st2 : St} (h : Eqv d st1 st2) (q : Path) :
    Eqv d { st1 with log := q :: st1.log } { st2 with log := q :: st2.log } :=
  ⟨congrArg (q :: ·) h.log, h.agree⟩

/-! ### the kernel walk, `makedirs`, `open(…, "wb")`, one member, an archive -/

theorem resolve_under {dest : Path} {fs : Fs} (hs : Safe dest fs) (f : Nat) (cur : Path) (segs : List Seg) (p : Path)
    (hc : dest <:+ cur) (hn : allNames segs = true) (h : resolve fs f cur segs = some p) : dest <:+ p := by
  fun_induction resolve fs f cur segs with
  | case1 | case5 | case8 => cases h            -- no fuel; a missing entry or a file that is not the last component
  | case2 => cases h; exact hc
  | case3 => exact absurd hn not_allNames_up
  | case4 _ _ s | case7 _ _ s => cases h; exact under_cons s hc   -- last component: missing, or a file
  | case6 _ _ s _ _ ih => exact ih (under_cons s hc) hn h         -- a directory
  | case9 _ _ s _ _ _ hget ih =>                                  -- a link: relative and descending, by `Safe`
    obtain ⟨rfl, ht⟩ := hs _ _ (under_cons s hc) hget
    exact ih hc (allNames_append.mpr ⟨ht, hn⟩) h

theorem resolve_local {d : Path} {fs1 fs2 : Fs} (hs : Safe d fs1) (ha : AgreeUnder d fs1 fs2)
    (f : Nat) (cur : Path) (segs : List Seg) (hc : d <:+ cur) (hn : allNames segs = true) :
    resolve fs1 f cur segs = resolve fs2 f cur segs := by
  fun_induction resolve fs1 f cur segs with
  | case1 | case2 => rfl
  | case3 => exact absurd hn not_allNames_up
  | case4 _ _ s _ hget h | case5 _ _ s _ hget h | case7 _ _ s _ _ hget h | case8 _ _ s _ _ hget h =>
    simp only [resolve, ← ha _ (under_cons s hc), hget, h, if_true, Bool.false_eq_true, if_false]
  | case6 _ _ s _ hget ih =>
    simp only [resolve, ← ha _ (under_cons s hc), hget]
    exact ih (under_cons s hc) hn
  | case9 _ _ s _ _ _ hget ih =>
    obtain ⟨rfl, ht⟩ := hs _ _ (under_cons s hc) hget
    simp only [resolve, ← ha _ (under_cons s hc), hget]
    exact ih hc (allNames_append.mpr ⟨ht, hn⟩)

theorem isDir_agree {d : Path} {fs1 fs2 : Fs} (h : AgreeUnder d fs1 fs2) {p : Path} (hp : d <:+ p) :
    fs1.isDir p = fs2.isDir p := by
  simp only [Fs.isDir, h p hp]

/-- the two runs of an operation, on a state satisfying the invariant and on one that looks the same from inside
`d`: the first keeps the invariant, the second still looks the same and answers the same -/
structure Confined {α : Type} (d : Path) (fs0 : Fs) (r1 r2 : St × α) : Prop where
  good : Good d fs0 r1.1
  eqv : Eqv d r1.1 r2.1
  res : r1.2 = r2.2

variable {α : Type} {d : Path} {fs0 : Fs} {st1 st2 : St}

theorem Confined.split {r1 r2 : St × α} (h : Confined d fs0 r1 r2) :
    ∃ sa sb x, r1 = (sa, x) ∧ r2 = (sb, x) ∧ Good d fs0 sa ∧ Eqv d sa sb :=
  ⟨r1.1, r2.1, r1.2, rfl, by rw [h.res], h.good, h.eqv⟩

theorem conf_same (hg : Good d fs0 st1) (he : Eqv d st1 st2) (x : α) : Confined d fs0 (st1, x) (st2, x) :=
  ⟨hg, he, rfl⟩

theorem conf_put (hg : Good d fs0 st1) (he : Eqv d st1 st2) {q : Path} {n : Node} (hq : d <:+ q) (hn : NodeOk d n)
    (x : α) : Confined d fs0 (⟨st1.fs.put q n, q :: st1.log⟩, x) (⟨st2.fs.put q n, q :: st2.log⟩, x) :=
  ⟨good_put hg hq hn, eqv_put he q n, rfl⟩

theorem conf_log (hg : Good d fs0 st1) (he : Eqv d st1 st2) {q : Path} (hq : d <:+ q) (x : α) :
    Confined d fs0 ({ st1 with log := q :: st1.log }, x) ({ st2 with log := q :: st2.log }, x) :=
  ⟨good_log hg hq, eqv_log he q, rfl⟩

/-- `descend` (makedirs + walk) along names, started under `d`: keeps the invariant, ends under `d`, and does the same
on a state that looks the same from inside `d`.  (Both runs are unfolded one step; every read of the second is one of
the first.) -/
theorem descend_conf (f : Nat) (st1 st2 : St) (cur : Path) (segs : List Seg)
    (hg : Good d fs0 st1) (he : Eqv d st1 st2) (hc : d <:+ cur) (hn : allNames segs = true) :
    Confined d fs0 (descend f st1 cur segs) (descend f st2 cur segs) ∧
    ∀ p, (descend f st1 cur segs).2 = some p → d <:+ p := by
  induction f generalizing st1 st2 cur segs with
  | zero => exact ⟨conf_same hg he _, nofun⟩
  | succ f ih =>
    cases segs with
    | nil => exact ⟨conf_same hg he _, fun p h => by cases h; exact hc⟩
    | cons x r =>
      cases x with
      | up => exact absurd hn not_allNames_up
      | name s =>
        have hsc := under_cons s hc
        simp only [descend, ← he.agree _ hsc]
        cases hget : st1.fs.get (s :: cur) with
        | none => exact ih _ _ _ _ (good_put hg hsc trivial) (eqv_put he _ _) hsc hn      -- `mkdir`
        | some n =>
          cases n with
          | dir => exact ih _ _ _ _ hg he hsc hn
          | file => exact ⟨conf_same hg he _, nofun⟩
          | link a t =>
            obtain ⟨rfl, ht⟩ := hg.safe _ _ hsc hget
            simp only [Bool.false_eq_true, if_false, ← resolve_local hg.safe he.agree _ _ _ hc ht]
            cases hres : resolve st1.fs fuel0 cur t with
            | none => exact ⟨conf_same hg he _, nofun⟩
            | some q =>
              have hq := resolve_under hg.safe _ _ _ _ hc ht hres
              simp only [← isDir_agree he.agree hq]
              cases st1.fs.isDir q with
              | true => exact ih _ _ _ _ hg he hq hn
              | false => exact ⟨conf_same hg he _, nofun⟩

/-- `open(…, "wb")` below a directory under `d` -/
theorem writeFile_conf {par : Path} (s : S)
    (hg : Good d fs0 st1) (he : Eqv d st1 st2) (hp : d <:+ par) :
    Confined d fs0 (writeFile st1 par s) (writeFile st2 par s) := by
  unfold writeFile
  rw [← resolve_local hg.safe he.agree fuel0 par [Seg.name s] hp rfl]
  cases hres : resolve st1.fs fuel0 par [Seg.name s] with
  | none => exact conf_same hg he _
  | some p =>
    have hpu := resolve_under hg.safe _ _ _ _ hp rfl hres
    simp only [← he.agree p hpu]
    cases p.isEmpty with
    | true => exact conf_same hg he _
    | false =>
      cases hget : st1.fs.get p with
      | none => exact conf_put hg he hpu (n := Node.file p) hpu _
      | some n =>
        cases n with
        | file ino => exact conf_log (good_log hg (hg.safe _ _ hpu hget)) (eqv_log he _) hpu _
        | _ => exact conf_same hg he _

theorem followsToExisting_local {d : Path} {fs1 fs2 : Fs} (hs : Safe d fs1) (ha : AgreeUnder d fs1 fs2)
    {tp : Path} (ts : S) (htp : d <:+ tp) : followsToExisting fs1 tp ts = followsToExisting fs2 tp ts := by
  unfold followsToExisting
  rw [← resolve_local hs ha fuel0 tp [Seg.name ts] htp rfl]
  cases hres : resolve fs1 fuel0 tp [Seg.name ts] with
  | none => rfl
  | some q => simp only [ha q (resolve_under hs _ _ _ _ htp rfl hres)]

/-- a member whose name is relative without `..` and whose link target (if any) is descending -/
def MemberRel (m : Member) : Prop :=
  m.name.abs = false ∧ allNames m.name.segs = true ∧
  match m with
  | Member.sym _ t => t.abs = false ∧ allNames t.segs = true
  | Member.hard _ t => t.abs = false ∧ allNames t.segs = true
  | _ => True

theorem memberRel_of_ok {dest : Path} {m : Member} (h : memberOk dest m = true) : MemberRel (relativize dest m) := by
  cases m <;> simp [memberOk, descending] at h <;> simp [MemberRel, relativize, Member.name, h]

theorem memberRel_of_check {dest : Path} {ms : List Member} (hc : checkFixed dest ms = true) :
    ∀ m ∈ ms.map (relativize dest), MemberRel m := by
  intro m hm
  obtain ⟨m0, hm0, rfl⟩ := List.mem_map.mp hm
  exact memberRel_of_ok (List.all_eq_true.mp hc m0 hm0)

theorem extractOne_conf {m : Member}
    (hg : Good d fs0 st1) (he : Eqv d st1 st2) (hm : MemberRel m) :
    Confined d fs0 (extractOne d st1 m) (extractOne d st2 m) := by
  obtain ⟨habs, hnames, hlink⟩ := hm
  have hd : d <:+ d := List.suffix_refl d
  unfold extractOne
  dsimp only
  cases hsplit : splitLastSeg m.name.segs with
  | none => cases m <;> exact conf_same hg he _
  | some pr =>
    obtain ⟨parents, l⟩ := pr
    obtain ⟨hpar, s, rfl⟩ := allNames_of_splitLast hsplit hnames
    simp only [start, habs, Bool.false_eq_true, if_false]
    obtain ⟨hdesc, hou⟩ := descend_conf fuel0 st1 st2 d parents hg he hd hpar
    obtain ⟨sa, sb, o, h1, h2, hg1, he1⟩ := hdesc.split
    rw [h1] at hou
    rw [h1, h2]
    cases o with
    | none => exact conf_same hg1 he1 _
    | some par =>
      have hparu : d <:+ par := hou par rfl
      have hsp : d <:+ s :: par := under_cons s hparu
      cases m with
      | file n => exact writeFile_conf s hg1 he1 hparu
      | dir n =>
        simp only [← he1.agree _ hsp, ← resolve_local hg1.safe he1.agree fuel0 par [Seg.name s] hparu rfl]
        cases sa.fs.get (s :: par) with
        | none => exact conf_put hg1 he1 hsp (n := Node.dir) trivial _
        | some nd =>
          cases hres : resolve sa.fs fuel0 par [Seg.name s] with
          | none => exact conf_same hg1 he1 _
          | some p => exact conf_log hg1 he1 (resolve_under hg1.safe _ _ _ _ hparu rfl hres) _
      | sym n t =>
        have hput := conf_put hg1 he1 hsp (n := Node.link t.abs t.segs) hlink (none : Option Err)
        simp only [← he1.agree _ hsp]
        cases sa.fs.get (s :: par) with
        | none => exact hput
        | some nd =>
          cases nd with
          | dir => exact conf_same hg1 he1 _
          | _ => exact hput
      | hard n t =>
        obtain ⟨htabs, htn⟩ := hlink
        simp only [htabs, Bool.false_eq_true, if_false]
        cases hts : splitLastSeg t.segs with
        | none => exact conf_same hg1 he1 _
        | some tpr =>
          obtain ⟨tparents, tl⟩ := tpr
          obtain ⟨htpar, ts, rfl⟩ := allNames_of_splitLast hts htn
          dsimp only
          simp only [← resolve_local hg1.safe he1.agree fuel0 d tparents hd htpar]
          cases hres : resolve sa.fs fuel0 d tparents with
          | none => exact conf_same hg1 he1 _
          | some tp =>
            have htp : d <:+ tp := resolve_under hg1.safe _ _ _ _ hd htpar hres
            simp only [← he1.agree _ (under_cons ts htp), ← he1.agree _ hsp,
              ← followsToExisting_local hg1.safe he1.agree ts htp]
            cases hget : sa.fs.get (ts :: tp) with
            | none => exact conf_same hg1 he1 _
            | some nd =>
              have hput := conf_put hg1 he1 hsp (hg1.safe _ _ (under_cons ts htp) hget) (none : Option Err)
              cases nd with
              | dir => exact conf_same hg1 he1 _
              | file ino =>
                cases (sa.fs.get (s :: par)).isSome with
                | true => exact conf_same hg1 he1 _
                | false => exact hput
              | link a lt =>
                cases followsToExisting sa.fs tp ts with
                | false => exact conf_same hg1 he1 _
                | true =>
                  cases (sa.fs.get (s :: par)).isSome with
                  | true => exact conf_same hg1 he1 _
                  | false => exact hput

theorem extractAll_conf : ∀ (ms : List Member) (st1 st2 : St), Good d fs0 st1 → Eqv d st1 st2 →
    (∀ m ∈ ms, MemberRel m) → Confined d fs0 (extractAll d st1 ms) (extractAll d st2 ms)
  | [], _, _, hg, he, _ => conf_same hg he _
  | m :: ms, st1, st2, hg, he, hm => by
    obtain ⟨sa, sb, e, h1, h2, hg1, he1⟩ := (extractOne_conf (st2 := st2) hg he (hm m (List.mem_cons_self ..))).split
    unfold extractAll
    rw [h1, h2]
    cases e with
    | none => exact extractAll_conf ms sa sb hg1 he1 (fun m' h => hm m' (List.mem_cons_of_mem _ h))
    | some x => exact conf_same hg1 he1 _

theorem extractOne_good {st : St} {m : Member} (hg : Good d fs0 st) (hm : MemberRel m) :
    Good d fs0 (extractOne d st m).1 := (extractOne_conf hg (eqv_refl d st) hm).good

theorem extractAll_good {st : St} {ms : List Member} (hg : Good d fs0 st) (hm : ∀ m ∈ ms, MemberRel m) :
    Good d fs0 (extractAll d st ms).1 := (extractAll_conf ms st st hg (eqv_refl d st) hm).good

theorem stageExtractFixed_good {st : St} (hg : Good d fs0 st) (ms : List Member) :
    Good d fs0 (stageExtractFixed d st ms).1 := by
  unfold stageExtractFixed
  split
  · next hc => exact extractAll_good hg (memberRel_of_check hc)
  · exact hg

/-! ## manifest deployment -/

/-- invariant of deployment into `target`: log and frame as above; `target` and its ancestors exist;
regular files under `target` have no name outside it -/
structure DGood (target : Path) (fs0 : Fs) (st : St) : Prop where
  log : LogUnder target st.log
  frame : Frame target fs0 st.fs
  anc : ∀ q, q <:+ target → q ≠ [] → st.fs.get q ≠ none
  files : ∀ p ino, target <:+ p → st.fs.get p = some (Node.file ino) → target <:+ ino

variable {target : Path} {st : St}

theorem dgood_put (h : DGood target fs0 st) {q : Path} {n : Node}
    (hq : target <:+ q) (hn : ∀ ino, n = Node.file ino → target <:+ ino) :
    DGood target fs0 { fs := st.fs.put q n, log := q :: st.log } := by
  refine ⟨List.forall_mem_cons.mpr ⟨hq, h.log⟩, frame_put h.frame hq n, ?_, ?_⟩
  · intro p hp hne
    show (if q = p then some n else st.fs.get p) ≠ none
    split
    · nofun
    · exact h.anc p hp hne
  · intro p ino hp hget
    rw [get_put] at hget
    split at hget
    · exact hn ino (Option.some.inj hget)
    · exact h.files p ino hp hget

theorem dgood_log (h : DGood target fs0 st) {q : Path} (hq : target <:+ q) :
    DGood target fs0 { st with log := q :: st.log } :=
  ⟨List.forall_mem_cons.mpr ⟨hq, h.log⟩, h.frame, h.anc, h.files⟩

/-- `shutil.copytree` to the destination `par/s`, which must not exist (the content is abstracted to one file `f`):
the last step of `stageCopy` for a directory and of a copy entry in `deployOne`, `deployOneWith` -/
def copyTree (st : St) (par : Path) (s : S) : St × Option Err :=
  if (st.fs.get (s :: par)).isSome then (st, some Err.os)
  else ({ fs := (st.fs.put (s :: par) Node.dir).put (['f'] :: s :: par) (Node.file (['f'] :: s :: par)),
          log := (['f'] :: s :: par) :: (s :: par) :: st.log }, none)

theorem copyTree_good {dest : Path} (hg : Good dest fs0 st) {par : Path} (hp : dest <:+ par) (s : S) :
    Good dest fs0 (copyTree st par s).1 := by
  have hf := under_cons ['f'] (under_cons s hp)
  unfold copyTree
  split
  · exact hg
  · exact good_put (good_put hg (under_cons s hp) (n := Node.dir) trivial) hf (n := Node.file _) hf

theorem copyTree_dgood (hg : DGood target fs0 st) {par : Path} (hp : target <:+ par) (s : S) :
    DGood target fs0 (copyTree st par s).1 := by
  have hf := under_cons ['f'] (under_cons s hp)
  unfold copyTree
  split
  · exact hg
  · exact dgood_put (dgood_put hg (under_cons s hp) (n := Node.dir) nofun) hf (fun _ h => Node.file.inj h ▸ hf)

theorem copyTree_fresh {st' : St} {par : Path} {s : S} (h : copyTree st par s = (st', none)) :
    st.fs.get (s :: par) = none ∧ st'.fs.get (s :: par) = some Node.dir ∧ (s :: par) ∈ st'.log := by
  unfold copyTree at h
  split at h
  · cases h
  · next hfree =>
    cases h
    refine ⟨by simpa using hfree, ?_, by simp⟩
    simp [get_put]

theorem walk_spec {fs : Fs} (f : Nat) (cur : Path) (segs : List Seg) (base : Path) (rest : List Seg) (b : Bool)
    (hn : allNames segs = true) (h : walk fs f cur segs = some (base, rest, b)) :
    allNames rest = true ∧ (b = false → ∀ s r, rest = Seg.name s :: r → fs.get (s :: base) = none) := by
  fun_induction walk fs f cur segs with
  | case1 | case7 => cases h
  | case2 => cases h; exact ⟨rfl, nofun⟩
  | case3 => exact absurd hn not_allNames_up
  | case4 _ _ _ _ hget => cases h; exact ⟨hn, fun _ _ _ e => by cases e; exact hget⟩
  | case5 _ _ _ _ _ ih | case8 _ _ _ _ _ _ _ _ _ _ ih => exact ih hn h
  | case6 | case9 => cases h; exact ⟨hn, nofun⟩

theorem extend_suffix (cur : Path) (r : List Seg) (hn : allNames r = true) : cur <:+ extend cur r := by
  fun_induction extend cur r with
  | case1 => exact List.suffix_refl _
  | case2 => exact absurd hn not_allNames_up
  | case3 cur s _ ih => exact (List.suffix_cons s cur).trans (ih hn)

theorem mkChain_good (st : St) (cur : Path) (rest : List Seg) (hn : allNames rest = true)
    (hg : DGood target fs0 st) (hc : target <:+ cur) :
    DGood target fs0 (mkChain st cur rest).1 ∧ target <:+ (mkChain st cur rest).2 := by
  fun_induction mkChain st cur rest with
  | case1 => exact ⟨hg, hc⟩
  | case2 => exact absurd hn not_allNames_up
  | case3 _ _ s _ _ ih => exact ih hn hg (under_cons s hc)
  | case4 _ _ s _ _ ih => exact ih hn (dgood_put hg (under_cons s hc) nofun) (under_cons s hc)

theorem mkChain_get_none (st : St) (cur : Path) (r : List Seg) (q : Path)
    (hn : (mkChain st cur r).1.fs.get q = none) : st.fs.get q = none := by
  fun_induction mkChain st cur r with
  | case1 => exact hn
  | case2 _ _ _ ih | case3 _ _ _ _ _ ih => exact ih hn
  | case4 _ _ s _ _ ih =>
    have := ih hn
    rw [get_put] at this
    split at this
    · cases this
    · exact this

/-- the heart of the deployment guard: the walk stopped at the first missing component of `rest` below `base`; if the
real parent `extend base rest` is under `target`, whose ancestors all exist, then already `base` is under `target`
(otherwise `base/first` would be one of those ancestors), and so is the whole chain `os.makedirs` creates -/
theorem mkChain_guarded (hg : DGood target fs0 st) {base : Path} {rest : List Seg} (hn : allNames rest = true)
    (hfirst : ∀ s r, rest = Seg.name s :: r → st.fs.get (s :: base) = none) (hu : target <:+ extend base rest) :
    DGood target fs0 (mkChain st base rest).1 ∧ target <:+ (mkChain st base rest).2 := by
  cases rest with
  | nil => exact ⟨hg, hu⟩
  | cons x r =>
    cases x with
    | up => exact absurd hn not_allNames_up
    | name s =>
      have hmiss := hfirst s r rfl
      have hs : target <:+ s :: base := by
        rcases List.suffix_or_suffix_of_suffix hu (extend_suffix (s :: base) r hn) with h | h
        · exact h
        · exact absurd hmiss (hg.anc _ h (List.cons_ne_nil _ _))
      simp only [mkChain, hmiss, Option.isSome_none, Bool.false_eq_true, if_false]
      exact mkChain_good _ _ r hn (dgood_put hg hs nofun) hs

/-- what `deployOne true` can answer: an error before anything is touched; `copytree` below the real parent
`extend base rest`, which the guard found under `target`; a link made in an existing directory under `target` -/
inductive Deployed (target : Path) (st : St) (e : Entry) : St × Option Err → Prop
  | error (x : Err) : Deployed target st e (st, some x)
  | copy (parents : List Seg) (s : S) (base : Path) (rest : List Seg) (hm : e.method = Method.copy)
      (hsplit : splitLastSeg e.key.segs = some (parents, Seg.name s)) (hpar : allNames parents = true)
      (hw : walk st.fs fuel0 target parents = some (base, rest, false)) (hu : target <:+ extend base rest) :
      Deployed target st e (copyTree (mkChain st base rest).1 (mkChain st base rest).2 s)
  | link (s : S) (base : Path) (hm : e.method = Method.link) (hu : target <:+ base) :
      Deployed target st e (⟨st.fs.put (s :: base) (Node.link true e.src), (s :: base) :: st.log⟩, none)

/-- case split on an `if` below a predicate.  (`split` rewrites the whole remaining term at every `if`, which is
slow on definitions as long as `deployOne`.) -/
theorem ite_elim {α : Sort _} {P : α → Prop} {c : Prop} [Decidable c] {a b : α} (ha : c → P a) (hb : ¬ c → P b) :
    P (if c then a else b) := by
  split
  · exact ha ‹_›
  · exact hb ‹_›

theorem ite_dgood {c : Prop} [Decidable c] {a b : St × Option Err} (ha : c → DGood target fs0 a.1)
    (hb : ¬ c → DGood target fs0 b.1) : DGood target fs0 (if c then a else b).1 :=
  ite_elim (P := fun r : St × Option Err => DGood target fs0 r.1) ha hb

theorem deployOne_deployed (target : Path) (st : St) (e : Entry) :
    Deployed target st e (deployOne true target st e) := by
  unfold deployOne
  refine ite_elim (fun _ => .error _) fun _ => ite_elim (fun _ => .error _) fun hnames => ?_
  split
  · next parents s hsplit =>
    have hpar := (allNames_of_splitLast hsplit (by simpa using hnames)).1
    split
    · exact .error _
    next base rest blocked hw =>
    refine ite_elim (fun _ => .error _) fun hguard => ite_elim (fun _ => .error _) fun hb => ?_
    have hu : target <:+ extend base rest := under_iff.mp (by simpa using hguard)
    obtain rfl : blocked = false := by simpa using hb
    split
    · next hm => exact .copy parents s base rest hm hsplit hpar hw hu
    · next hm =>
      refine ite_elim (fun _ => .error _) fun hre => ite_elim (fun _ => .error _) fun _ => ?_
      obtain rfl : rest = [] := by simpa using hre
      exact .link s base hm hu
  · exact .error _

theorem deployed_good {e : Entry} {r : St × Option Err} (h : Deployed target st e r) (hg : DGood target fs0 st) :
    DGood target fs0 r.1 := by
  cases h with
  | error => exact hg
  | copy parents s base rest _ _ hpar hw hu =>
    obtain ⟨hrest, hfirst⟩ := walk_spec _ _ _ _ _ _ hpar hw
    obtain ⟨hg1, hp⟩ := mkChain_guarded hg hrest (hfirst rfl) hu
    exact copyTree_dgood hg1 hp s
  | link s base _ hu => exact dgood_put hg (under_cons s hu) nofun

theorem deployed_copy_fresh {e : Entry} {st' : St} (h : Deployed target st e (st', none)) (hm : e.method = Method.copy) :
    ∃ par s, st.fs.get (s :: par) = none ∧ st'.fs.get (s :: par) = some Node.dir ∧ (s :: par) ∈ st'.log := by
  generalize hr : (st', (none : Option Err)) = r at h
  cases h with
  | error => cases hr
  | copy _ s base rest =>
    obtain ⟨h1, h2⟩ := copyTree_fresh hr.symm
    exact ⟨_, s, mkChain_get_none _ _ _ _ h1, h2⟩
  | link _ _ hl => rw [hm] at hl; cases hl

theorem deployOne_good (hg : DGood target fs0 st) (e : Entry) : DGood target fs0 (deployOne true target st e).1 :=
  deployed_good (deployOne_deployed target st e) hg

theorem dgood_init {fs : Fs} (hanc : ∀ q, q <:+ target → q ≠ [] → fs.get q ≠ none)
    (hfiles : ∀ p ino, target <:+ p → fs.get p = some (Node.file ino) → target <:+ ino) : DGood target fs ⟨fs, []⟩ :=
  ⟨nofun, fun _ _ => rfl, hanc, hfiles⟩

theorem deployAll_good : ∀ (es : List Entry) (st : St), DGood target fs0 st →
    DGood target fs0 (deployAll true target st es).1
  | [], _, hg => hg
  | e :: es, st, hg => by
    have h1 := deployOne_good hg e
    unfold deployAll
    generalize deployOne true target st e = r at h1 ⊢
    obtain ⟨st1, _ | x⟩ := r
    · exact deployAll_good es st1 h1
    · exact h1

theorem writeAt_good (hg : DGood target fs0 st) {p : Path} (hp : target <:+ p) :
    DGood target fs0 (writeAt st p).1 := by
  unfold writeAt
  split
  · exact hg
  split
  · exact hg
  · exact hg
  · next ino hget => exact dgood_log (dgood_log hg (hg.files p ino hp hget)) hp
  · exact dgood_put hg hp (fun _ h => Node.file.inj h ▸ hp)

theorem confDir_good (hg : DGood target fs0 st) (k : Bool) : DGood target fs0 (confDir target st k).1 := by
  unfold confDir
  exact ite_dgood (fun _ => hg) fun _ => ite_dgood (fun _ => hg) fun _ =>
    dgood_put hg (under_cons confName (List.suffix_refl target)) (n := Node.dir) nofun

theorem confFile_good (hg : DGood target fs0 st) : DGood target fs0 (confFile true target st).1 := by
  unfold confFile
  split
  · exact hg
  next base rest blocked _ =>
  refine ite_dgood (fun _ => hg) fun hguard => ?_
  have hu : target <:+ extend base rest := under_iff.mp (by simpa using hguard)
  refine ite_dgood (fun hre => ?_) fun _ => ite_dgood (fun _ => writeAt_good hg hu) fun _ => hg
  obtain rfl : rest = [] := List.isEmpty_iff.mp hre
  exact writeAt_good hg hu

theorem deployConf_good (hg : DGood target fs0 st) (k : Bool) : DGood target fs0 (deployConf true target st k).1 := by
  have h1 := confDir_good hg k
  unfold deployConf
  generalize confDir target st k = r at h1 ⊢
  obtain ⟨st1, _ | x⟩ := r
  · exact confFile_good h1
  · exact h1

theorem deploy_good (hg : DGood target fs0 st) (es : List Entry) (k : Bool) :
    DGood target fs0 (deploy true target st es k).1 := by
  have h1 := deployAll_good es st hg
  unfold deploy
  generalize deployAll true target st es = r at h1 ⊢
  obtain ⟨st1, _ | x⟩ := r
  · exact deployConf_good h1 k
  · exact h1

theorem loadAndDeploy_good (hg : DGood target fs0 st) (es : List Entry) (k : Bool) :
    DGood target fs0 (loadAndDeploy true target st es k).1 := by
  unfold loadAndDeploy
  rw [if_pos rfl]
  split
  · exact deploy_good hg es k
  · exact hg

/-! ### the textual-normalisation rule for link targets (`checkNormpath`) against the repaired rule -/

theorem normalize_names (abs : Bool) (acc l : List Seg) (h : allNames l = true) :
    normalize abs acc l = acc.reverse ++ l := by
  fun_induction normalize abs acc l with
  | case1 => exact (List.append_nil _).symm
  | case2 acc s r ih => rw [ih h, List.reverse_cons, List.append_assoc]; rfl
  | case3 | case4 | case5 | case6 => exact absurd h not_allNames_up

theorem normConfined_of_names {l : List Seg} (h : allNames l = true) : normConfined l = true := by
  unfold normConfined
  rw [normalize_names false [] l h]
  exact h

theorem allNames_dirSegs {l : List Seg} (h : allNames l = true) : allNames (dirSegs l) = true := by
  unfold dirSegs
  split
  · next hs => exact (allNames_of_splitLast hs h).1
  · rfl

theorem memberOk_eq (dest : Path) (m : Member) :
    memberOk dest m = (memberOkNormpath dest m && linkTargetDescending m) := by
  cases m with
  | file n => simp [memberOk, memberOkNormpath, linkTargetDescending]
  | dir n => simp [memberOk, memberOkNormpath, linkTargetDescending]
  | sym n t =>
    simp only [memberOk, memberOkNormpath, linkTargetDescending]
    cases hd : descending t with
    | false => simp
    | true =>
      have hd' := hd
      simp only [descending, Bool.and_eq_true, Bool.not_eq_true'] at hd'
      cases hb : allNames (below dest n) with
      | false => simp
      | true =>
        have := normConfined_of_names (allNames_append.mpr ⟨allNames_dirSegs hb, hd'.2⟩)
        simp [this, hd'.1]
  | hard n t =>
    simp only [memberOk, memberOkNormpath, linkTargetDescending]
    cases hd : descending t with
    | false => simp
    | true =>
      have hd' := hd
      simp only [descending, Bool.and_eq_true, Bool.not_eq_true'] at hd'
      simp [normConfined_of_names hd'.2, hd'.1]

end St4sd.Confine
