import St4sd.Model.ArgSubst
/-!
# C10 — lemmas about the value of a reference: `rstrip('\n')` and the instance files of a `:loopoutput`
-/
namespace St4sd.C10
open St4sd.Str St4sd.ArgSubst

theorem dropTrailingNewlines_cons (a : Char) (s : S) :
    dropTrailingNewlines (a :: s) =
      if dropTrailingNewlines s = [] ∧ a = '\n' then [] else a :: dropTrailingNewlines s := by
  simp only [dropTrailingNewlines]
  cases dropTrailingNewlines s <;> simp

theorem dropTrailingNewlines_spec (c : S) :
    (∃ n, c = dropTrailingNewlines c ++ List.replicate n '\n') ∧ (dropTrailingNewlines c).getLast? ≠ some '\n' := by
  induction c with
  | nil => exact ⟨⟨0, rfl⟩, by simp [dropTrailingNewlines]⟩
  | cons a s ih =>
    obtain ⟨⟨n, hn⟩, hl⟩ := ih
    rw [dropTrailingNewlines_cons]
    split
    · next h =>
      rw [h.1] at hn
      exact ⟨⟨n + 1, by rw [h.2, hn]; rfl⟩, by simp⟩
    · next h =>
      refine ⟨⟨n, by rw [List.cons_append, ← hn]⟩, ?_⟩
      cases hd : dropTrailingNewlines s with
      | nil => simpa [hd] using h
      | cons d r => rwa [List.getLast?_cons_cons, ← hd]

theorem dropTrailingNewlines_append (v : S) (n : Nat) (hv : v.getLast? ≠ some '\n') :
    dropTrailingNewlines (v ++ List.replicate n '\n') = v := by
  induction v with
  | nil =>
    induction n with
    | zero => rfl
    | succ n ih => simpa [List.replicate_succ, dropTrailingNewlines_cons] using ih
  | cons a w ih =>
    have hw : w.getLast? ≠ some '\n' := by
      cases w with
      | nil => simp
      | cons b w' => rwa [List.getLast?_cons_cons] at hv
    rw [List.cons_append, dropTrailingNewlines_cons, ih hw, if_neg]
    rintro ⟨rfl, rfl⟩
    simp at hv

theorem present_map_some (cs : List S) : present (cs.map some) = cs := by
  induction cs with
  | nil => rfl
  | cons c cs ih => simpa [present] using ih

theorem countMissing_map_some (cs : List S) : countMissing (cs.map some) = 0 := by
  induction cs with
  | nil => rfl
  | cons c cs ih => simpa [countMissing] using ih

end St4sd.C10
