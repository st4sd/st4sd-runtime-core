import St4sd.Lemmas.C13Kill
/-!
Witnesses for C13 (machine-checked by `decide`; the harness replays the same scripts on the real engine).

* the code before the repairs `guardNone` and `killOnSuicidePoll` never stops in two situations (one each);
* the code that exists (repaired or not) stops without having looked at the final producer output in two
  narrow situations excluded by the hypotheses of `stop_implies_final_output_seen_partial`, and, by the property's
  exemption, when it never was able to consume;
* the code before the repair `killAfterLaunch` never stops when the kill delay expires between the `_suicide` check of
  a poll and the launch of a task that never ends by itself.
-/
namespace St4sd.C13.Witness
open St4sd.Repeat

private def it0 : Iter := { gap := [], s0 := [], s1 := [], s2 := [], s3 := [], s4 := [], out := .ok }

def cfgOld : Cfg :=
  { retries := 3, dieAfter := false, prods := [⟨0, true, false⟩], pre := [],
    guardNone := false, killOnSuicidePoll := false, killAfterLaunch := false }

/-- engine.py 1890 before the repair: the task generator raises on every launch after the producers
finished (8 polls): `my_process.returncode` on `None`, the action dies before the bookkeeping, no retry is
used up, the cancel event is never set — although `repeatRetries + 1 = 4`. -/
theorem old_launch_raises_never_stops :
    let s := (runScript cfgOld (init cfgOld)
      ([{ it0 with s0 := [.out 0] }, { it0 with gap := [.fin], out := .raised }] ++
        List.replicate 7 { it0 with out := .raised })).1.getLast?.getD (init cfgOld)
    s.cancel = false ∧ s.retries = 3 ∧ s.pollsFin = 8 ∧ s.books = 0 ∧ s.execLog.length = 9 := by decide +kernel

def cfgOldDie : Cfg := { cfgOld with prods := [⟨0, true, true⟩], dieAfter := true, guardNone := true }

/-- before the repair: the kill-delay timer fires between two polls after one launch: `suicide()` only
signals the finished process, every later poll is a no-op, the engine never stops. -/
theorem old_kill_delay_between_polls_never_stops :
    let s := (runScript cfgOldDie (init cfgOldDie)
      ([{ it0 with s0 := [.out 0] }, { it0 with gap := [.fin] }, { it0 with gap := [.die] }] ++
        List.replicate 6 it0)).1.getLast?.getD (init cfgOldDie)
    s.suicide = true ∧ s.cancel = false ∧ alive s = true ∧ s.pollsFin = 8 ∧ s.pc = .idle := by decide +kernel

def cfgZero : Cfg :=
  { retries := 0, dieAfter := false, prods := [⟨0, true, true⟩], pre := [],
    guardNone := true, killOnSuicidePoll := true, killAfterLaunch := true }

/-- `repeatRetries: 0`: new output and the notification land between the output check and the
producers-done sample of a poll: that poll does not launch, finds no retries left and stops; the only launch
began before the final output appeared. -/
theorem zero_retries_race_misses_final_output :
    let s := (runScript cfgZero (init cfgZero)
      [{ it0 with s0 := [.out 0] }, { it0 with s1 := [.out 0, .fin] }, it0]).1.getLast?.getD (init cfgZero)
    s.cause = some .retries ∧ s.consume = true ∧ s.hasOutput = true ∧ s.pc = .stopped ∧
    s.execLog.all (fun e => decide (e.launch < s.lastOutput)) = true ∧ s.execLog.length = 1 := by decide +kernel

def cfgPre : Cfg := { cfgZero with retries := 3, pre := [0] }

/-- producer output exists before `run()` and none appears afterwards; the notification arrives before the
first poll: four polls find no *new* output, the retries are used up before the 20 s override can fire, and
the engine stops without ever launching although it can consume. -/
theorem output_before_run_never_looked_at :
    let s := (runScript cfgPre (init cfgPre)
      ([{ it0 with gap := [.fin] }] ++ List.replicate 4 it0)).1.getLast?.getD (init cfgPre)
    s.cause = some .retries ∧ s.consume = true ∧ s.hasOutput = true ∧ s.pc = .stopped ∧
    s.execLog = [] := by decide +kernel

/-- two same-stage producers: the output of producer 4 (listed first) predates `run()`, producer 9 (listed
last) never writes anything and both finish: although there is producer output the engine is never able to
consume (the `never was able to consume` exemption of the property), launches nothing and stops when its
retries are used up. -/
theorem two_producers_one_silent_never_consumes :
    let cfg := { cfgZero with retries := 1, prods := [⟨4, true, true⟩, ⟨9, true, true⟩], pre := [4] }
    let s := (runScript cfg (init cfg) ([{ it0 with gap := [.fin] }] ++ List.replicate 3 it0)).1.getLast?.getD (init cfg)
    s.cause = some .retries ∧ s.consume = false ∧ s.hasOutput = true ∧ s.pc = .stopped ∧ s.execLog = [] := by
  decide +kernel

/-- the code before the repair `killAfterLaunch`: `kill-after-producers-done-delay` expires between the `_suicide` check at
the start of a poll and the launch of that poll (the engine has launched before, so `suicide()` only signals the OLD,
finished task); the task launched now never ends by itself: nobody kills it, the engine thread waits for ever, the
cancel event is never set - however many further steps the engine thread is given.  Excluded by hypothesis `hw` of
`kill_delay_expiry_stops_partial`; impossible with the repair (`kill_delay_expiry_stops`). -/
def cfgRace : Cfg :=
  { retries := 3, dieAfter := true, prods := [⟨0, true, false⟩], pre := [0], guardNone := true,
    killOnSuicidePoll := true, killAfterLaunch := false }

def histRace : List Op :=
  [.eng .ok, .eng .ok, .eng .ok, .eng .ok, .eng .ok, .eng .ok,      -- one whole poll, a task ran and ended
   .env .fin, .eng .ok, .eng .ok,                                    -- notification; next poll passed the check
   .env .die,                                                        -- the delay expires HERE
   .eng .hang, .eng .hang]                                           -- the poll goes on and launches

theorem kill_delay_expiring_before_launch_leaves_never_ending_task_running (n : Nat) :
    let s := run cfgRace (exec cfgRace histRace) (List.replicate n (.eng .hang))
    (exec cfgRace histRace).suicide = true ∧ (exec cfgRace histRace).prodDone = true ∧
    s.cancel = false ∧ blocked s = true := by
  obtain ⟨hb, hs, hp, hc⟩ : blocked (exec cfgRace histRace) = true ∧ (exec cfgRace histRace).suicide = true ∧
      (exec cfgRace histRace).prodDone = true ∧ (exec cfgRace histRace).cancel = false := by decide +kernel
  obtain ⟨h1, h2, _⟩ := blocked_forever cfgRace .hang n _ hb
  exact ⟨hs, hp, h2.trans hc, h1⟩

end St4sd.C13.Witness
