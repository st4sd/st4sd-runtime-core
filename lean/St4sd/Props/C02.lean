import St4sd.Lemmas.C02Spec
import St4sd.Lemmas.C02Stage
import St4sd.Lemmas.C02Watch
import St4sd.Model.CtrlEngine
/-!
# C02 — Components reach the final state the documented rules prescribe, whatever the event order

Model: `St4sd/Model/Ctrl.lean`.  Invariants: `St4sd/Lemmas/C02Inv.lean` (state), `C02Spec.lean` (agreement with
the rule table), `C02Stage.lean` (stage loop), `C02Watch.lean` (subscriptions, completion hook).

Histories are arbitrary sequences of operations, **including the stage transition `Op.next`**
(the stage loop of `elaunch.Run`: `run()` of the current stage is over, `initialise(next stage)`):
parts A–C therefore speak about multi-stage runs, part E states what is specific to them.
-/
namespace St4sd.C02
open St4sd.Ctrl St4sd.C02L

/-- A. At quiescence every component is in `comp_done` and in a final state: no ordering of the
events (kill included) leaves a component pending forever. -/
theorem quiescent_all_final (wf : Wf) (h : wf.WF) (ops : List Op)
    (hq : quiescent wf (run wf ops) = true) :
    ∀ c, c < wf.n → (run wf ops).done c = true ∧ ((run wf ops).comp c).ctrl.isSome = true :=
  quiescentR_all_final' h (run_inv wf ops) (run_winv wf ops) (quiescentR_of_quiescent hq)

/-- corollary of A: the loop of `Controller.run()` terminates -/
theorem quiescent_stage_done (wf : Wf) (h : wf.WF) (ops : List Op)
    (hq : quiescent wf (run wf ops) = true) : stageDone wf (run wf ops) = true := by
  simp only [stageDone, comps, List.all_eq_true, List.mem_range, Bool.or_eq_true]
  intro c hc
  exact Or.inr (quiescent_all_final wf h ops hq c hc).1

/-- B. In every history (kill included) a final state is either SHUTDOWN or the outcome of the
component's own exit script under the restart policy. -/
theorem final_is_own_or_shutdown (wf : Wf) (ops : List Op) (c : Nat) (f : Fin3) :
    ((run wf ops).comp c).ctrl = some f → f = .shutdown ∨ f = own wf c :=
  ((run_inv wf ops).ci c).b1 f

/-! ## C. agreement with the rule table `spec`

`RepeatSafe wf` (defined in `Lemmas/C02Spec.lean`): every same-stage producer of a repeating component
is `finished` according to `spec`.  Without it the fate of a repeating observer depends on the
schedule (it may start while its producer still runs, and the producer may later end shut-down or
failed): this is a real finding about the Python code, hence the `_partial` suffix. -/

def NoKill (ops : List Op) : Prop := Op.kill ∉ ops

theorem repeatSafe_def (wf : Wf) : RepeatSafe wf ↔
    ∀ c, c < wf.n → (wf.cdef c).isRepeat = true → ∀ p ∈ (wf.cdef c).preds,
      (wf.cdef p).stage = (wf.cdef c).stage → spec wf p = .finished := Iff.rfl

/-- C1. `spec` satisfies the documented rule: shut down iff the shutdown rule fires on the
`spec` states of the producers, otherwise the outcome of the component's own executions. -/
theorem spec_unfold (wf : Wf) (h : wf.WF) (c : Nat) :
    spec wf c = if ruleShutdown wf (spec wf) c then .shutdown else own wf c :=
  spec_unfold' wf h c

/-- C2. Without a kill, as long as no component is FAILED, every final state is the one `spec`
prescribes, in every interleaving.  (`_partial`: needs `RepeatSafe`.) -/
theorem agree_or_failed_partial (wf : Wf) (h : wf.WF) (hr : RepeatSafe wf) (ops : List Op)
    (hk : NoKill ops) :
    (∀ c, ((run wf ops).comp c).ctrl ≠ some .failed) →
      ∀ c f, c < wf.n → ((run wf ops).comp c).ctrl = some f → f = spec wf c := by
  intro hnf c f _ hf
  rcases run_inv2 h hr ops hk with ⟨d, _, _, hd⟩ | ⟨hG, _⟩
  · exact absurd hd (hnf d)
  · exact hG.agree c f hf

/-- C3. If `spec` has no failure then every quiescent state reached without a kill is exactly
`spec`: the final states do not depend on the order of the events. -/
theorem confluent_without_failure_partial (wf : Wf) (h : wf.WF) (hr : RepeatSafe wf)
    (hs : ∀ c, c < wf.n → spec wf c ≠ .failed) (ops : List Op) (hk : NoKill ops)
    (hq : quiescent wf (run wf ops) = true) :
    ∀ c, c < wf.n → ((run wf ops).comp c).ctrl = some (spec wf c) := by
  intro c hc
  rcases run_inv2 h hr ops hk with ⟨d, hd, hd', _⟩ | ⟨hG, _⟩
  · exact absurd hd' (hs d hd)
  · have := (quiescent_all_final wf h ops hq c hc).2
    cases hct : ((run wf ops).comp c).ctrl with
    | none => simp [hct] at this
    | some f => rw [hG.agree c f hct]

/-- C4. If `spec` has a failure (single-stage workflow: `lastStage = 0`, every component in stage 0)
then every quiescent state reached without a kill contains a FAILED component and `run()` raises
`UnexpectedJobFailureError`.  The multi-stage statement is `failure_is_reported_multistage_partial`. -/
theorem failure_is_reported_partial (wf : Wf) (h : wf.WF) (hr : RepeatSafe wf)
    (hf : ∃ c, c < wf.n ∧ spec wf c = .failed) (hst : ∀ c, c < wf.n → (wf.cdef c).stage = 0)
    (hl : wf.lastStage = 0) (ops : List Op) (hk : NoKill ops) (hq : quiescent wf (run wf ops) = true) :
    (∃ c, c < wf.n ∧ ((run wf ops).comp c).ctrl = some .failed) ∧
      verdict wf (run wf ops) = .jobFailure := by
  have hex := (run_inv2 h hr ops hk).failed_of_spec (fun c hc => (quiescent_all_final wf h ops hq c hc).2) hf
  refine ⟨hex, ?_⟩
  obtain ⟨c, hc, hct⟩ := hex
  have := (run_inv wf ops).curLe
  exact verdict_jobFailure hc (by rw [hst c hc]; omega) hct

/-! ## D. non-vacuity of A–C: a concrete workflow and history -/

/-- source 0; replicas 1 (ends `KnownIssue`, which it declares in `shutdownOn`) and 2;
aggregator 3 of the replicas; plain consumer 4 of replica 1 -/
def cdefEx : Nat → CompDef
  | 0 => {}
  | 1 => { preds := [0], isRepl := true, shutdownOn := [.knownIssue], script := [.knownIssue] }
  | 2 => { preds := [0], isRepl := true }
  | 3 => { preds := [1, 2], isAgg := true }
  | 4 => { preds := [1] }
  | _ => {}

def wfEx : Wf := { n := 5, cdef := cdefEx, order := [3, 4, 1, 0, 2] }

def opsEx : List Op :=
  [.sched, .sched, .exit 0, .pm 0, .fin 0, .sched, .exit 1, .pm 1, .fin 1, .exit 2, .pm 2, .fin 2,
   .sched, .exit 3, .pm 3, .fin 3, .fin 4]

theorem wfEx_wf : wfEx.WF :=
  wf_of_check (fun _ => rfl) (by decide +kernel)

theorem wfEx_repeatSafe : RepeatSafe wfEx :=
  .of_no_repeat (by decide)

example : wfEx.WF := wfEx_wf
example : RepeatSafe wfEx := wfEx_repeatSafe
example : NoKill opsEx := by unfold NoKill; decide
example : (List.range 5).map (spec wfEx) = [.finished, .shutdown, .finished, .finished, .shutdown] := by
  decide +kernel
example : ∀ c, c < wfEx.n → spec wfEx c ≠ .failed := by
  decide
example : quiescent wfEx (run wfEx opsEx) = true := by decide +kernel
example : (List.range 5).map (fun c => ((run wfEx opsEx).comp c).ctrl) =
    [some .finished, some .shutdown, some .finished, some .finished, some .shutdown] := by decide +kernel
example : ((run wfEx opsEx).comp 4).ctrl = some .shutdown := by decide +kernel
example : (List.range 5).all (fun c => (run wfEx opsEx).done c) = true := by decide +kernel
example : verdict wfEx (run wfEx opsEx) = .ok := by decide +kernel
/-- the general theorems instantiate on the example -/
example : ∀ c, c < 5 → ((run wfEx opsEx).comp c).ctrl = some (spec wfEx c) :=
  confluent_without_failure_partial wfEx wfEx_wf wfEx_repeatSafe
    (by decide +kernel)
    opsEx (by unfold NoKill; decide +kernel) (by decide +kernel)

/-- a failing variant: replica 2 ends `UnknownIssue`; C4 applies -/
def wfBad : Wf := { wfEx with cdef := fun c => if c = 2 then { preds := [0], isRepl := true, script := [.unknownIssue] } else cdefEx c }

example : spec wfBad 2 = .failed := by decide
example : (List.range 5).map (spec wfBad) = [.finished, .shutdown, .failed, .shutdown, .shutdown] := by
  decide +kernel

def opsBad : List Op :=
  [.sched, .sched, .exit 0, .pm 0, .fin 0, .sched, .exit 2, .pm 2, .fin 2, .exit 1, .fin 3, .fin 4, .fin 1]

theorem wfBad_wf : wfBad.WF :=
  wf_of_check (fun _ => rfl) (by decide +kernel)

theorem wfBad_repeatSafe : RepeatSafe wfBad :=
  .of_no_repeat (by decide)

example : quiescent wfBad (run wfBad opsBad) = true := by decide +kernel
example : (List.range 5).map (fun c => ((run wfBad opsBad).comp c).ctrl) =
    [some .finished, some .shutdown, some .failed, some .shutdown, some .shutdown] := by decide +kernel
example : verdict wfBad (run wfBad opsBad) = .jobFailure := by decide +kernel
/-- C4 instantiates on the failing variant -/
example : (∃ c, c < 5 ∧ ((run wfBad opsBad).comp c).ctrl = some .failed) ∧
    verdict wfBad (run wfBad opsBad) = .jobFailure :=
  failure_is_reported_partial wfBad wfBad_wf wfBad_repeatSafe ⟨2, by decide +kernel, by decide +kernel⟩
    (by decide +kernel)
    rfl opsBad (by unfold NoKill; decide +kernel) (by decide +kernel)


/-! ### `RepeatSafe` cannot be dropped: a repeating observer of a producer that shuts down
ends FINISHED or SHUTDOWN depending on the schedule (no kill, no failure involved) -/

def wfRep : Wf :=
  { n := 2, order := [0, 1],
    cdef := fun c => match c with
      | 0 => { shutdownOn := [.knownIssue], script := [.knownIssue] }
      | 1 => { preds := [0], isRepeat := true }
      | _ => {} }

/-- the observer is launched while the producer still runs -/
def opsRepA : List Op := [.sched, .sched, .exit 0, .pm 0, .fin 0, .exit 1, .pm 1, .fin 1]
/-- the producer ends before the scheduler looks at the observer again -/
def opsRepB : List Op := [.sched, .exit 0, .pm 0, .fin 0, .sched, .fin 1]

example : (List.range 2).map (spec wfRep) = [.shutdown, .shutdown] := by decide
example : quiescent wfRep (run wfRep opsRepA) = true ∧
    (List.range 2).map (fun c => ((run wfRep opsRepA).comp c).ctrl) = [some .shutdown, some .finished] := by
  decide +kernel
example : quiescent wfRep (run wfRep opsRepB) = true ∧
    (List.range 2).map (fun c => ((run wfRep opsRepB).comp c).ctrl) = [some .shutdown, some .shutdown] := by
  decide +kernel

/-! ## E. multi-stage runs

`Op.next` is the stage loop of `elaunch.Run`; `runR` pairs the state with what `run()` reported
for every stage left behind. -/

/-- E1. `Controller.initialise(next stage)` touches no component, `comp_done` or the queue. -/
theorem stage_transition_keeps_components (wf : Wf) (s : St) :
    (step wf s .next).comp = s.comp ∧ (step wf s .next).done = s.done ∧
      (step wf s .next).pending = s.pending := advance_comp wf s

/-- E2. Exactly one final state: once a component is in a final state it stays in that state in
every continuation of the history, stage transitions (and kills) included. -/
theorem final_state_survives_stage_transitions (wf : Wf) (ops ops' : List Op) (c : Nat) (f : Fin3) :
    ((run wf ops).comp c).ctrl = some f → ((run wf (ops ++ ops')).comp c).ctrl = some f :=
  C01L.run_append_keeps wf ops ops' c f

/-- E3. The stage loop never runs past the last stage. -/
theorem cur_le_lastStage (wf : Wf) (ops : List Op) : (run wf ops).cur ≤ wf.lastStage :=
  (run_inv wf ops).curLe

/-- E4. A stage is left behind only when complete: every component of an earlier stage is in a
final state (and stays there by E2). -/
theorem earlier_stages_complete (wf : Wf) (ops : List Op) (c : Nat) (hc : c < wf.n)
    (h : (wf.cdef c).stage < (run wf ops).cur) : ((run wf ops).comp c).ctrl.isSome = true :=
  (runR_sinv wf ops).before c hc h

/-- E5. A FAILED component of a stage that the loop has left behind: `run()` reported that stage
as failed (`UnexpectedJobFailureError`) — in every history, kills included. -/
theorem failed_component_stage_was_reported (wf : Wf) (ops : List Op) (c : Nat) (hc : c < wf.n)
    (h : (wf.cdef c).stage < (run wf ops).cur) (hf : ((run wf ops).comp c).ctrl = some .failed) :
    ((wf.cdef c).stage, Verdict.jobFailure) ∈ (runR wf ops).2 :=
  (runR_sinv wf ops).rep c hc h hf

/-- E6. Conversely a stage is reported as failed only if one of its components is FAILED, and a
stage that was not reported as `ok` is left behind only under `continue-on-error`. -/
theorem reports_sound (wf : Wf) (ops : List Op) :
    ∀ e ∈ (runR wf ops).2, e.1 < (run wf ops).cur ∧ (e.2 = .ok ∨ wf.contOnErr e.1 = true) ∧
      (e.2 = .jobFailure →
        ∃ c, c < wf.n ∧ (wf.cdef c).stage = e.1 ∧ ((run wf ops).comp c).ctrl = some .failed) :=
  fun e he => ⟨(runR_sinv wf ops).lt e he, (runR_sinv wf ops).cont e he, (runR_sinv wf ops).sound e he⟩

/-- E7. Multi-stage version of C4.  If `spec` has a failure then every no-kill history that is over
(quiescent, and the stage loop cannot go on) contains a FAILED component in a stage that was run,
and for every such component the stage containing it was reported as failed: by the `run()` that
ended the loop, or (under `continue-on-error`) by an earlier one. -/
theorem failure_is_reported_multistage_partial (wf : Wf) (h : wf.WF) (hr : RepeatSafe wf)
    (hls : ∀ c, c < wf.n → (wf.cdef c).stage ≤ wf.lastStage)
    (hf : ∃ c, c < wf.n ∧ spec wf c = .failed) (ops : List Op) (hk : NoKill ops)
    (hq : quiescent wf (run wf ops) = true) (hover : canAdvance wf (run wf ops) = false) :
    (∃ c, c < wf.n ∧ ((run wf ops).comp c).ctrl = some .failed ∧
        (wf.cdef c).stage ≤ (run wf ops).cur) ∧
      ∀ c, c < wf.n → ((run wf ops).comp c).ctrl = some .failed →
        (wf.cdef c).stage ≤ (run wf ops).cur →
        ((wf.cdef c).stage = (run wf ops).cur ∧ verdict wf (run wf ops) = .jobFailure) ∨
        ((wf.cdef c).stage, Verdict.jobFailure) ∈ (runR wf ops).2 := by
  have hex := (run_inv2 h hr ops hk).failed_of_spec (fun c hc => (quiescent_all_final wf h ops hq c hc).2) hf
  refine ⟨?_, fun c hc hct hle => ?_⟩
  · obtain ⟨c, hc, hct⟩ := hex
    have hcl := (run_inv wf ops).curLe
    by_cases hlt : (run wf ops).cur < wf.lastStage
    · have hsd := quiescent_stage_done wf h ops hq
      simp only [canAdvance, hsd, hlt, decide_true, Bool.true_and, Bool.or_eq_false_iff,
        beq_eq_false_iff_ne, ne_eq] at hover
      cases hv : verdict wf (run wf ops) with
      | ok => exact absurd hv hover.1
      | noFinishedLeaf => have := cur_of_noFinishedLeaf hv; omega
      | jobFailure =>
        obtain ⟨d, hd, hds, hdf⟩ := failed_of_verdict hv
        exact ⟨d, hd, hdf, Nat.le_of_eq hds⟩
    · exact ⟨c, hc, hct, by have := hls c hc; omega⟩
  · by_cases e : (wf.cdef c).stage = (run wf ops).cur
    · exact Or.inl ⟨e, verdict_jobFailure hc e hct⟩
    · exact Or.inr (failed_component_stage_was_reported wf ops c hc (by omega) hct)

/-- E8. A non-aggregating consumer of a shut-down producer — in the same or in any later stage —
ends shut-down in every quiescent no-kill history of a workflow whose rules give no failure. -/
theorem consumer_of_shutdown_producer_partial (wf : Wf) (h : wf.WF) (hr : RepeatSafe wf)
    (hs : ∀ c, c < wf.n → spec wf c ≠ .failed) (ops : List Op) (hk : NoKill ops)
    (hq : quiescent wf (run wf ops) = true) (c p : Nat) (hc : c < wf.n)
    (hp : p ∈ (wf.cdef c).preds) (hna : (wf.cdef c).isAgg = false)
    (hps : ((run wf ops).comp p).ctrl = some .shutdown) :
    ((run wf ops).comp c).ctrl = some .shutdown := by
  have hpn : p < wf.n := Nat.lt_trans (h.topo c p hp) hc
  have hsp : spec wf p = .shutdown := by
    have := confluent_without_failure_partial wf h hr hs ops hk hq p hpn
    rw [hps] at this
    exact (Option.some.inj this).symm
  have hsc : spec wf c = .shutdown := by
    rw [spec_unfold wf h c]
    split
    · rfl
    · next hrule =>
      have := (C01L.rule_eq_false.1 (by simpa [C01L.ruleShutdown_eq] using hrule)).2.1 hna p hp
      simp [hsp] at this
  rw [confluent_without_failure_partial wf h hr hs ops hk hq c hc, hsc]

/-- E9. The aggregating rule needs a replicated input to fire on "all replicated inputs": an
aggregating component without replicated producers whose producers all end finished is not shut
down by the rules (it gets the outcome of its own executions). -/
theorem aggregating_without_replicated_inputs (wf : Wf) (h : wf.WF) (c : Nat)
    (hnr : ∀ p ∈ (wf.cdef c).preds, (wf.cdef p).isRepl = false)
    (hfin : ∀ p ∈ (wf.cdef c).preds, spec wf p = .finished) : spec wf c = own wf c := by
  rw [spec_unfold wf h c, C01L.ruleShutdown_eq, C01L.rule_eq_false.2
    ⟨fun p hp => by simp [hfin p hp], fun _ p hp => by simp [hfin p hp],
     fun _ => ⟨fun p hp _ => by simp [hfin p hp], fun ⟨p, hp, hrepl⟩ => by simp [hnr p hp] at hrepl⟩⟩]
  rfl

/-! ### non-vacuity of part E: two stages

Stage 0: component 0 ends `KnownIssue` (on its `shutdownOn` list), component 1 succeeds.
Stage 1: component 2 consumes 0, component 3 is independent (and is launched while stage 0 is
still current).  In `opsMS` the notification of 0 is the LAST one of stage 0, so its consumer 2
is inspected by the scheduler only after `initialise(stage 1)`. -/

def cdefMS : Nat → CompDef
  | 0 => { shutdownOn := [.knownIssue], script := [.knownIssue] }
  | 1 => {}
  | 2 => { stage := 1, preds := [0] }
  | 3 => { stage := 1 }
  | _ => {}

def wfMS : Wf := { n := 4, lastStage := 1, order := [0, 1, 2, 3], cdef := cdefMS }

def opsMS : List Op :=
  [.sched, .sched, .exit 1, .pm 1, .fin 1, .exit 0, .pm 0, .fin 0, .next, .sched, .sched, .fin 2,
   .exit 3, .pm 3, .fin 3]

theorem wfMS_wf : wfMS.WF :=
  wf_of_check (fun _ => rfl) (by decide)

theorem wfMS_repeatSafe : RepeatSafe wfMS :=
  .of_no_repeat (by decide)

example : (List.range 4).map (spec wfMS) = [.shutdown, .finished, .shutdown, .finished] := by
  decide
/-- the transition is not enabled while the stage has active components … -/
example : (run wfMS [.sched, .next]).cur = 0 := by decide
/-- … and is taken once the stage is complete; stage 0 is reported `ok` -/
example : (run wfMS opsMS).cur = 1 ∧ (runR wfMS opsMS).2 = [(0, .ok)] := by decide +kernel
example : quiescent wfMS (run wfMS opsMS) = true ∧ canAdvance wfMS (run wfMS opsMS) = false ∧
    verdict wfMS (run wfMS opsMS) = .ok := by decide +kernel
/-- the shut-down producer keeps its state across the transition and its later-stage consumer is
shut down without running; the launches are 0, 1 and the future-stage component 3 -/
example : (List.range 4).map (fun c => ((run wfMS opsMS).comp c).ctrl) =
    [some .shutdown, some .finished, some .shutdown, some .finished] ∧
    ((run wfMS opsMS).comp 2).ran = false ∧ (run wfMS opsMS).log.map (·.1) = [0, 1, 3] := by
  decide +kernel
/-- E8 instantiates -/
example : ((run wfMS opsMS).comp 2).ctrl = some .shutdown :=
  consumer_of_shutdown_producer_partial wfMS wfMS_wf wfMS_repeatSafe
    (by decide +kernel)
    opsMS (by unfold NoKill; decide +kernel) (by decide +kernel) 2 0 (by decide +kernel) (by decide +kernel) rfl
    (by decide +kernel)

/-- failing variant with `continue-on-error` on stage 0: component 1 ends `UnknownIssue` -/
def wfMSbad : Wf :=
  { wfMS with
    contOnErr := fun k => k == 0
    cdef := fun c => if c = 1 then { script := [.unknownIssue] } else cdefMS c }

def opsMSbad : List Op :=
  [.sched, .sched, .exit 1, .pm 1, .fin 1, .exit 0, .fin 0, .next, .sched, .sched, .fin 2, .exit 3,
   .pm 3, .fin 3]

theorem wfMSbad_wf : wfMSbad.WF :=
  wf_of_check (fun _ => rfl) (by decide +kernel)

theorem wfMSbad_repeatSafe : RepeatSafe wfMSbad :=
  .of_no_repeat (by decide)

example : (List.range 4).map (spec wfMSbad) = [.shutdown, .failed, .shutdown, .finished] := by
  decide
/-- stage 0 is reported as failed, the loop goes on, stage 1 ends normally -/
example : (run wfMSbad opsMSbad).cur = 1 ∧ (runR wfMSbad opsMSbad).2 = [(0, .jobFailure)] ∧
    verdict wfMSbad (run wfMSbad opsMSbad) = .ok ∧
    (List.range 4).map (fun c => ((run wfMSbad opsMSbad).comp c).ctrl) =
      [some .shutdown, some .failed, some .shutdown, some .finished] := by decide +kernel
/-- without `continue-on-error` the loop stops at stage 0 -/
example : (run { wfMSbad with contOnErr := fun _ => false } opsMSbad).cur = 0 ∧
    verdict { wfMSbad with contOnErr := fun _ => false }
      (run { wfMSbad with contOnErr := fun _ => false } opsMSbad) = .jobFailure := by decide +kernel
/-- E7 instantiates -/
example : ((wfMSbad.cdef 1).stage, Verdict.jobFailure) ∈ (runR wfMSbad opsMSbad).2 := by
  have h := (failure_is_reported_multistage_partial wfMSbad wfMSbad_wf wfMSbad_repeatSafe
    (by decide +kernel)
    ⟨1, by decide +kernel, by decide +kernel⟩ opsMSbad (by unfold NoKill; decide +kernel) (by decide +kernel)
    (by decide +kernel)).2 1 (by decide +kernel) (by decide +kernel) (by decide +kernel)
  rcases h with ⟨h1, _⟩ | h
  · exact absurd h1 (by decide +kernel)
  · exact h

/-- E9 on an aggregator of an aggregator -/
def wfAgg2 : Wf :=
  { n := 4, order := [0, 1, 2, 3],
    cdef := fun c => match c with
      | 0 => { isRepl := true }
      | 1 => { isRepl := true }
      | 2 => { preds := [0, 1], isAgg := true }
      | 3 => { preds := [2], isAgg := true }
      | _ => {} }

example : spec wfAgg2 3 = .finished := by decide

/-! ## F. The exit reason of an execution is the one the engine reports (`St4sd/Model/CtrlEngine.lean`)

Parts A–E take the exit reason of every task execution as given (`CompDef.script`).  The reason reaches
the controller through `Engine.exitReason()`; it is computed from `self.process` and
`self._exitReason`, which survive from one execution to the next. -/

/-- Whatever state the previous executions left the engine in (stale `process`, stale `_exitReason`),
the reason reported after an execution is the reason of THAT execution: the Task's own exit reason
when the launch produced a Task, `SubmissionFailed` when the task generator raised a launch error,
`UnknownIssue` when it raised anything else. -/
theorem engine_reports_reason_of_this_execution (e : EngS) (l : Launch) :
    (e.execute l).exit = some l.reason := by
  cases l <;> rfl

/-- A fault of the engine's own bookkeeping AFTER the task exited (`FinalisePerformanceInfo` raises,
so `HandleTaskObservableException` runs instead of `HandleTaskExit` and asks for `UnknownIssue`) does
not change what the engine reports: the reason of the task that ran - in particular a task that exited
with `Success` is reported as `Success`, whatever state earlier executions left the engine in. -/
theorem engine_fault_after_exit_keeps_task_reason (e : EngS) (r : Reason) :
    (e.execute (.taskThenFault r)).exit = some r ∧
    (e.execute (.taskThenFault r)).exit = (e.execute (.task r)).exit := ⟨rfl, rfl⟩

/-- That is the work of `_setExitReason`'s preference for `self.process.exitReason`: if the caller's
reason were taken as it is ("the caller decides"), a successful task followed by such a fault would be
reported as `UnknownIssue` (a component whose every task succeeded would end failed). -/
theorem caller_decides_breaks_reported_reason :
    ∃ (e : EngS) (l : Launch), l.reason = .success ∧ (e.executeCallerDecides l).exit = some .unknownIssue :=
  ⟨{}, .taskThenFault .success, rfl, rfl⟩

/-- without a post-exit fault the two variants agree (why ordinary runs cannot tell them apart) -/
theorem caller_decides_agrees_without_fault (e : EngS) (l : Launch) (h : l.faultAfterExit = false) :
    (e.executeCallerDecides l).exit = (e.execute l).exit := by
  cases l with
  | taskThenFault r => cases h
  | _ => rfl

/-- So the sequence of reasons a component's engine reports over its executions (with `restart`
between them) is exactly the sequence of the executions' reasons: the controller model's `script`. -/
theorem engine_reported_eq_script (e : EngS) (ls : List Launch) :
    e.reported ls = ls.map (fun l => some l.reason) := by
  induction ls generalizing e with
  | nil => rfl
  | cons l ls ih => simp only [EngS.reported, List.map_cons, engine_reports_reason_of_this_execution, ih]

/-- a launch that fails after a restart does not inherit the reason of the execution before it
(`ResourceExhausted`, then three failed submissions, then success) -/
example : ({} : EngS).reported [.task .resourceExhausted, .submitError, .submitError, .submitError, .task .success] =
    [some .resourceExhausted, some .submissionFailed, some .submissionFailed, some .submissionFailed,
     some .success] := by decide +kernel

/-- a post-exit fault in the first and in the last execution: the reasons reported are the tasks' -/
example : ({} : EngS).reported [.taskThenFault .resourceExhausted, .submitError, .taskThenFault .success] =
    [some .resourceExhausted, some .submissionFailed, some .success] := by decide

/-- with those reasons the restart policy spends one restart and three re-submissions: `finished` -/
example : ownFrom { n := 1, cdef := fun _ => {}, order := [0] } { restartOn := [.resourceExhausted] }
    [.resourceExhausted, .submissionFailed, .submissionFailed, .submissionFailed, .success] 0 0 = .finished := by
  decide

/-! ## G. Repeating components end only after their producers: nobody is left waiting

The engine of a repeating component relaunches its task until `ComponentState` tells it
`notify_all_producers_finished` (or until `kill()`); `Op.exit c` is not enabled before (`canExit`).
`ComponentState.stageIn` subscribes to the producers that are alive at stage-in time
(`CompS.watch`); the engine is told when all of THEM have ended (`notified`).  Part A speaks about states
without a live task; the theorems below show that a live repeating task whose producers are all final
can always exit, so "no live task" and "no enabled task exit" coincide at quiescence. -/

/-- G1. A launched repeating component that was not asked to finish has been told that its producers
finished as soon as all of them are in a final state - whenever it was staged in: before, while or
after they ended (also when ALL of them had ended before: the subscription list is then empty). -/
theorem repeating_engine_is_told (wf : Wf) (ops : List Op) (c : Nat)
    (hrep : (wf.cdef c).isRepeat = true) (hr : ((run wf ops).comp c).ran = true)
    (hfc : ((run wf ops).comp c).finishCalled = false)
    (hp : ∀ p ∈ (wf.cdef c).preds, ((run wf ops).comp p).ctrl.isSome = true) :
    notified (run wf ops) c = true :=
  notified_of_final (run_winv wf ops) c hr hrep hfc hp

/-- G2. … and it is not told early: told ⇒ every producer is final. -/
theorem repeating_engine_is_not_told_early (wf : Wf) (ops : List Op) (c : Nat)
    (hn : notified (run wf ops) c = true) :
    ∀ p ∈ (wf.cdef c).preds, ((run wf ops).comp p).ctrl.isSome = true :=
  final_of_notified (run_winv wf ops) c hn

/-- G3. A live task whose producers are all final can exit (repeating or not, asked to finish or not). -/
theorem live_task_with_final_producers_can_exit (wf : Wf) (ops : List Op) (c : Nat)
    (hr : ((run wf ops).comp c).ran = true) (hex : ((run wf ops).comp c).exit = none)
    (hp : ∀ p ∈ (wf.cdef c).preds, ((run wf ops).comp p).ctrl.isSome = true) :
    canExit wf (run wf ops) c = true :=
  canExit_of_final (run_inv wf ops) (run_winv wf ops) c hr hex hp

/-- G4. A task exit that is not enabled does nothing. -/
theorem disabled_exit_is_noop (wf : Wf) (s : St) (c : Nat) (h : canExit wf s c = false) :
    step wf s (.exit c) = s := by
  simp [step, taskExit, h]

/-- G5. Strengthening of A: when no task CAN exit (live repeating engines that wait for their
producers allowed), nothing is queued and the scheduler has nothing to do, every component is
recorded in `comp_done` in a final state: no ordering leaves an observer waiting for ever. -/
theorem quiescentR_all_final (wf : Wf) (h : wf.WF) (ops : List Op)
    (hq : quiescentR wf (run wf ops) = true) :
    ∀ c, c < wf.n → (run wf ops).done c = true ∧ ((run wf ops).comp c).ctrl.isSome = true :=
  quiescentR_all_final' h (run_inv wf ops) (run_winv wf ops) hq

/-- G6. So the two notions of quiescence coincide on reachable states. -/
theorem quiescentR_iff_quiescent (wf : Wf) (h : wf.WF) (ops : List Op) :
    quiescentR wf (run wf ops) = true ↔ quiescent wf (run wf ops) = true := by
  constructor
  · intro hq
    have hall := quiescentR_all_final wf h ops hq
    simp only [quiescentR, comps, Bool.and_eq_true, List.all_eq_true, List.mem_range,
      Bool.not_eq_true'] at hq
    simp only [quiescent, comps, Bool.and_eq_true, List.all_eq_true, List.mem_range, Bool.not_eq_true',
      Bool.and_eq_false_iff]
    refine ⟨⟨hq.1.1, fun c hc => ?_⟩, hq.2⟩
    have := ((run_inv wf ops).ci c).k10 (hall c hc).2
    cases hx : ((run wf ops).comp c).exit with
    | none => simp [hx] at this
    | some r => right; rfl
  · exact quiescentR_of_quiescent

/-! ### non-vacuity of part G

Stage 0: `slow` (0).  Stage 1: `subject` (1, no inputs: launched while stage 0 is current) and a repeating
`observer` (2) of both.  In `opsObsLate` both producers have ended before the observer is staged in: its
subscription list is empty and its engine is told at once.  In `opsObsEarly` the subject is still running
when the observer is staged in (after `slow` ended): it subscribes to the subject only. -/

def wfObs : Wf :=
  { n := 3, lastStage := 1, order := [2, 0, 1],
    cdef := fun c => match c with
      | 0 => {}
      | 1 => { stage := 1 }
      | 2 => { stage := 1, preds := [0, 1], isRepeat := true }
      | _ => {} }

theorem wfObs_wf : wfObs.WF :=
  wf_of_check (fun _ => rfl) (by decide)

def opsObsLate : List Op :=
  [.sched, .sched, .exit 1, .pm 1, .fin 1, .exit 0, .pm 0, .fin 0, .next, .sched]

def opsObsEarly : List Op :=
  [.sched, .sched, .exit 0, .pm 0, .fin 0, .next, .sched]

example : ((run wfObs opsObsLate).comp 2).ran = true ∧ ((run wfObs opsObsLate).comp 2).watch = some [] ∧
    notified (run wfObs opsObsLate) 2 = true ∧ canExit wfObs (run wfObs opsObsLate) 2 = true := by
  decide +kernel

example : ((run wfObs opsObsEarly).comp 2).ran = true ∧ ((run wfObs opsObsEarly).comp 2).watch = some [1] ∧
    notified (run wfObs opsObsEarly) 2 = false ∧ canExit wfObs (run wfObs opsObsEarly) 2 = false ∧
    quiescentR wfObs (run wfObs opsObsEarly) = false := by decide +kernel

/-- the exit of the observer is a no-op while the subject runs … -/
example : ((run wfObs (opsObsEarly ++ [.exit 2])).comp 2).exit = none := by decide +kernel
/-- … and enabled once the subject is final (not only once the controller has recorded it) -/
example : canExit wfObs (run wfObs (opsObsEarly ++ [.exit 1, .pm 1])) 2 = true ∧
    (run wfObs (opsObsEarly ++ [.exit 1, .pm 1])).done 1 = false := by decide +kernel

example : quiescentR wfObs (run wfObs (opsObsLate ++ [.exit 2, .pm 2, .fin 2])) = true ∧
    (List.range 3).map (fun c => ((run wfObs (opsObsLate ++ [.exit 2, .pm 2, .fin 2])).comp c).ctrl) =
      [some .finished, some .finished, some .finished] := by decide +kernel

/-- G1 and G5 instantiate -/
example : notified (run wfObs opsObsLate) 2 = true :=
  repeating_engine_is_told wfObs opsObsLate 2 rfl (by decide +kernel) (by decide +kernel)
    (by intro p hp; simp [wfObs] at hp; rcases hp with rfl | rfl <;> decide +kernel)

example : ∀ c, c < 3 → (run wfObs (opsObsLate ++ [.exit 2, .pm 2, .fin 2])).done c = true ∧
    ((run wfObs (opsObsLate ++ [.exit 2, .pm 2, .fin 2])).comp c).ctrl.isSome = true :=
  quiescentR_all_final wfObs wfObs_wf _ (by decide +kernel)

/-! ## H. The external stage-completion hook

`hrun` (`Model/CtrlSplit.lean`) = the operations of `run` plus `HOp.hook k`: the package's `IsStageComplete`
hook answered `True` for stage k and the closure of `_observe_completionCheck` ran (fake-finish what is not
staged in, `_stopComponents` the rest: `stopStage`).  Parts A, B, E2 and G5 hold for every such history, with
any number of hook firings.  Before the repair `fixes/C02-completion-hook-unstaged.diff` the closure called
`_stopComponents` only and A was FALSE: `C02W.old_hook_strands_unstaged_component`. -/

theorem hook_quiescentR_all_final (wf : Wf) (h : wf.WF) (ops : List HOp)
    (hq : quiescentR wf (hrun wf ops) = true) :
    ∀ c, c < wf.n → (hrun wf ops).done c = true ∧ ((hrun wf ops).comp c).ctrl.isSome = true :=
  quiescentR_all_final' h (hrun_inv wf ops).1 (hrun_inv wf ops).2 hq

/-- … final states stay final across hook firings … -/
theorem hook_final_is_permanent (wf : Wf) (ops ops' : List HOp) (c : Nat) (f : Fin3) :
    ((hrun wf ops).comp c).ctrl = some f → ((hrun wf (ops ++ ops')).comp c).ctrl = some f :=
  hrun_append_keeps wf ops ops' c f

/-- … and are the component's own outcome or shut-down (B) -/
theorem hook_final_is_own_or_shutdown (wf : Wf) (ops : List HOp) (c : Nat) (f : Fin3) :
    ((hrun wf ops).comp c).ctrl = some f → f = .shutdown ∨ f = own wf c :=
  ((hrun_inv wf ops).1.ci c).b1 f

/-- A for histories with hook firings -/
theorem hook_quiescent_all_final (wf : Wf) (h : wf.WF) (ops : List HOp)
    (hq : quiescent wf (hrun wf ops) = true) :
    ∀ c, c < wf.n → (hrun wf ops).done c = true ∧ ((hrun wf ops).comp c).ctrl.isSome = true :=
  hook_quiescentR_all_final wf h ops (quiescentR_of_quiescent hq)

/-- the split system of C01 runs the same hook: `hrun` is `srun` on the embedded history -/
theorem hrun_eq_srun (wf : Wf) (ops : List HOp) : (srun wf (ops.map HOp.toS)).base = hrun wf ops :=
  hfoldl_toS wf ops sinit

/-- histories without hook firings are the histories of `run` -/
theorem hrun_extends_run (wf : Wf) (ops : List Op) : hrun wf (ops.map HOp.op) = run wf ops :=
  hrun_op wf ops

/-- non-vacuity: the hook fires while component 1 of `C02W.wfH`-like chain `0 → 1` waits for 0 -/
example : quiescentR { n := 2, cdef := fun i => if i = 1 then { preds := [0] } else {}, order := [0, 1] }
    (hrun { n := 2, cdef := fun i => if i = 1 then { preds := [0] } else {}, order := [0, 1] }
      [.op .sched, .hook 0, .op (.exit 0), .op (.fin 0), .op (.fin 1), .op .sched]) = true := by decide +kernel

/-! ## I. The verdict of `run()` when the stage grows while it runs (`St4sd/Model/CtrlGrow.lean`)

A DoWhile document injects components into the running stage.  The failure scan of `run()` must look at
the components the stage has when its loop ENDS (the code re-reads them), not at those it had when
`run()` started. -/

/-- `verdict` is `verdictOn` of the components of the current stage -/
theorem verdict_eq_verdictOn (wf : Wf) (s : St) : verdict wf s = verdictOn wf s (stageComps wf s.cur) := rfl

/-- whatever list is inspected: a failed component IN the list makes `run()` raise
`UnexpectedJobFailureError` -/
theorem verdictOn_reports_failed (wf : Wf) (s : St) (mine : List Nat) (c : Nat) (hc : c ∈ mine)
    (hf : (s.comp c).ctrl = some .failed) : verdictOn wf s mine = .jobFailure :=
  verdictOn_jobFailure.2 ⟨c, hc, hf⟩

/-- and `UnexpectedJobFailureError` is raised only for a failed component of the list -/
theorem verdictOn_jobFailure_iff (wf : Wf) (s : St) (mine : List Nat) :
    verdictOn wf s mine = .jobFailure ↔ ∃ c ∈ mine, (s.comp c).ctrl = some .failed :=
  verdictOn_jobFailure

/-- the components read at the top of `run()` are among those read at its end -/
theorem snapshot_subset_of_reread (wf wf' : Wf) (g : Grows wf wf') (k : Nat) :
    ∀ c ∈ stageComps wf k, c ∈ stageComps wf' k := by
  intro c hc
  rw [mem_stageComps] at hc ⊢
  exact ⟨Nat.lt_of_lt_of_le hc.1 g.n_le, by rw [g.same c hc.1]; exact hc.2⟩

/-- The re-read list reports EVERY failed component of the stage, also one that a later iteration of
a loop created: for the grown workflow `wf'`, a failed component of the current stage - whenever it
came to exist - makes the verdict `UnexpectedJobFailureError`. -/
theorem reread_reports_every_failed_component (wf' : Wf) (s : St) (c : Nat) (hc : c < wf'.n)
    (hs : (wf'.cdef c).stage = s.cur) (hf : (s.comp c).ctrl = some .failed) :
    verdict wf' s = .jobFailure :=
  verdict_jobFailure hc hs hf

/-- a failure that the snapshot reports is reported by the re-read list as well (nothing is lost by
re-reading) -/
theorem snapshot_failure_is_reread_failure (wf wf' : Wf) (g : Grows wf wf') (s : St)
    (h : verdictOn wf' s (stageComps wf s.cur) = .jobFailure) :
    verdictOn wf' s (stageComps wf' s.cur) = .jobFailure := by
  obtain ⟨c, hc, hf⟩ := (verdictOn_jobFailure_iff wf' s _).mp h
  exact verdictOn_reports_failed wf' s _ c (snapshot_subset_of_reread wf wf' g s.cur c hc) hf

/-- one looped component per iteration, no consumers: iteration 0 is component 0 -/
def wfLoop0 : Wf := { n := 1, cdef := fun _ => {}, order := [0] }
/-- ... after the second iteration (component 1) was instantiated -/
def wfLoop1 : Wf := { n := 2, cdef := fun _ => {}, order := [0, 1] }
/-- iteration 0 finished, iteration 1 failed, both recorded -/
def stLoop : St := { comp := fun c => if c = 0 then { ctrl := some .finished } else { ctrl := some .failed },
                     done := fun _ => true }

theorem wfLoop_grows : Grows wfLoop0 wfLoop1 := ⟨by decide, fun _ _ => rfl⟩

/-- The snapshot is NOT enough: iteration 1 of a loop ends failed, the stage is complete, and the
verdict computed on the components that existed when `run()` started is `ok` - the stage containing
the failed component would not be reported as failed - while the verdict on the re-read list is
`UnexpectedJobFailureError`. -/
theorem snapshot_verdict_misses_late_component :
    Grows wfLoop0 wfLoop1 ∧ stageDone wfLoop1 stLoop = true ∧
    (∃ c, c < wfLoop1.n ∧ (wfLoop1.cdef c).stage = stLoop.cur ∧ (stLoop.comp c).ctrl = some .failed) ∧
    verdictOn wfLoop1 stLoop (stageComps wfLoop0 stLoop.cur) = .ok ∧
    verdict wfLoop1 stLoop = .jobFailure :=
  ⟨wfLoop_grows, by decide +kernel, ⟨1, by decide +kernel, by decide +kernel, by decide +kernel⟩, by decide +kernel, by decide +kernel⟩

end St4sd.C02
