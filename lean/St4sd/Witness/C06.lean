import St4sd.Model.Dsl
/-!
# C06 — machine-checked counterexamples for the algorithms as coded before fixes/C06-*.diff

The same inputs are in the corpus of `harness/c06.py` and fail on the unfixed real code
(`FlowIRComponentExists`, `AttributeError`, endless loop / silently wrong producer, `KeyError`).
-/
namespace St4sd.C06.Witness
open St4sd.Dsl St4sd.Str

private def lc (s : String) : S := s.toList

/-- (a) steps `foo-I`, `foo` (visit order of `main`) and `foo` of a nested workflow: the counter-based naming
produces `foo-I` twice. -/
theorem old_naming_collides :
    assignNamesOld [] [lc "foo-I", lc "foo", lc "foo"] = [lc "foo-I", lc "foo", lc "foo-I"] ∧
    ¬ (assignNamesOld [] [lc "foo-I", lc "foo", lc "foo"]).Nodup := by
  unfold lc
  simp -index only [String.toList_ofList]
  decide +kernel

/-- … while the repaired naming takes the first unused suffix. -/
theorem new_naming_distinct :
    assignNames [] [lc "foo-I", lc "foo", lc "foo"] = some [(0, lc "foo-I"), (0, lc "foo"), (0, lc "foo-II")] := by
  unfold lc
  simp -index only [String.toList_ofList]
  decide +kernel

/-- (b) a step called `step1` is kept as component name although it is not a valid component name
(`SignatureNamePattern.fullmatch` is `None` in the code → `AttributeError`); the repaired flattener reports it. -/
theorem old_naming_keeps_invalid_name :
    assignNamesOld [] [lc "step1"] = [lc "step1"] ∧ validName (lc "step1") = false := by
  unfold lc
  simp -index only [String.toList_ofList]
  decide +kernel

/-- (c) `OutputReference.split` as coded: a reference to the *workflow* step `a` is attributed to the unrelated
component `c` (overlap 1), a reference to the missing step `a/nosuch` to `a/p` (overlap 2); the repaired `split`
finds no producer, which is reported as an error. -/
theorem old_split_accepts_partial_overlap :
    splitOld [[lc "e", lc "c"], [lc "e", lc "a", lc "p"]] [lc "e", lc "a"] = some ([lc "e", lc "c"], []) ∧
    splitOld [[lc "e", lc "c"], [lc "e", lc "a", lc "p"]] [lc "e", lc "a", lc "nosuch"] = some ([lc "e", lc "a", lc "p"], []) ∧
    split [[lc "e", lc "c"], [lc "e", lc "a", lc "p"]] [lc "e", lc "a"] = none ∧
    split [[lc "e", lc "c"], [lc "e", lc "a", lc "p"]] [lc "e", lc "a", lc "nosuch"] = none := by
  unfold lc
  simp -index only [String.toList_ofList]
  decide +kernel

/-- (d) a component whose `command.environment` names a parameter it does not have: the code as it was raised a
bare `KeyError` (after recording the proper error); the repaired check refuses it with a located DSL error. -/
theorem old_env_unknown_parameter_raises_keyerror :
    envOfOld [(lc "env", [.dict (lc "{A:1}")])] (some (lc "nosuch")) = .keyError ∧
    envOf [(lc "env", [.dict (lc "{A:1}")])] (some (lc "nosuch")) = none ∧
    envOfOld [(lc "env", [.dict (lc "{A:1}")])] (some (lc "env")) = .ok (.dict (lc "{A:1}")) := by
  unfold lc
  simp -index only [String.toList_ofList]
  decide +kernel

/-- (e) why names must be compared as parsed `(stage, name)` pairs: the step names `generate` and `stage0.generate`
are different strings, both are read as `(0, generate)` by the name pattern; the naming keeps them apart. -/
theorem spellings_collide_as_strings_not_as_names :
    lc "generate" ≠ lc "stage0.generate" ∧
    parseName (lc "generate") = parseName (lc "stage0.generate") ∧
    assignNames [] [lc "generate", lc "stage0.generate"] = some [(0, lc "generate"), (0, lc "generate-I")] := by
  unfold lc
  simp -index only [String.toList_ofList]
  decide +kernel

private def e : Name := entryName
private def first (replicates : Bool) : Inst :=
  ⟨[e, lc "first"], .tmpl true 0 (some 0), 0, [], [], none, replicates, false, false⟩
private def second (aggregates : Bool) : Inst :=
  ⟨[e, lc "second"], .tmpl true 0 (some 1), 1, [(lc "m", [.ref [e, lc "first"] (some (lc "output"))])], [], none,
    false, aggregates, false⟩
private def third : Inst :=
  ⟨[e, lc "third"], .tmpl true 0 (some 2), 2, [(lc "m", [.ref [e, lc "second"] (some (lc "output"))])], [], none,
    false, false, false⟩
/-- `first` (replicates?) → `second` (aggregates?) → `third` -/
private def chain (secondAggregates firstReplicates : Bool) : List Inst :=
  [first firstReplicates, second secondAggregates, third]

/-- (f) the hypothesis `Memo.Sound` of `memo_answer_sound` is needed: with memo dictionaries that hold entries of
*another* namespace (same locations, other roles) `can_template_replicate` answers wrongly in both directions —
`third` of `first(replicate) → second → third` is a replica, but not with a stale "`second` aggregates" entry;
`third` of `first → second → third` (nothing replicates) is not, but is with a stale "`second` replicates" entry. -/
theorem stale_memo_changes_the_answer :
    isReplica (chain false true) third = true ∧
    (canReplicateM (chain false true) {} third).1 = true ∧
    (canReplicateM (chain false true) { agg := [[e, lc "second"]] } third).1 = false ∧
    isReplica (chain false false) third = false ∧
    (canReplicateM (chain false false) {} third).1 = false ∧
    (canReplicateM (chain false false) { rep := [[e, lc "second"]] } third).1 = true := by
  unfold chain first second third e entryName lc
  simp -index only [String.toList_ofList]
  decide +kernel

/-- the memo a compilation leaves behind is exactly such an entry: compiling `first(replicate) → second(aggregate)`
records "`entry-instance/second` aggregates" -/
theorem memo_left_behind :
    (canReplicateM (chain true true) {} (second true)).2 = { agg := [[e, lc "second"]] } := by
  unfold chain first second third e entryName lc
  simp -index only [String.toList_ofList]
  decide +kernel

/-- (g) the hypothesis "the hash tells different dictionaries apart" of `environment_binding_faithful` is needed: a
hash that only looks at the variable NAMES binds the second component (same names, other values) to the first
component's environment; the hash by canonical text keeps them apart. -/
theorem names_only_hash_shares_environment :
    (bindAll (fun d => d.takeWhile (· != '=')) [] [lc "MODE=fast", lc "MODE=accurate"]).1 = [0, 0] ∧
    (bindAll (fun d => d.takeWhile (· != '=')) [] [lc "MODE=fast", lc "MODE=accurate"]).2 =
      [(lc "MODE", lc "MODE=fast")] ∧
    (bindAll (fun d => d) [] [lc "MODE=fast", lc "MODE=accurate"]).1 = [0, 1] := by
  unfold lc
  simp -index only [String.toList_ofList]
  decide +kernel

end St4sd.C06.Witness
