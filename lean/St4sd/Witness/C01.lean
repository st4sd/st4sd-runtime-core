import St4sd.Model.CtrlLoop
/-!
# C01 — witness: waiting only for the LATEST iteration of a looped component is not enough

`CtrlLoop.readyLatest` drops, from the producers the consumer of a DoWhile loop waits for, the instances that a
later iteration has superseded.  A looped component that is off the critical path of the loop condition can still
be running when the next iteration exists and is over: the variant launches the consumer while that instance
(iteration 0 of component 1) has not ended; `CtrlLoop.ready` (the code that exists) does not.
-/
namespace St4sd.C01W
open St4sd.CtrlLoop

def loopEx : Loop := { n := 2, cond := 0, refs := [1] }

def opsLaggard : List Op :=
  [.exit 0 0, .crit 0 0 true, .post 0 0, .exit 1 0, .crit 1 0 true, .post 1 0,
   .exit 1 1, .crit 1 1 true, .post 1 1, .sched]

/-- the latest-only variant launches the consumer while instance (0, 1) is still running (phase 0) -/
theorem latest_only_launches_before_older_instance_is_over :
    ((runLatest loopEx [true, false] opsLaggard).launched.map (fun v => (v.1, v.2 0 1, v.2 1 1))) =
      some (1, 0, 3) := by decide +kernel

/-- the same history under the rule that exists: no launch -/
theorem all_instances_rule_does_not_launch :
    (run loopEx [true, false] opsLaggard).launched.isNone = true := by decide

end St4sd.C01W
