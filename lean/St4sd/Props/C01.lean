import St4sd.Lemmas.C01Split
import St4sd.Lemmas.C01Loop
/-!
# C01 — a component is launched only when all its producers are final, and never on a failed one

Property theorems only, about the transition system `St4sd.Ctrl.run wf ops` for **every** workflow
`wf` (no well-formedness hypothesis) and **every** operation sequence `ops` — scheduler passes,
task exits, notification deliveries, kills and stage transitions (`Op.next`: the stage loop of
`elaunch.Run`, with or without `continue-on-error`), so the theorems cover launches in every stage
of a multi-stage run and launches of future-stage components.  The ghost field
`log` records, at every scheduler launch `runComp wf s c`, what the launch saw of each producer
(`viewOf s p`: true controller state and membership of `comp_staged_in`).

The state invariant and its preservation by every operation are in `St4sd/Lemmas/C01.lean` (`C01L.Inv`,
`C01L.step_spec`; what C01 and C02 both need of each operation is in `St4sd/Lemmas/CtrlOps.lean`), for the system
with the split notification handler in `St4sd/Lemmas/C01Split.lean` (`C01L.SplitInv`); `run` is a special case of
the latter.
-/
namespace St4sd.C01
open St4sd.Ctrl St4sd.C01L

/-- Every producer seen at a launch is in a final state; the only exception are same-stage
producers of a *repeating* consumer, which must already be staged in. -/
theorem launch_after_producers_final (wf : Wf) (ops : List Op) :
    ∀ e ∈ (run wf ops).log, ∀ pv ∈ e.2,
      pv.2.state.isSome = true ∨
        ((wf.cdef e.1).isRepeat = true ∧ (wf.cdef pv.1).stage = (wf.cdef e.1).stage ∧
          pv.2.staged = true) :=
  fun e he => ((run_inv wf ops).log e he).final

/-- No component is ever launched while one of its producers is FAILED. -/
theorem never_launch_on_failed (wf : Wf) (ops : List Op) :
    ∀ e ∈ (run wf ops).log, ∀ pv ∈ e.2, pv.2.state ≠ some .failed :=
  fun e he => ((run_inv wf ops).log e he).nofail

/-- A non-aggregating component is never launched while one of its producers is SHUTDOWN. -/
theorem never_launch_on_shutdown_nonaggregating (wf : Wf) (ops : List Op) :
    ∀ e ∈ (run wf ops).log, (wf.cdef e.1).isAgg = false →
      ∀ pv ∈ e.2, pv.2.state ≠ some .shutdown :=
  fun e he => ((run_inv wf ops).log e he).nonagg

/-- An aggregating component is launched only if none of its non-replicating producers is SHUTDOWN
and, when it has replicating producers, at least one of them is not SHUTDOWN. -/
theorem aggregating_rule (wf : Wf) (ops : List Op) :
    ∀ e ∈ (run wf ops).log, (wf.cdef e.1).isAgg = true →
      (∀ pv ∈ e.2, (wf.cdef pv.1).isRepl = false → pv.2.state ≠ some .shutdown) ∧
      ((∃ pv ∈ e.2, (wf.cdef pv.1).isRepl = true) →
        ∃ pv ∈ e.2, (wf.cdef pv.1).isRepl = true ∧ pv.2.state ≠ some .shutdown) :=
  fun e he ha => ⟨((run_inv wf ops).log e he).agg1 ha, ((run_inv wf ops).log e he).agg2 ha⟩

/-- A log entry lists exactly the producers of the launched component, in order (so the four
theorems above speak about *all* producers). -/
theorem log_lists_all_producers (wf : Wf) (ops : List Op) :
    ∀ e ∈ (run wf ops).log, e.2.map Prod.fst = (wf.cdef e.1).preds :=
  fun e he => ((run_inv wf ops).log e he).preds

/-- Members of `comp_done` are in a final state. -/
theorem done_implies_final (wf : Wf) (ops : List Op) (c : Nat) :
    (run wf ops).done c = true → ((run wf ops).comp c).ctrl.isSome = true :=
  (run_inv wf ops).core.done c

/-- Final states are absorbing: once `controllerState` of a component is final it never changes,
whatever happens afterwards (in particular `finish` never takes its overwriting branch). -/
theorem final_is_permanent (wf : Wf) (ops ops' : List Op) (c : Nat) (f : Fin3) :
    ((run wf ops).comp c).ctrl = some f → ((run wf (ops ++ ops')).comp c).ctrl = some f :=
  run_append_keeps wf ops ops' c f

/-- Every component whose engine was started (`ran`) has a launch entry in the log, so the
launch theorems cover every execution. -/
theorem launched_has_log_entry (wf : Wf) (ops : List Op) (c : Nat) :
    ((run wf ops).comp c).ran = true → ∃ e ∈ (run wf ops).log, e.1 = c :=
  (run_inv wf ops).ran c

/-! ## non-vacuity

Diamond `0 → {1, 2} → 3` (3 aggregates the replicated 1 and 2; 1 exits with a `shutdownOn`
reason), plus a repeating observer 4 of component 0 in the same stage; `graph.nodes` order is
not topological. -/

def wfEx : Wf where
  n := 5
  cdef := fun c => match c with
    | 0 => {}
    | 1 => { preds := [0], isRepl := true, shutdownOn := [.knownIssue], script := [.knownIssue] }
    | 2 => { preds := [0], isRepl := true }
    | 3 => { preds := [1, 2], isAgg := true }
    | 4 => { preds := [0], isRepeat := true }
    | _ => {}
  order := [3, 4, 1, 0, 2]

def opsEx : List Op :=
  [.sched, .sched, .exit 0, .pm 0, .fin 0, .sched, .exit 1, .pm 1, .fin 1, .exit 2, .pm 2, .fin 2, .sched]

/-- five launches, in the order 0, 4, 1, 2, 3; the repeating observer 4 was launched while its
producer 0 was still running (state `none`, staged in), and the aggregator 3 was launched with
one of its two replicating producers SHUTDOWN. -/
example : (run wfEx opsEx).log =
    [(0, []),
     (4, [(0, { state := none, staged := true })]),
     (1, [(0, { state := some .finished, staged := true })]),
     (2, [(0, { state := some .finished, staged := true })]),
     (3, [(1, { state := some .shutdown, staged := true }),
          (2, { state := some .finished, staged := true })])] := by decide +kernel

example : (run wfEx opsEx).log.length = 5 := by decide +kernel

example : ∃ e ∈ (run wfEx opsEx).log, ∃ pv ∈ e.2, pv.2.state = none ∧ pv.2.staged = true := by
  decide +kernel

example : ∃ e ∈ (run wfEx opsEx).log, (wfEx.cdef e.1).isAgg = true ∧
    ∃ pv ∈ e.2, pv.2.state = some .shutdown := by decide +kernel

example : ((run wfEx opsEx).comp 3).launches = 1 ∧ ((run wfEx opsEx).comp 3).ran = true ∧
    ((run wfEx opsEx).comp 1).ctrl = some .shutdown ∧ (run wfEx opsEx).done 2 = true := by
  decide +kernel

/-- same workflow, but producer 2 exits with a `shutdownOn` reason as well -/
def wfEx2 : Wf :=
  { wfEx with
    cdef := fun c =>
      if c = 2 then
        { preds := [0], isRepl := true, shutdownOn := [.knownIssue], script := [.knownIssue] }
      else wfEx.cdef c }

/-- the rules also *refuse*: with both replicating producers shut down the aggregator is not
launched but shut down by the scheduler. -/
example : (run wfEx2 opsEx).log.length = 4 ∧ ((run wfEx2 opsEx).comp 3).ran = false ∧
    ((run wfEx2 opsEx).comp 3).ctrl = some .shutdown := by decide +kernel

/-! ### two stages: an aggregating consumer in a later stage than its replicated producers

Replicas 0 (ends `UnknownIssue`: FAILED) and 1, a third component 2 in stage 0; the aggregator 3 of
the replicas lives in stage 1.  Stage 0 has `continue-on-error`. -/

def wfEx3 : Wf where
  n := 4
  lastStage := 1
  contOnErr := fun k => k == 0
  cdef := fun c => match c with
    | 0 => { isRepl := true, script := [.unknownIssue] }
    | 1 => { isRepl := true }
    | 2 => {}
    | 3 => { stage := 1, preds := [0, 1], isAgg := true }
    | _ => {}
  order := [3, 0, 1, 2]

/-- both replicas are recorded while component 2 of the failing stage is still winding down; the
scheduler pass in that window looks at the future-stage aggregator -/
def opsEx3a : List Op :=
  [.sched, .sched, .exit 0, .pm 0, .exit 1, .pm 1, .fin 1, .fin 0, .sched, .exit 2, .fin 2, .fin 3]

/-- the failed replica is the last notification of stage 0; the aggregator is inspected only after
the transition to stage 1 -/
def opsEx3b : List Op :=
  [.sched, .sched, .exit 1, .pm 1, .fin 1, .exit 2, .pm 2, .fin 2, .exit 0, .pm 0, .fin 0, .next,
   .sched, .sched, .fin 3]

/-- in both orderings the aggregator is never launched (one healthy replica notwithstanding) but
shut down -/
example : (run wfEx3 opsEx3a).log.map (·.1) = [0, 1, 2] ∧ ((run wfEx3 opsEx3a).comp 3).ran = false ∧
    ((run wfEx3 opsEx3a).comp 3).ctrl = some .shutdown ∧ (run wfEx3 opsEx3a).cur = 0 := by
  decide +kernel

example : (run wfEx3 opsEx3b).log.map (·.1) = [0, 1, 2] ∧ ((run wfEx3 opsEx3b).comp 3).ran = false ∧
    ((run wfEx3 opsEx3b).comp 3).ctrl = some .shutdown ∧ (run wfEx3 opsEx3b).cur = 1 ∧
    ((run wfEx3 opsEx3b).comp 0).ctrl = some .failed ∧
    ((run wfEx3 opsEx3b).comp 1).ctrl = some .finished := by
  decide +kernel

/-! ## `finishedCheck` split at its lock boundaries (`St4sd/Model/CtrlSplit.lean`)

The theorems above treat the handler of a finished-notification as one step.  In the real controller it
runs on a pool thread and only its middle part holds `comp_lock`; `srun wf sops` is the transition
system in which the three parts `finPre c` (before the lock), `finCrit c` (under the lock), `finPost c`
(after it: `comp_done.add`) are separate operations that interleave arbitrarily with scheduler passes,
task exits, other (split or unsplit) deliveries, kills and stage transitions.  All launch theorems hold
for every such history. -/

/-- The part of the handler before `comp_lock` changes nothing that anybody reads: component states,
`comp_done`, `stop_executing`, the current stage and the launch log are untouched (the notification
just moves from the queue to `inflight`).  So an interleaving at that point cannot be observed. -/
theorem split_prelock_changes_nothing (wf : Wf) (s : SSt) (c : Nat) :
    (sstep wf s (.finPre c)).base.comp = s.base.comp ∧ (sstep wf s (.finPre c)).base.done = s.base.done ∧
    (sstep wf s (.finPre c)).base.stop = s.base.stop ∧ (sstep wf s (.finPre c)).base.cur = s.base.cur ∧
    (sstep wf s (.finPre c)).base.log = s.base.log := by
  simp only [sstep]
  split <;> exact ⟨rfl, rfl, rfl, rfl, rfl⟩

/-- The three parts executed back to back are the atomic delivery `Op.fin c`. -/
theorem split_parts_in_sequence_eq_fin (wf : Wf) (s : St) (c : Nat) :
    (sstep wf (sstep wf (sstep wf { base := s } (.finPre c)) (.finCrit c)) (.finPost c)) =
      { base := step wf s (.fin c) } := by
  show _ = ({ base := deliverFin wf s c } : SSt)
  rw [deliverFin_eq]
  by_cases hm : Notif.fin c ∈ s.pending
  · simp [sstep, hm]
  · simp [sstep, hm]

/-- Histories without split deliveries are histories of the split system: the split system extends
`run`. -/
theorem split_extends_run (wf : Wf) (ops : List Op) :
    (srun wf (ops.map SOp.base)).base = run wf ops ∧ (srun wf (ops.map SOp.base)).inflight = [] := by
  unfold srun
  rw [srun_base]
  exact ⟨rfl, rfl⟩

theorem split_launch_after_producers_final (wf : Wf) (sops : List SOp) :
    ∀ e ∈ (srun wf sops).base.log, ∀ pv ∈ e.2,
      pv.2.state.isSome = true ∨
        ((wf.cdef e.1).isRepeat = true ∧ (wf.cdef pv.1).stage = (wf.cdef e.1).stage ∧
          pv.2.staged = true) :=
  fun e he => ((srun_inv wf sops).inv.log e he).final

theorem split_never_launch_on_failed (wf : Wf) (sops : List SOp) :
    ∀ e ∈ (srun wf sops).base.log, ∀ pv ∈ e.2, pv.2.state ≠ some .failed :=
  fun e he => ((srun_inv wf sops).inv.log e he).nofail

theorem split_never_launch_on_shutdown_nonaggregating (wf : Wf) (sops : List SOp) :
    ∀ e ∈ (srun wf sops).base.log, (wf.cdef e.1).isAgg = false →
      ∀ pv ∈ e.2, pv.2.state ≠ some .shutdown :=
  fun e he => ((srun_inv wf sops).inv.log e he).nonagg

theorem split_aggregating_rule (wf : Wf) (sops : List SOp) :
    ∀ e ∈ (srun wf sops).base.log, (wf.cdef e.1).isAgg = true →
      (∀ pv ∈ e.2, (wf.cdef pv.1).isRepl = false → pv.2.state ≠ some .shutdown) ∧
      ((∃ pv ∈ e.2, (wf.cdef pv.1).isRepl = true) →
        ∃ pv ∈ e.2, (wf.cdef pv.1).isRepl = true ∧ pv.2.state ≠ some .shutdown) :=
  fun e he ha => ⟨((srun_inv wf sops).inv.log e he).agg1 ha, ((srun_inv wf sops).inv.log e he).agg2 ha⟩

theorem split_log_lists_all_producers (wf : Wf) (sops : List SOp) :
    ∀ e ∈ (srun wf sops).base.log, e.2.map Prod.fst = (wf.cdef e.1).preds :=
  fun e he => ((srun_inv wf sops).inv.log e he).preds

theorem split_launched_has_log_entry (wf : Wf) (sops : List SOp) (c : Nat) :
    ((srun wf sops).base.comp c).ran = true → ∃ e ∈ (srun wf sops).base.log, e.1 = c :=
  (srun_inv wf sops).inv.ran c

/-- Members of `comp_done` are final, and so is every component whose notification is being handled. -/
theorem split_done_or_inflight_implies_final (wf : Wf) (sops : List SOp) (c : Nat) :
    ((srun wf sops).base.done c = true ∨ ∃ ph, (c, ph) ∈ (srun wf sops).inflight) →
      ((srun wf sops).base.comp c).ctrl.isSome = true := by
  rintro (h | ⟨ph, h⟩)
  · exact (srun_inv wf sops).inv.core.done c h
  · exact (srun_inv wf sops).fly (c, ph) h

/-- Final states stay what they are in every continuation of a split history. -/
theorem split_final_is_permanent (wf : Wf) (sops sops' : List SOp) (c : Nat) (f : Fin3) :
    ((srun wf sops).base.comp c).ctrl = some f → ((srun wf (sops ++ sops')).base.comp c).ctrl = some f :=
  srun_append_keeps wf sops sops' c f

/-! ### non-vacuity of the split system

`wfEx3`: replica 0 fails.  Its notification is handled in three parts; a scheduler pass runs between
the critical region (stage stopped, component 2 asked to shut down) and `comp_done.add`, another one
after it, and the notification of replica 1 is handled (atomically) while that of replica 0 waits for
the lock. -/

def sopsEx3 : List SOp :=
  [.base .sched, .base .sched, .base (.exit 0), .base (.pm 0), .base (.exit 1), .base (.pm 1),
   .finPre 0, .base (.fin 1), .base .sched, .finCrit 0, .base .sched, .finPost 0, .base .sched,
   .base (.exit 2), .base (.fin 2), .base (.fin 3)]

example : (srun wfEx3 sopsEx3).base.log.map (·.1) = [0, 1, 2] ∧
    ((srun wfEx3 sopsEx3).base.comp 3).ran = false ∧
    ((srun wfEx3 sopsEx3).base.comp 3).ctrl = some .shutdown ∧ (srun wfEx3 sopsEx3).inflight = [] ∧
    (srun wfEx3 sopsEx3).base.done 0 = true := by decide +kernel

/-- in the middle of that history the notification of component 0 is in flight, waiting for `finPost`:
the stage has been stopped, component 0 is not yet in `comp_done` -/
example : (srun wfEx3 (sopsEx3.take 11)).inflight = [(0, .waitRecord)] ∧
    (srun wfEx3 (sopsEx3.take 11)).base.done 0 = false ∧
    ((srun wfEx3 (sopsEx3.take 11)).base.comp 2).finishCalled = true := by decide +kernel

/-! ### a repeating consumer of a producer of an EARLIER stage

`0` (stage 0) → repeating `1` (stage 1).  The exception of the main clause covers same-stage producers only:
the scheduler pass that runs while stage 0 is current and `0` is running (staged in) does not launch `1`;
it is launched once `0` has been recorded. -/

def wfRepLater : Wf where
  n := 2
  lastStage := 1
  cdef := fun c => match c with
    | 0 => {}
    | 1 => { stage := 1, preds := [0], isRepeat := true }
    | _ => {}
  order := [1, 0]

example : (run wfRepLater [.sched, .sched, .sched]).log = [(0, [])] ∧
    ((run wfRepLater [.sched, .sched, .sched]).comp 0).staged = true := by decide +kernel

example : (run wfRepLater [.sched, .sched, .exit 0, .pm 0, .sched, .fin 0, .sched]).log =
    [(0, []), (1, [(0, { state := some .finished, staged := true })])] := by decide +kernel

/-! ### the external stage-completion hook (`SOp.complete k`, `Ctrl.stopStage`)

`0` (stage 0, running) → `1` (stage 1).  The hook of stage 0 fires: `0` is asked to shut down, its task is
still being killed.  The scheduler passes in that window do not launch `1` (its producer is not final and
not recorded); once the kill has completed and the notification has been handled, `1` is shut down without
running.  All `split_…` theorems above quantify over histories with `complete` operations. -/

def sopsHook : List SOp :=
  [.base .sched, .complete 0, .base .sched, .base .sched, .base (.exit 0), .base .sched, .base (.fin 0),
   .base .next, .base .sched, .base (.fin 1)]

example : ((srun wfEx3 [.base .sched, .complete 0]).base.comp 2).finishCalled = true ∧
    ((srun wfEx3 [.base .sched, .complete 0]).base.comp 2).ctrl = none := by decide +kernel

def wfHook : Wf where
  n := 2
  lastStage := 1
  cdef := fun c => match c with
    | 0 => {}
    | 1 => { stage := 1, preds := [0] }
    | _ => {}
  order := [1, 0]

example : (srun wfHook (sopsHook.take 4)).base.log = [(0, [])] ∧
    ((srun wfHook (sopsHook.take 4)).base.comp 0).finishCalled = true ∧
    ((srun wfHook (sopsHook.take 4)).base.comp 0).ctrl = none ∧
    (srun wfHook (sopsHook.take 4)).base.done 0 = false := by decide +kernel

example : (srun wfHook sopsHook).base.log = [(0, [])] ∧ ((srun wfHook sopsHook).base.comp 1).ran = false ∧
    (List.range 2).map (fun c => ((srun wfHook sopsHook).base.comp c).ctrl) = [some .shutdown, some .shutdown] ∧
    (srun wfHook sopsHook).base.cur = 1 ∧ (srun wfHook sopsHook).base.done 1 = true := by decide +kernel

/-! ## Consumers of a DoWhile loop (`St4sd.CtrlLoop`): the set of producers grows while the workflow runs

The consumer outside the loop has an edge from every instantiated instance of the looped components it references
and from the producer of the current condition.  For every loop, every list of condition answers and every history
of task exits / the two locked parts of `finishedCheck` / scheduler passes (dependencies inside the loop abstracted
away, so in particular the histories in which an older instance outlives the newer iterations): -/

/-- What the launch of the consumer saw: every instance - of EVERY iteration instantiated so far, not only of the
latest one - of every looped component it references was over and recorded in `comp_done`. -/
theorem loop_launch_after_every_instance_over (L : CtrlLoop.Loop) (script : List Bool) (ops : List CtrlLoop.Op) :
    ∀ c lp, (CtrlLoop.run L script ops).launched = some (c, lp) →
      ∀ k, k ≤ c → ∀ n ∈ L.refs, n < L.n → lp k n = 3 :=
  fun c lp h k hk => (((C01Loop.inv_run L script ops).launch c lp h).2.2 k hk).1

/-- ... and every producer of a loop condition so far (the consumer has an edge from each of them). -/
theorem loop_launch_after_every_condition_producer_over (L : CtrlLoop.Loop) (script : List Bool)
    (ops : List CtrlLoop.Op) :
    ∀ c lp, (CtrlLoop.run L script ops).launched = some (c, lp) → ∀ k, k ≤ c → lp k L.cond = 3 :=
  fun c lp h k hk => (((C01Loop.inv_run L script ops).launch c lp h).2.2 k hk).2

/-- No iteration is instantiated after the consumer was launched: the loop is still at the iteration the launch
saw (the producer of the current condition was in `comp_done`, and the next iteration is created before that). -/
theorem loop_no_iteration_after_launch (L : CtrlLoop.Loop) (script : List Bool) (ops : List CtrlLoop.Op) :
    ∀ c lp, (CtrlLoop.run L script ops).launched = some (c, lp) → (CtrlLoop.run L script ops).cur = c :=
  fun c lp h => ((C01Loop.inv_run L script ops).launch c lp h).1.symm

/-- The launch record is permanent. -/
theorem loop_launch_is_permanent (L : CtrlLoop.Loop) (script : List Bool) (ops ops' : List CtrlLoop.Op)
    (v : Nat × (Nat → Nat → Nat)) (h : (CtrlLoop.run L script ops).launched = some v) :
    (CtrlLoop.run L script (ops ++ ops')).launched = some v := by
  unfold CtrlLoop.run at *
  rw [List.foldl_append]
  exact C01Loop.launched_foldl L ops' _ v h

/-- The statement the end-of-run oracle of the harness evaluates: every instance the consumer FINALLY consumes
from (whatever happens after its launch: `ops'`) was over and recorded when the consumer was launched. -/
theorem loop_consumer_launched_after_all_its_final_producers (L : CtrlLoop.Loop) (script : List Bool)
    (ops ops' : List CtrlLoop.Op) (c : Nat) (lp : Nat → Nat → Nat)
    (h : (CtrlLoop.run L script ops).launched = some (c, lp)) :
    ∀ k, k ≤ (CtrlLoop.run L script (ops ++ ops')).cur → ∀ n ∈ L.refs, n < L.n → lp k n = 3 := by
  have h' := loop_launch_is_permanent L script ops ops' (c, lp) h
  have e := loop_no_iteration_after_launch L script (ops ++ ops') c lp h'
  intro k hk
  exact loop_launch_after_every_instance_over L script (ops ++ ops') c lp h' k (by omega)

/-- iterations that were never instantiated have no history (instances exist for the iterations `≤ cur` only) -/
theorem loop_uninstantiated_iterations_untouched (L : CtrlLoop.Loop) (script : List Bool) (ops : List CtrlLoop.Op) :
    ∀ k n, (CtrlLoop.run L script ops).cur < k → (CtrlLoop.run L script ops).ph k n = 0 :=
  (C01Loop.inv_run L script ops).fresh

/-- two looped components, `0` produces the condition, the consumer references `1` (off the critical path) -/
def loopEx : CtrlLoop.Loop := { n := 2, cond := 0, refs := [1] }

/-- iteration 0 of component 1 is still running while iteration 1 is instantiated, runs and is over -/
def loopOpsLaggard : List CtrlLoop.Op :=
  [.exit 0 0, .crit 0 0 true, .post 0 0, .exit 1 0, .crit 1 0 true, .post 1 0,
   .exit 1 1, .crit 1 1 true, .post 1 1, .sched]

/-- non-vacuity: the consumer is launched after two iterations, and not while the laggard runs -/
example : (CtrlLoop.run loopEx [true, false] loopOpsLaggard).launched.isNone = true ∧
    (CtrlLoop.run loopEx [true, false] loopOpsLaggard).cur = 1 := by decide

example : ((CtrlLoop.run loopEx [true, false]
      (loopOpsLaggard ++ [.exit 0 1, .crit 0 1 true, .sched, .post 0 1, .sched])).launched.map
        (fun v => (v.1, v.2 0 1, v.2 1 1))) = some (1, 3, 3) := by decide +kernel

end St4sd.C01
