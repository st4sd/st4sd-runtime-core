import St4sd.Model.RestartKill
/-!
Witnesses for C12: the code before the repairs (`ctrlRestartOld` = `restartHookOn` tested before the
SubmissionFailed/cap branch, with `repeatingRestartOld` = `maxRestarts`/`restartHookOn` never read by
`RepeatingEngine.restart`) violates the full statements proved in `Props/C12.lean` for the repaired order.
The harness replays the same inputs on the real code (corpus of harness/c12.py).
-/
namespace St4sd.C12.Witness
open St4sd.Restart St4sd.Gen

/-- component that lists SubmissionFailed in restartHookOn (accepted by the schema) -/
def cfgListsSF : Cfg := ⟨none, false, [.submissionFailed], false, false, .scripted⟩
def subFailed : Inp := ⟨.submissionFailed, .ctx .possible, false, false, true, .task⟩

/-- Six consecutive failed submissions are all answered by RestartInitiated: the cap of five is never
consulted (`resubmission_cap` is false of the old order) … -/
theorem old_order_exceeds_cap :
    schemaValid cfgListsSF = true ∧
    (execOld false cfgListsSF St.init (List.replicate 6 subFailed)).all Ev.isResub = true ∧
    ¬ (List.replicate 6 subFailed).length ≤ C12.resubmissionCap := by decide +kernel

/-- … and it goes on: twelve in a row, counter at twelve. -/
theorem old_order_twelve :
    (finalOld false cfgListsSF St.init (List.replicate 12 subFailed)).resub = 12 := by decide

/-- the repaired order refuses the sixth -/
theorem new_order_caps :
    (exec false cfgListsSF St.init (List.replicate 6 subFailed)).map (·.code) =
      [.initiated, .initiated, .initiated, .initiated, .initiated, .maxAttemptsExceeded] := by decide +kernel

/-- repeating component with `maxRestarts: 0` -/
def cfgRepeatingZero : Cfg := ⟨some 0, false, [.resourceExhausted], false, true, .fallback⟩
def exhausted (stable : Bool) : Inp := ⟨.resourceExhausted, .junk, false, false, stable, .none⟩

/-- `RepeatingEngine.restart` never reads maxRestarts: one restart although the maximum is zero
(`restarts_le_max` is false of the old code) -/
theorem old_repeating_ignores_max :
    schemaValid cfgRepeatingZero = true ∧ effMax cfgRepeatingZero = 0 ∧
    (finalOld false cfgRepeatingZero St.init [exhausted true]).restarts = 1 ∧
    (final false cfgRepeatingZero St.init [exhausted true]).restarts = 0 := by decide +kernel

/-- repeating component that does not list ResourceExhausted -/
def cfgRepeatingUnlisted : Cfg := ⟨none, false, [.knownIssue], false, true, .fallback⟩

/-- with an unstable system the controller's third branch restarts the RepeatingEngine although the exit
reason is not listed (`only_listed_reasons` is false of the old code) -/
theorem old_repeating_restarts_unlisted :
    Reason.resourceExhausted ∉ cfgRepeatingUnlisted.hookOn ∧
    (execOld false cfgRepeatingUnlisted St.init [exhausted false]).map (·.code) = [.initiated] ∧
    (exec false cfgRepeatingUnlisted St.init [exhausted false]).map (·.code) = [.notRequired] := by decide +kernel

/-- If the streak of failed submissions were ended by the creation of a Task object (reset in `SetLaunchTime`)
instead of by a successful task, tasks that are created fine and then REPORT SubmissionFailed would be
re-submitted without bound: seven in a row are all answered by RestartInitiated, the counter never passes 1
(`resubmissions_without_success_le_cap` is false of that variant) … -/
theorem reset_at_creation_exceeds_cap :
    (execGen arriveResetAtCreation ctrlRestart true ⟨none, false, [.knownIssue], false, false, .scripted⟩ St.init
        (List.replicate 7 subFailed)).all Ev.isResub = true ∧
    (finalGen arriveResetAtCreation ctrlRestart true ⟨none, false, [.knownIssue], false, false, .scripted⟩ St.init
        (List.replicate 7 subFailed)).resub = 1 := by decide +kernel

/-- … while the code as it is refuses the sixth and finalises the component -/
theorem reset_on_success_caps :
    (exec true ⟨none, false, [.knownIssue], false, false, .scripted⟩ St.init (List.replicate 7 subFailed)).map
      (fun e => (e.code, e.st.shutdown)) =
      [(.initiated, false), (.initiated, false), (.initiated, false), (.initiated, false), (.initiated, false),
       (.maxAttemptsExceeded, true), (.maxAttemptsExceeded, true)] := by decide +kernel

/-! ## The loader and the hook cache -/

/-- a component that writes `restartHookOn: []` -/
def wEmpty : Written := ⟨none, none, some []⟩
def exhaustedTask : Inp := ⟨.resourceExhausted, .ctx .possible, false, false, true, .task⟩

/-- a defaulting of the `written or default` kind turns the explicit empty list into `[ResourceExhausted]` and the
task of a component that lists nothing is started again (three times: the default budget) … -/
theorem falsy_defaulting_restarts_unlisted :
    (loadFalsy wEmpty).hookOn = [.resourceExhausted] ∧
    (exec false ((loadFalsy wEmpty).cfg false false .scripted) St.init (List.replicate 4 exhaustedTask)).map (·.code) =
      [.initiated, .initiated, .initiated, .maxAttemptsExceeded] := by decide +kernel

/-- … and loses an explicit `maxRestarts: 0`; the loader as it is keeps both. -/
theorem falsy_defaulting_loses_zero :
    (loadFalsy ⟨some 0, none, none⟩).maxRestarts = none ∧ (load ⟨some 0, none, none⟩).maxRestarts = some 0 ∧
    (exec false ((load wEmpty).cfg false false .scripted) St.init (List.replicate 4 exhaustedTask)).all
      (fun e => e.code != .initiated) = true := by decide +kernel

def allowRefuse : String → HookAns := fun f => if f = "allow.py" then .ctx .possible else .ctx .notPossible
def firstSecond : Nat → MCfg := fun k =>
  ⟨⟨none, true, [.resourceExhausted], false, false, .scripted⟩, if k = 0 then "allow.py" else "refuse.py"⟩

/-- importing the hook once per instance (cache keyed by the hooks directory only): the component whose own file
refuses is restarted by the answer of the other component's file (and without bound: hook file named, no maximum),
while with per-component selection it is refused and gets its final state. -/
theorem shared_hook_cache_restarts_refused_component :
    (allowRefuse (firstSecond 1).hookFile).refuses = true ∧
    (eventsOf 1 (mexecCached true allowRefuse firstSecond none (fun _ => St.init)
      ([⟨0, exhaustedTask⟩] ++ List.replicate 6 ⟨1, exhaustedTask⟩))).all (fun e => e.code == .initiated) = true ∧
    (eventsOf 1 (mexec true allowRefuse firstSecond (fun _ => St.init)
      ([⟨0, exhaustedTask⟩] ++ List.replicate 6 ⟨1, exhaustedTask⟩))).all (fun e => e.code != .initiated) = true := by
  decide +kernel

/-- `Engine.restart` without its `self.process = None` (`keep = true`): the kill that arrives in the launch delay of
the restart is reported with the exit reason of the previous task, the restart is initiated and `run()` is called
again - `killed_before_launch_never_started_again` is false of that variant; with the reset the same history is refused. -/
theorem stale_task_object_restarts_killed_task :
    let c : Cfg := ⟨none, false, [.resourceExhausted], false, false, .fallback⟩
    let k : RestartKill.Arrival → RestartKill.KInp := fun a => ⟨a, ⟨.success, .ctx .possible, true, false, true, .task⟩⟩
    let hist := [k (.exits .task .resourceExhausted), k .kill]
    schemaValid c = true ∧
    (RestartKill.kexec true true c (St.init, RestartKill.run RestartKill.Eng.init) hist).map
      (fun ev => (ev.killable, ev.reported, ev.code, ev.st.runs)) =
      [(true, .resourceExhausted, .initiated, 1), (true, .resourceExhausted, .initiated, 2)] ∧
    (RestartKill.kexec false true c (St.init, RestartKill.run RestartKill.Eng.init) hist).map
      (fun ev => (ev.killable, ev.reported, ev.code, ev.st.runs)) =
      [(true, .resourceExhausted, .initiated, 1), (true, .killed, .couldNotInitiate, 1)] := by decide +kernel

end St4sd.C12.Witness
