import St4sd.Lemmas.C17
/-!
# C17 — Component environments are built only from their declared sources

Theorems about `Model/Env.lean` (`envForNode` = `environmentForNode`, conf.py 1163-1383 with
flowir.py 5502-5590).  `has d k` = "`k` is a key of the dictionary `d`".

The last comprehension of `environmentWithName` drops variables whose declared value is the empty string
(conf.py 1362-1367).  The property is about the *sources* of the variables of the result (and their layering
and expansion), all theorems below are stated for the code as it is; `nonempty_declared_kept` states what is
guaranteed to be present.
-/
namespace St4sd.C17
open St4sd.Str St4sd.Assoc St4sd.Env

deriving instance DecidableEq for Except

/-- key-wise description of the final expansion -/
theorem dget_expandAll (launch env : Dict) (k : S) : dget (expandAll launch env) k = expandVal launch env k := by
  unfold expandAll
  rw [dget_filterMap_key]
  unfold expandVal
  cases dget env k <;> rfl

theorem has_expandAll {launch env : Dict} {k : S} (h : has (expandAll launch env) k) : has env k := by
  rw [has, dget_expandAll, expandVal] at h
  cases hd : dget env k with
  | none => rw [hd] at h; cases h
  | some v => rw [has, hd]; rfl

/-- **keys_only_from_declared_sources.**  Every variable of a component's task environment comes from the
runtime's system variables, from the selected source (`selected`: nothing / the default environment /
the named environment of the platform layered over the default platform's), is a launch variable that the
environment imports by name through `DEFAULTS`, or — for interpreter components only — is one of the four
search-path variables of the launch environment.  No other launch variable appears. -/
theorem keys_only_from_declared_sources (sys : Dict) (e : Envs) (plat : S) (launch : Dict) (name : Option S)
    (interp : Bool) (sel r : Dict) (hsel : selected e plat launch name = .ok sel)
    (h : envForNode sys e plat launch name interp = .ok r) (k : S) (hk : has r k) :
    has sys k ∨ has sel k ∨ (k ∈ importNames (dupdate sys sel) ∧ has launch k)
      ∨ (interp = true ∧ k ∈ interpVars ∧ has launch k) := by
  unfold envForNode envWithName at h
  simp only [hsel, if_true] at h
  injection h with h
  subst h
  have step : has (expandAll launch (applyDefaults launch (dupdate sys sel) true)) k →
      has sys k ∨ has sel k ∨ (k ∈ importNames (dupdate sys sel) ∧ has launch k)
        ∨ (interp = true ∧ k ∈ interpVars ∧ has launch k) := fun h1 =>
    match has_applyDefaults (has_expandAll h1) with
    | .inl h2 => (isSome_dget_dupdate h2).elim Or.inl fun h3 => Or.inr (Or.inl h3)
    | .inr h2 => Or.inr (Or.inr (Or.inl h2))
  cases interp with
  | false => exact step hk
  | true =>
    simp only [if_true] at hk
    rcases has_foldl has_interpStep interpVars _ k hk with h1 | h1
    · exact step h1
    · exact Or.inr (Or.inr (Or.inr ⟨rfl, h1⟩))

/-- corollary: a launch variable that is not a system variable, not declared by the selected source, not
imported through `DEFAULTS` and not an interpreter search-path variable never appears. -/
theorem no_launch_leak (sys : Dict) (e : Envs) (plat : S) (launch : Dict) (name : Option S)
    (interp : Bool) (sel r : Dict) (hsel : selected e plat launch name = .ok sel)
    (h : envForNode sys e plat launch name interp = .ok r) (k : S)
    (h1 : ¬ has sys k) (h2 : ¬ has sel k) (h3 : k ∉ importNames (dupdate sys sel))
    (h4 : interp = false ∨ k ∉ interpVars) : dget r k = none := by
  cases hr : dget r k with
  | none => rfl
  | some v =>
    have := keys_only_from_declared_sources sys e plat launch name interp sel r hsel h k (by simp [has, hr])
    rcases this with h | h | h | h
    · exact absurd h h1
    · exact absurd h h2
    · exact absurd h.1 h3
    · rcases h4 with h4 | h4
      · rw [h4] at h; simp at h
      · exact absurd h.2.1 h4

/-- literal of an input document read key-wise (a repeated key keeps its last value) -/
def litGet : Except Err Dict → S → Option S
  | .ok d, k => dgetLast d k
  | .error _, _ => none

/-- **platform_over_default.**  The named environment visible to a platform is, key by key, the value the
platform's own environment of that name declares, else the value the default platform's environment of that
name declares — whichever of the two exist. -/
theorem platform_over_default (e : Envs) (nm plat : S) (r : Dict) (h : getEnv e nm plat = .ok r) (k : S) :
    dget r k = match litGet (platEnv e nm plat) k with
      | some v => some v
      | none => litGet (platEnv e nm sDefault) k := by
  -- the answer is a function of the two answers of `platEnv`: by cases on them
  unfold getEnv at h
  by_cases hp : (plat == sDefault) = true
  · obtain rfl : plat = sDefault := eq_of_beq hp
    rw [if_pos hp] at h
    generalize platEnv e nm sDefault = D at h ⊢
    cases D <;> cases h
    simp only [litGet, dget_copy]
    cases dgetLast _ k <;> rfl
  · rw [if_neg hp] at h
    generalize platEnv e nm plat = P at h ⊢
    generalize platEnv e nm sDefault = D at h ⊢
    cases P <;> cases D <;> cases h
    · exact dget_copy _ k
    · simp only [litGet, dget_copy]
      cases dgetLast _ k <;> rfl
    · exact dget_layers _ _ k

/-- **unknown_env_is_error.**  A named environment (not `none`, not the default one) that neither the selected
platform nor the default platform defines is an error, for every launch environment and interpreter flag. -/
theorem unknown_env_is_error (sys : Dict) (e : Envs) (plat : S) (launch : Dict) (name : Option S) (interp : Bool)
    (h1 : (normName name == sEnvironment) = false) (h2 : (normName name == sNone) = false)
    (hp : platEnv e (normName name) plat = .error .unknownEnv)
    (hd : platEnv e (normName name) sDefault = .error .unknownEnv) :
    envForNode sys e plat launch name interp = .error .unknownEnv := by
  unfold envForNode envWithName selected
  simp only [h1, h2, Bool.false_eq_true, if_false]
  unfold getEnv
  by_cases hpd : (plat == sDefault) = true
  · simp [hpd, hd]
  · simp [hpd, hp, hd]

/-- … and conversely an environment defined on either of the two platforms is never an error. -/
theorem defined_env_is_ok (sys : Dict) (e : Envs) (plat : S) (launch : Dict) (name : Option S) (interp : Bool)
    (h : (∃ d, platEnv e (normName name) plat = .ok d) ∨ (∃ d, platEnv e (normName name) sDefault = .ok d)) :
    ∃ r, envForNode sys e plat launch name interp = .ok r := by
  have hsel : ∃ sel, selected e plat launch name = .ok sel := by
    simp only [selected]
    split
    · exact ⟨_, rfl⟩
    · split
      · exact ⟨_, rfl⟩
      · exact getEnv_defined h
  obtain ⟨sel, hsel⟩ := hsel
  unfold envForNode envWithName
  rw [hsel]
  exact ⟨_, rfl⟩

/-- **none_is_system_only.**  A component that selects the empty environment (`none`, any case) gets nothing
but the runtime's system variables (which never contain a `DEFAULTS` entry) — plus, for interpreter components,
the search-path variables. -/
theorem none_is_system_only (sys : Dict) (e : Envs) (plat : S) (launch : Dict) (name : Option S) (interp : Bool)
    (r : Dict) (hn : normName name = sNone) (hs : dget sys sDEFAULTS = none)
    (h : envForNode sys e plat launch name interp = .ok r) (k : S) (hk : has r k) :
    has sys k ∨ (interp = true ∧ k ∈ interpVars ∧ has launch k) := by
  have hsel : selected e plat launch name = .ok [] := by
    unfold selected
    rw [hn]
    have : (sNone == sEnvironment) = false := by decide +kernel
    simp [this]
  rcases keys_only_from_declared_sources sys e plat launch name interp [] r hsel h k hk with h1 | h1 | h1 | h1
  · exact Or.inl h1
  · simp [has, dget] at h1
  · have : importNames (dupdate sys []) = [] := by
      simp [importNames, dupdate, hs]
    rw [this] at h1
    simp at h1
  · exact Or.inr h1

private theorem lower_isEmpty (a : S) : (lower a).isEmpty = a.isEmpty := by
  cases a <;> simp [lower]

/-- **case_insensitive_name.**  The spelling (case) of the environment name a component selects is irrelevant:
two names with the same lower-case form give the same result (`NONE` is `none`, `Environment` the default). -/
theorem case_insensitive_name (sys : Dict) (e : Envs) (plat : S) (launch : Dict) (n₁ n₂ : S) (interp : Bool)
    (h : lower n₁ = lower n₂) :
    envForNode sys e plat launch (some n₁) interp = envForNode sys e plat launch (some n₂) interp := by
  have : normName (some n₁) = normName (some n₂) := by
    unfold normName
    have he : n₁.isEmpty = n₂.isEmpty := by rw [← lower_isEmpty n₁, ← lower_isEmpty n₂, h]
    simp only [he, h]
  unfold envForNode envWithName selected
  rw [this]

/-! ### expansion reads only what the value mentions -/

/-- the result of `$NAME`/`${NAME}` substitution depends on the mapping only through the names that the
string references (both for `string.Template.safe_substitute` and `os.path.expandvars`) -/
theorem render_congr (lk₁ lk₂ : S → Option S) (ts : List Tok) (h : ∀ n ∈ refNames ts, lk₁ n = lk₂ n) :
    render lk₁ ts = render lk₂ ts := by
  induction ts with
  | nil => rfl
  | cons t r ih =>
    cases t with
    | lit c => exact congrArg (c :: ·) (ih h)
    | ref n o =>
      simp only [render]
      rw [h n List.mem_cons_self, ih fun m hm => h m (List.mem_cons_of_mem _ hm)]

/-- **value_depends_only_on_mentioned_launch_vars.**  The expanded value of a variable depends on the launch
environment only through the names that are still referenced after the value has been expanded from the
environment itself: two launch environments that agree on those names give the same value. -/
theorem value_depends_only_on_mentioned_launch_vars (env l₁ l₂ : Dict) (k : S)
    (h : ∀ v, dget env k = some v →
      ∀ n ∈ refNames (tokE .normal (substT (dget env) v)), dget l₁ n = dget l₂ n) :
    expandVal l₁ env k = expandVal l₂ env k := by
  unfold expandVal
  cases hd : dget env k with
  | none => rfl
  | some v =>
    simp only
    split
    · rfl
    · unfold expandvars
      rw [render_congr _ _ _ (h v hd)]

/-- first the environment itself, then the launch environment: a reference to a variable of the environment
is never resolved from the launch environment.  (Stated on tokens: after self-substitution of a value that is
a single reference `$n` to a variable the environment defines with a reference-free value `w`, the launch
environment is not consulted.) -/
theorem self_before_launch (env l₁ l₂ : Dict) (k n w : S) (hk : dget env k = some ('$' :: n))
    (htok : tokT .normal ('$' :: n) = [.ref n ('$' :: n)]) (hn : dget env n = some w)
    (hw : refNames (tokE .normal w) = []) :
    expandVal l₁ env k = expandVal l₂ env k := by
  apply value_depends_only_on_mentioned_launch_vars
  intro v hv
  rw [hk] at hv
  injection hv with hv
  subst hv
  simp [substT, htok, render, hn, hw]

/-- what is guaranteed to be present: a variable of the system variables / selected source whose value, after
the `DEFAULTS` imports, is not the empty string (variables with an empty value are dropped, as coded). -/
theorem nonempty_declared_kept (launch env : Dict) (k v : S) (h : dget env k = some v) (hv : v.isEmpty = false) :
    has (expandAll launch env) k := by
  unfold has
  rw [dget_expandAll]
  simp [expandVal, h, hv]

/-! ### the document a replicated configuration reads (`FlowIRConcrete.instance`) -/

/-- **instance_platform_over_default.**  Also in the document that `instance(platform)` produces — the one every
replicated (non-primitive) configuration, hence every running experiment, reads — the named environment visible
to the platform is, key by key, the value the platform's own environment of that name declares *in the package*
(`e`), else the value the default platform's environment of that name declares: flattening keeps the layering
(as repaired by fixes/C17-instance-environment-layering.diff; `Witness/C17.lean` shows the old code did not). -/
theorem instance_platform_over_default (e : Envs) (nm plat : S) (r : Dict)
    (h : getEnv (instEnvs e plat) nm plat = .ok r) (k : S) :
    dget r k = match litGet (platEnv e nm plat) k with
      | some v => some v
      | none => litGet (platEnv e nm sDefault) k := by
  obtain ⟨s, hs, hk⟩ := (getEnv_instEnvs e nm plat).lookups r h
  rw [hk]
  exact platform_over_default e nm plat s hs k

/-- **instance_reload_platform_over_default.**  … and the same after the instance document has been stored and
loaded again (a configuration loaded from an instance directory applies `instance(platform)` to the stored
instance document): flattening twice is, key by key, flattening once. -/
theorem instance_reload_platform_over_default (e : Envs) (nm plat : S) (r : Dict)
    (h : getEnv (instEnvs (instEnvs e plat) plat) nm plat = .ok r) (k : S) :
    dget r k = match litGet (platEnv e nm plat) k with
      | some v => some v
      | none => litGet (platEnv e nm sDefault) k := by
  obtain ⟨r1, h1, hk⟩ := (getEnv_instEnvs _ nm plat).lookups r h
  rw [hk]
  exact instance_platform_over_default e nm plat r1 h1 k

/-- **instance_defined_iff.**  Flattening neither invents nor loses environments: a name is an error for the
replicated configuration exactly when it is one for the package (neither the platform nor the default platform
defines it). -/
theorem instance_defined_iff (e : Envs) (nm plat : S) :
    (∃ r, getEnv (instEnvs e plat) nm plat = .ok r) ↔ (∃ r, getEnv e nm plat = .ok r) :=
  ⟨fun ⟨r, h⟩ => let ⟨s, hs, _⟩ := (getEnv_instEnvs e nm plat).lookups r h; ⟨s, hs⟩,
    (getEnv_instEnvs e nm plat).defined⟩

/-! ### one configuration object, many calls -/

/-- **step_preserves_conf.**  No call changes what the configuration object builds environments from. -/
theorem step_preserves_conf (launch : Dict) (c : Conf) (call : Call) : (step launch c call).1 = c := rfl

/-- **env_call_sequence_independent.**  On one configuration object the answer to a call does not depend on
the calls served before it (environments of other components, of other names, the default environment,
callers rewriting the dictionaries they were handed): every answer of a session is the answer a fresh object
gives — so all single-call theorems above hold for every call of every session. -/
theorem env_call_sequence_independent (launch : Dict) (c : Conf) (calls : List Call) :
    runCalls launch c calls = calls.map (answer launch c) := by
  induction calls with
  | nil => rfl
  | cons call rest ih => simp only [runCalls, step, List.map_cons, ih]

/-- … in particular for a call after any prefix -/
theorem env_after_any_prefix (launch : Dict) (c : Conf) (pre : List Call) (call : Call) :
    (runCalls launch c (pre ++ [call])).getLast? = some (answer launch c call) := by
  rw [env_call_sequence_independent]
  simp

/-! ### non-vacuity -/

private def envs0 : Envs := loadEnvs
  [("default".toList, [("MyEnv".toList, [("A".toList, "1".toList), ("B".toList, "$A/x".toList),
      ("EMPTY".toList, []), ("DEFAULTS".toList, "FOO".toList)])]),
   ("plat".toList, [("myenv".toList, [("A".toList, "2".toList), ("C".toList, "${L}".toList)])])]
private def launch0 : Dict := [("L".toList, "LL".toList), ("FOO".toList, "foo".toList), ("SECRET".toList, "s".toList),
  ("PATH".toList, "/bin".toList)]
private def sys0 : Dict := [("INSTANCE_DIR".toList, "/i".toList)]

example : envForNode sys0 envs0 "plat".toList launch0 (some "MYENV".toList) true =
    .ok [("INSTANCE_DIR".toList, "/i".toList), ("A".toList, "2".toList), ("B".toList, "2/x".toList),
         ("C".toList, "LL".toList), ("FOO".toList, "foo".toList), ("PATH".toList, "/bin".toList)] := by
  simp -index only [sys0, envs0, launch0, String.toList_ofList]
  decide +kernel
example : envForNode sys0 envs0 "plat".toList launch0 (some "nosuch".toList) false = .error .unknownEnv := by
  simp -index only [sys0, envs0, launch0, String.toList_ofList]
  decide +kernel
example : envForNode sys0 envs0 "plat".toList launch0 (some "None".toList) false = .ok sys0 := by
  simp -index only [sys0, envs0, launch0, String.toList_ofList]
  decide +kernel
example : selected envs0 "plat".toList launch0 (some "MYENV".toList) =
    .ok [("A".toList, "2".toList), ("B".toList, "$A/x".toList), ("EMPTY".toList, []), ("DEFAULTS".toList, "FOO".toList),
         ("C".toList, "${L}".toList)] := by
  simp -index only [envs0, launch0, String.toList_ofList]
  decide +kernel
example : tokT .normal "$A".toList = [.ref "A".toList "$A".toList] := by decide +kernel
/-- the replicated configuration (instance document of platform `plat`) gives the same layered environment -/
example : envForNode sys0 (instEnvs envs0 "plat".toList) "plat".toList launch0 (some "MYENV".toList) true =
    .ok [("INSTANCE_DIR".toList, "/i".toList), ("A".toList, "2".toList), ("B".toList, "2/x".toList),
         ("C".toList, "LL".toList), ("FOO".toList, "foo".toList), ("PATH".toList, "/bin".toList)] := by
  simp -index only [sys0, envs0, launch0, String.toList_ofList]
  decide +kernel

/-! ### `%(name)s` references (`Model/C17Vars.lean`) -/

/-- **tokV_lossless.**  The `%(name)s` tokeniser loses nothing: rendering the tokens with no variable defined
gives back the text (every reference keeps its own spelling). -/
theorem tokV_lossless (st : ScV) (s : S) : render (fun _ => none) (tokV st s) = pendV st ++ s := by
  induction s generalizing st with
  | nil => exact (render_lits _ _).trans (List.append_nil _).symm
  | cons c cs ih =>
    have hn : render (fun _ => none) (tokV .normal (c :: cs)) = c :: cs := by
      unfold tokV
      by_cases h : (c == '%') = true
      · rw [if_pos h, ih, eq_of_beq h]; rfl
      · rw [if_neg h]; exact congrArg (c :: ·) (ih .normal)
    -- a candidate that fails at `c` emits what it had consumed and scanning goes on from `c`
    have hfail : ∀ a, render (fun _ => none) (lits a ++ tokV .normal (c :: cs)) = a ++ c :: cs := fun a => by
      rw [render_lits_append, hn]
    cases st with
    | normal => exact hn
    | pct =>
      unfold tokV
      by_cases h : (c == '(') = true
      · rw [if_pos h, ih, eq_of_beq h]; rfl
      · rw [if_neg h]; exact hfail ['%']
    | name acc =>
      unfold tokV
      by_cases h : isVarChar c = true
      · rw [if_pos h, ih]
        simp only [pendV, List.reverse_cons, List.append_assoc, List.cons_append, List.nil_append]
      · rw [if_neg h]
        by_cases h2 : (c == ')' && !acc.isEmpty) = true
        · rw [if_pos h2, ih, eq_of_beq (Bool.and_eq_true_iff.mp h2).1]
          simp only [pendV, List.append_assoc, List.cons_append, List.nil_append]
        · rw [if_neg h2]; exact hfail _
    | close acc =>
      unfold tokV
      by_cases h : (c == 's') = true
      · rw [if_pos h, eq_of_beq h]
        simp only [render, ih, pendV, List.append_assoc, List.cons_append, List.nil_append]
      · rw [if_neg h]; exact hfail _

/-- **value_without_references_unchanged.**  A value that contains no `%(name)s` reference is what it is, in
every context, strict or not: for such values the model of this file is the model of `Model/Env.lean`. -/
theorem value_without_references_unchanged (ctx : Dict) (safe : S → Bool) (fuel : Nat) (v : S)
    (h : refNames (tokV .normal v) = []) :
    interpKeep ctx safe fuel v = v ∧ interpStrict ctx safe fuel v = some v := by
  have h1 : interpKeep ctx safe fuel v = v := by
    unfold interpKeep
    rw [render_congr _ (fun _ => none) _ (by rw [h]; simp), tokV_lossless]; rfl
  refine ⟨h1, ?_⟩
  unfold interpStrict
  rw [renderStrict_no_refs _ _ _ h]
  exact congrArg some h1

/-- **resolution_reads_only_reachable_variables.**  The resolved value of a variable depends on the context only
through the variables reachable from it by references: two contexts that agree on a set `R` of names which is
closed under "is referenced by the text of" give the same answer for every name of `R` (with any fuel). -/
theorem resolution_reads_only_reachable_variables (c₁ c₂ : Dict) (safe : S → Bool) (R : S → Prop)
    (hagree : ∀ n, R n → dget c₁ n = dget c₂ n)
    (hclosed : ∀ n v, R n → dget c₁ n = some v → ∀ m ∈ refNames (tokV .normal v), R m)
    (fuel : Nat) (n : S) (hn : R n) : resolveV c₁ safe fuel n = resolveV c₂ safe fuel n := by
  induction fuel generalizing n with
  | zero => rfl
  | succ f ih =>
    simp only [resolveV]
    rw [← hagree n hn]
    cases hv : dget c₁ n with
    | none => rfl
    | some v => exact renderStrict_congr _ _ safe _ (fun m hm => ih m (hclosed n v hn hv m hm))

/-- … hence the interpolated text of a value whose references lie in `R` -/
theorem interpolation_reads_only_reachable_variables (c₁ c₂ : Dict) (safe : S → Bool) (R : S → Prop)
    (hagree : ∀ n, R n → dget c₁ n = dget c₂ n)
    (hclosed : ∀ n v, R n → dget c₁ n = some v → ∀ m ∈ refNames (tokV .normal v), R m)
    (fuel : Nat) (v : S) (hv : ∀ m ∈ refNames (tokV .normal v), R m) :
    interpKeep c₁ safe fuel v = interpKeep c₂ safe fuel v ∧
      interpStrict c₁ safe fuel v = interpStrict c₂ safe fuel v := by
  have h : ∀ m ∈ refNames (tokV .normal v), resolveV c₁ safe fuel m = resolveV c₂ safe fuel m :=
    fun m hm => resolution_reads_only_reachable_variables c₁ c₂ safe R hagree hclosed fuel m (hv m hm)
  exact ⟨render_congr _ _ _ h, renderStrict_congr _ _ safe _ h⟩

/-- **instance_env_from_own_entries_and_globals.**  In the instance document, the environment called `n` is the
(layered) environment `n` of the package with every value interpolated in the context *global variables of the
platform overlaid by that environment's own entries* — whatever other environments the package declares, in
whatever order. -/
theorem instance_env_from_own_entries_and_globals (e : Envs) (vars : Vars) (plat : S) (safe : S → Bool) (n : S) :
    dget (flatEnvsV e vars plat safe) n =
      (dget (flatEnvs e plat) n).map (fillEnvInst (instGlobals vars plat safe) safe) := by
  unfold flatEnvsV
  exact dget_map_snd _ _ n

/-- … key by key: the text of entry `k`, interpolated with the environment itself and then with
`global variables ∪ own entries` (own entries shadow global variables of the same name, `dget_dupdate`). -/
theorem instance_env_value (g : Dict) (safe : S → Bool) (env : Dict) (k : S) :
    dget (fillEnvInst g safe env) k =
      (dget env k).map fun v =>
        interpKeep (dupdate g env) safe (fuelFor (dupdate g env)) (interpKeep env safe (fuelFor env) v) := by
  unfold fillEnvInst fillKeep
  rw [dget_map_snd, dget_map_snd]
  cases dget env k <;> rfl

/-- own entries shadow global variables in the interpolation context of an environment -/
theorem own_entries_shadow_globals (g env : Dict) (k v : S) (h : dgetLast env k = some v) :
    dget (dupdate g env) k = some v := by
  rw [dget_dupdate, h]

/-- … and a name the environment does not define is looked up in the global variables only -/
theorem other_names_from_globals (g env : Dict) (k : S) (h : dget env k = none) :
    dget (dupdate g env) k = dget g k := by
  rw [dget_dupdate, dgetLast_eq_none h]

/-- **instance_env_independent_of_other_envs.**  Two packages that declare the same environment `nm` for the
selected platform and for the default platform (and the same global variables) have the same environment `nm` in
their instance documents — whatever else they declare: other environments (defining, for instance, variables
whose names collide with global variables that `nm` references), in any order. -/
theorem instance_env_independent_of_other_envs (e₁ e₂ : Envs) (vars : Vars) (nm plat : S) (safe : S → Bool)
    (hp : platEnv e₁ nm plat = platEnv e₂ nm plat) (hd : platEnv e₁ nm sDefault = platEnv e₂ nm sDefault) :
    getEnv (instDoc ⟨e₁, vars⟩ plat safe).envs nm plat = getEnv (instDoc ⟨e₂, vars⟩ plat safe).envs nm plat := by
  simp only [instDoc, getEnv_mkInst]
  cases hn : lower nm == sNone with
  | true => rfl
  | false =>
    simp only [instance_env_from_own_entries_and_globals, dget_flatEnvs, dget_eq_platEnv _ _ hn, hp, hd]

/-- the answer of `environmentForNode` depends on the document only through the environment the name selects
(on the selected and the default platform) and the global variables -/
theorem envForNodeV_congr (sys : Dict) (d₁ d₂ : Doc) (plat : S) (launch : Dict) (name : Option S)
    (interp prim : Bool) (hv : d₁.vars = d₂.vars)
    (he : getEnv d₁.envs (normName name) plat = getEnv d₂.envs (normName name) plat) :
    envForNodeV sys d₁ plat launch name interp prim = envForNodeV sys d₂ plat launch name interp prim := by
  have hsel : selected d₁.envs plat launch name = selected d₂.envs plat launch name := by
    unfold selected defaultEnv
    by_cases h1 : (normName name == sEnvironment) = true
    · have : normName name = sEnvironment := by simpa using h1
      rw [this] at he
      simp only [h1, if_true, he]
    · simp only [h1, Bool.false_eq_true, if_false, he]
  unfold envForNodeV envWithName
  rw [hsel, hv]

/-- **task_env_independent_of_other_envs.**  What a task of a replicated experiment gets does not depend on the
environments its component does not select: two packages that agree on the selected environment (on the selected
and on the default platform) and on the global variables give the same `environmentForNode`, value by value. -/
theorem task_env_independent_of_other_envs (sys : Dict) (e₁ e₂ : Envs) (vars : Vars) (plat : S) (launch : Dict)
    (name : Option S) (interp prim : Bool) (safe : S → Bool)
    (hp : platEnv e₁ (normName name) plat = platEnv e₂ (normName name) plat)
    (hd : platEnv e₁ (normName name) sDefault = platEnv e₂ (normName name) sDefault) :
    envForNodeV sys (instDoc ⟨e₁, vars⟩ plat safe) plat launch name interp prim =
      envForNodeV sys (instDoc ⟨e₂, vars⟩ plat safe) plat launch name interp prim :=
  envForNodeV_congr sys _ _ plat launch name interp prim rfl
    (instance_env_independent_of_other_envs e₁ e₂ vars (normName name) plat safe hp hd)

/-- the same for a primitive configuration (which reads the package itself) -/
theorem primitive_task_env_independent_of_other_envs (sys : Dict) (e₁ e₂ : Envs) (vars : Vars) (plat : S)
    (launch : Dict) (name : Option S) (interp prim : Bool)
    (hp : platEnv e₁ (normName name) plat = platEnv e₂ (normName name) plat)
    (hd : platEnv e₁ (normName name) sDefault = platEnv e₂ (normName name) sDefault) :
    envForNodeV sys ⟨e₁, vars⟩ plat launch name interp prim = envForNodeV sys ⟨e₂, vars⟩ plat launch name interp prim := by
  refine envForNodeV_congr sys ⟨e₁, vars⟩ ⟨e₂, vars⟩ plat launch name interp prim rfl ?_
  show getEnv e₁ (normName name) plat = getEnv e₂ (normName name) plat
  unfold getEnv
  rw [hp, hd]

/-- sessions with `%(name)s` references: every answer is the answer of a fresh object -/
theorem env_call_sequence_independent_V (launch : Dict) (c : ConfV) (calls : List Call) :
    runCallsV launch c calls = calls.map (answerV launch c) := by
  induction calls with
  | nil => rfl
  | cons call rest ih => simp only [runCallsV, stepV, List.map_cons, ih]

/-! non-vacuity: the package of `Witness/C17.lean` (`a_tools` defines `prefix`, `b_tools` references the global
variable `prefix`) with the platform's `b_tools` spelt `B_Tools` and referring to `$BIN_B`; platform `cluster`,
replicated and primitive -/

private def envsV : Envs := loadEnvs
  [("default".toList, [("a_tools".toList, [("prefix".toList, "/opt/a".toList), ("BIN_A".toList, "%(prefix)s/bin".toList)]),
                       ("b_tools".toList, [("BIN_B".toList, "%(prefix)s/bin".toList)])]),
   ("cluster".toList, [("B_Tools".toList, [("LIB_B".toList, "%(prefix)s/lib:$BIN_B".toList)])])]
private def varsV : Vars :=
  [("default".toList, [("prefix".toList, "/global".toList)]), ("cluster".toList, [("prefix".toList, "/cluster".toList)])]

example : envForNodeV sys0 (instDoc ⟨envsV, varsV⟩ "cluster".toList (safeOf false)) "cluster".toList launch0
    (some "B_TOOLS".toList) false false =
    .ok [("INSTANCE_DIR".toList, "/i".toList), ("BIN_B".toList, "/cluster/bin".toList),
         ("LIB_B".toList, "/cluster/lib:/cluster/bin".toList)] := by
  simp -index only [sys0, envsV, varsV, launch0, String.toList_ofList]
  decide +kernel
example : envForNodeV sys0 ⟨envsV, varsV⟩ "cluster".toList launch0 (some "a_tools".toList) false true =
    .ok [("INSTANCE_DIR".toList, "/i".toList), ("prefix".toList, "/opt/a".toList),
         ("BIN_A".toList, "/opt/a/bin".toList)] := by
  simp -index only [sys0, envsV, varsV, launch0, String.toList_ofList]
  decide +kernel
example : envForNodeV sys0 ⟨loadEnvs [("default".toList, [("e".toList, [("K".toList, "%(nosuch)s".toList)])])], []⟩
    "default".toList launch0 (some "e".toList) false false = .error .unknownVar := by
  simp -index only [sys0, launch0, String.toList_ofList]
  decide +kernel
example : tokV .normal "a%(x-1)s%(".toList =
    [.lit 'a', .ref "x-1".toList "%(x-1)s".toList, .lit '%', .lit '('] := by decide +kernel

/-! ### typed scalars as values (`Model/C17Scalar.lean`)

A FlowIR document may give an environment variable an integer, a float, a boolean or nothing instead of a
string.  `get_platform_environment` converts every value with `env_value_to_string` (`Scalar.text`): the theorems
below restate the layering and the "what is present" theorems for typed documents — a value is never lost because
it is *falsy* (`0`, `0.0`, `false`); only null and the empty string have an empty text. -/

/-- the comprehension of `get_platform_environment`, key by key -/
theorem dget_textDict (d : TDict) (k : S) : dget (textDict d) k = (dget d k).map Scalar.text :=
  dget_map_snd _ _ _

/-- **platEnvT_eq.**  `get_platform_environment` as coded on a typed document (look the environment up, then convert
every value) answers what `platEnv` answers on the text document: converting when the document is loaded and
converting when an environment is read are the same thing. -/
theorem platEnvT_eq (e : TEnvs) (nm plat : S) : platEnvT e nm plat = platEnv (textEnvs e) nm plat := by
  unfold platEnvT platRawT platEnv textEnvs textEnvsWith
  by_cases h : (lower nm == sNone) = true
  · simp [h, textDict, textDictWith]
  · simp only [h, Bool.false_eq_true, if_false]
    rw [dget_map_snd]
    cases dget e plat with
    | none => rfl
    | some pe =>
      simp only [Option.map_some]
      rw [dget_map_snd]
      cases dget pe (lower nm) <;> rfl

/-- literal of a typed input document read key-wise (a repeated key keeps its last value) -/
def litGetT : Except Err TDict → S → Option Scalar
  | .ok d, k => dgetLast d k
  | .error _, _ => none

/-- **typed_platform_over_default.**  For a typed package the named environment visible to a platform is, key by
key, the text of the scalar the platform's own environment of that name declares — *whatever that scalar is*: `0`,
`0.0`, `false` and null included, they override the default platform's value like any other — else the text of
the scalar the default platform's environment declares. -/
theorem typed_platform_over_default (e : TEnvs) (nm plat : S) (r : Dict)
    (h : getEnv (textEnvs e) nm plat = .ok r) (k : S) :
    dget r k = match litGetT (platRawT e nm plat) k with
      | some v => some v.text
      | none => (litGetT (platRawT e nm sDefault) k).map Scalar.text := by
  have key : ∀ p, litGet (platEnv (textEnvs e) nm p) k = (litGetT (platRawT e nm p) k).map Scalar.text := by
    intro p
    rw [← platEnvT_eq]
    unfold platEnvT
    cases platRawT e nm p with
    | error x => rfl
    | ok d => exact dgetLast_map_snd _ _ _
  rw [platform_over_default _ _ _ _ h k, key, key]
  cases litGetT (platRawT e nm plat) k <;> rfl

/-- **text_isEmpty.**  Exactly null and the empty string (and a float without text, which does not exist) are
converted to the empty text: no integer and no boolean — `0` and `false` included — is. -/
theorem text_isEmpty (v : Scalar) : v.text.isEmpty = v.declaredEmpty := by
  cases v with
  | null => rfl
  | bool b => cases b <;> rfl
  | int i => exact List.isEmpty_eq_false_iff.mpr (intText_ne_nil i)
  | float t => rfl
  | str s => rfl

/-- **typed_declared_kept.**  A variable the (typed) environment declares with a scalar other than null / the
empty string is present after the final expansion — falsy scalars (`0`, `0.0`, `false`) included. -/
theorem typed_declared_kept (launch : Dict) (env : TDict) (k : S) (v : Scalar) (h : dget env k = some v)
    (hv : v.declaredEmpty = false) : has (expandAll launch (textDict env)) k :=
  nonempty_declared_kept launch (textDict env) k v.text (by rw [dget_textDict, h]; rfl) (by rw [text_isEmpty, hv])

/-- **typed_value_verbatim.**  … and its value is the text of the scalar, verbatim, whatever the launch environment
holds under that or any other name (the text of a number or a boolean contains no `$`). -/
theorem typed_value_verbatim (launch : Dict) (env : TDict) (k : S) (v : Scalar) (h : dget env k = some v)
    (hv : v.declaredEmpty = false) (hlit : ∀ c ∈ v.text, (c == '$') = false) :
    dget (expandAll launch (textDict env)) k = some v.text := by
  rw [dget_expandAll]
  unfold expandVal
  rw [dget_textDict, h]
  simp only [Option.map_some]
  rw [text_isEmpty, hv]
  simp only [Bool.false_eq_true, if_false]
  unfold substT expandvars
  rw [tokT_no_dollar _ hlit, render_lits, tokE_no_dollar _ hlit, render_lits]

/-! non-vacuity: `OMP_NUM_THREADS: 0`, `USE_GPU: false`, `SCALE: 0.0` satisfy the hypotheses; a typed package in
which the selected platform re-declares the default platform's `4 / true / 1.5` as `0 / false / 0.0` -/

example : (Scalar.int 0).declaredEmpty = false ∧ (∀ c ∈ (Scalar.int 0).text, (c == '$') = false) := by decide
example : (Scalar.bool false).declaredEmpty = false ∧ (∀ c ∈ (Scalar.bool false).text, (c == '$') = false) := by
  decide +kernel
example : (Scalar.float "0.0".toList).declaredEmpty = false ∧
    (∀ c ∈ (Scalar.float "0.0".toList).text, (c == '$') = false) := by decide +kernel
example : (Scalar.int (-12)).text = "-12".toList ∧ (Scalar.int 0).text = "0".toList ∧
    (Scalar.int 100000000000000000000).text = "100000000000000000000".toList := by decide +kernel

private def envsT : TEnvs :=
  [("default".toList, [("gpu".toList, [("OMP".toList, .int 4), ("USE_GPU".toList, .bool true),
      ("SCALE".toList, .float "1.5".toList), ("UNSET".toList, .str "d".toList),
      ("LAUNCH".toList, .str "run --threads=${OMP} --gpu=$USE_GPU".toList)])]),
   ("single".toList, [("GPU".toList, [("OMP".toList, .int 0), ("USE_GPU".toList, .bool false),
      ("SCALE".toList, .float "0.0".toList), ("UNSET".toList, .null)])])]

example : envForNodeT sys0 envsT "single".toList [("OMP".toList, "64".toList)] (some "gpu".toList) false true false =
    .ok [("INSTANCE_DIR".toList, "/i".toList), ("OMP".toList, "0".toList), ("USE_GPU".toList, "False".toList),
         ("SCALE".toList, "0.0".toList), ("LAUNCH".toList, "run --threads=0 --gpu=False".toList)] := by
  simp -index only [sys0, envsT, String.toList_ofList]
  decide +kernel
example : envForNodeT sys0 envsT "single".toList [] (some "gpu".toList) false false false =
    envForNodeT sys0 envsT "single".toList [] (some "gpu".toList) false true false := by
  simp -index only [sys0, envsT, String.toList_ofList]
  decide +kernel
example : envForNodeVT sys0 [("default".toList, [("e".toList, [("K".toList, .str "%(n)s/%(b)s/%(K2)s".toList),
      ("K2".toList, .float "0.0".toList)])])] [("default".toList, [("n".toList, .int 0), ("b".toList, .bool false)])]
    "default".toList [] (some "e".toList) false false false =
    .ok [("INSTANCE_DIR".toList, "/i".toList), ("K".toList, "0/False/0.0".toList), ("K2".toList, "0.0".toList)] := by
  simp -index only [sys0, String.toList_ofList]
  decide +kernel

end St4sd.C17
