import St4sd.Lemmas.Assoc
import St4sd.Lemmas.C15Dsl
import St4sd.Props.C03
import St4sd.Model.C15Stages
/-!
# C15 — Loading a package is deterministic

The order sensitive algorithms of package loading (`Model/Layer.lean`) are proved independent of
enumeration orders that the process does not control, and the layering of user variable files is proved to
be "in the order given, the last one winning".  Independence of CPython's hash randomisation itself cannot
be a theorem about this model; it is established by the cross-process comparison of `harness/c15.py`.

DSL 2.0 packages (`Model/DslLoad.lean`): the de-duplication of component environments into `env0, env1, …` is
proved to be a function of every environment *as a mapping* (`env_dedup_perm_invariant`,
`env_dedup_mapping_only`, `env_same_name_iff`, `env_identity_determines_entries`), and the `-I, -II, …` numbering
of duplicate step names a function of the visiting order only (`dup_naming_visit_order_only`,
`dup_naming_prefix_stable`, `dup_naming_first_free`, `dup_names_distinct`).

Replication (`Model/ReplVars.lean`, shared with C03): `FlowIRConcrete.replicate` hands the components to
`FlowIR.apply_replicate` in the iteration order of a *set* of `(stage, name)` tuples, an order that changes with
the hash seed of the process.  `replicate_resolution_visit_order_irrelevant`: the replica counts and aggregate
flags the resolution loop records (those given through `%(var)s` included) are the same set for every such
order, and whether the loop fails does not depend on the order either (`Witness/C15.lean`: a loop that carried
the variables of one component over to the next would not have this property).

The model of `loadVars` is the *repaired* conf.py (fixes/C15-variable-files-order.diff); the code before the
repair is `loadVarsOld` (see `Witness/C15.lean`).
-/
namespace St4sd.C15
open St4sd.Str St4sd.Assoc St4sd.Layer

/-- value of `k` in the last file that defines it -/
def lastDef : List Vars → VKey → Option S
  | [], _ => none
  | f :: r, k =>
    match lastDef r k with
    | some v => some v
    | none => dget f k

private theorem dget_overrideOrd (order : List VKey) (old new : Vars) (k : VKey) :
    dget (overrideOrd order old new) k = if k ∈ order then (dget new k).or (dget old k) else dget old k := by
  unfold overrideOrd
  induction order generalizing old with
  | nil => rfl
  | cons a r ih =>
    rw [List.foldl_cons, ih]
    by_cases hk : k = a
    · subst hk
      cases dget new k <;> simp [dget_dset]
    · have hk' : (a == k) = false := by simpa using Ne.symm hk
      cases dget new a <;> simp [hk, hk', dget_dset]

/-- **override_key_order_irrelevant.**  `override_object` enumerates `keys_novel`/`keys_common` as Python
sets; whatever the enumeration order (any two lists with the same members), the resulting mapping is the
same: every key reads the same value. -/
theorem override_key_order_irrelevant (o₁ o₂ : List VKey) (old new : Vars)
    (h : ∀ k, k ∈ o₁ ↔ k ∈ o₂) (k : VKey) :
    dget (overrideOrd o₁ old new) k = dget (overrideOrd o₂ old new) k := by
  simp only [dget_overrideOrd, h k]

/-- in particular every permutation of the keys gives the same mapping -/
theorem override_perm_irrelevant (o₁ o₂ : List VKey) (old new : Vars) (h : o₁.Perm o₂) (k : VKey) :
    dget (overrideOrd o₁ old new) k = dget (overrideOrd o₂ old new) k :=
  override_key_order_irrelevant o₁ o₂ old new (fun _ => h.mem_iff) k

/-- one layer: the new file wins, otherwise the old value stays -/
theorem dget_override (old new : Vars) (k : VKey) :
    dget (override old new) k = match dget new k with
      | some v => some v
      | none => dget old k := by
  unfold override
  rw [dget_overrideOrd]
  cases hn : dget new k with
  | none => exact ite_self _
  | some v => exact if_pos ((dget_isSome_iff_mem_keys new k).mp (by rw [hn]; rfl))

private theorem dget_foldl_override (fs : List Vars) (acc : Vars) (k : VKey) :
    dget (fs.foldl override acc) k = match lastDef fs k with
      | some v => some v
      | none => dget acc k := by
  induction fs generalizing acc with
  | nil => simp [lastDef]
  | cons f r ih =>
    simp only [List.foldl_cons, ih, lastDef]
    cases h : lastDef r k with
    | some v => simp
    | none => simp [dget_override]

/-- layering reads, for every key, the value of the last file that defines it -/
theorem dget_layerMany (fs : List Vars) (k : VKey) : dget (layerMany fs) k = lastDef fs k := by
  unfold layerMany
  rw [dget_foldl_override]
  cases lastDef fs k <;> simp [dget]

private theorem lastDef_none_iff (fs : List Vars) (k : VKey) :
    lastDef fs k = none ↔ ∀ f ∈ fs, dget f k = none := by
  induction fs with
  | nil => simp [lastDef]
  | cons f r ih =>
    simp only [lastDef, List.mem_cons, forall_eq_or_imp, ← ih]
    cases lastDef r k <;> simp

/-- **last_file_wins.**  When several user variable files are supplied they are layered in the order given:
the value of a variable is the one of the last file (in the given order) that defines it — whatever the
files before it say, for every number of files. -/
theorem last_file_wins (pre post : List Vars) (f : Vars) (k : VKey) (v : S)
    (hf : dget f k = some v) (hpost : ∀ g ∈ post, dget g k = none) :
    dget (layerMany (pre ++ f :: post)) k = some v := by
  rw [dget_layerMany]
  induction pre with
  | nil => simp [lastDef, (lastDef_none_iff post k).mpr hpost, hf]
  | cons p r ih => simp [lastDef, ih]

/-- … and a variable that no file defines is not defined by the layering. -/
theorem undefined_stays_undefined (fs : List Vars) (k : VKey) (h : ∀ f ∈ fs, dget f k = none) :
    dget (layerMany fs) k = none := by
  rw [dget_layerMany, (lastDef_none_iff fs k).mpr h]

/-- **dedup_transparent.**  The de-duplication of the repaired loader (keep the last occurrence of a path,
preserve the order otherwise) is invisible: the variables are exactly those obtained by layering *every* given
path in the order given, also when a path is given several times. -/
theorem dedup_transparent (content : Nat → Vars) (paths : List Nat) (k : VKey) :
    dget (loadVars content paths) k = dget (layerMany (paths.map content)) k := by
  unfold loadVars
  rw [dget_layerMany, dget_layerMany]
  induction paths with
  | nil => simp [dedupKeepLast]
  | cons p r ih =>
    simp only [dedupKeepLast, List.map_cons, lastDef]
    by_cases hp : r.contains p = true
    · simp only [hp, if_true, ih]
      cases h : lastDef (r.map content) k with
      | some v => rfl
      | none =>
        have := (lastDef_none_iff _ k).mp h (content p)
          (List.mem_map.mpr ⟨p, by simpa using hp, rfl⟩)
        simp [this]
    · have hp' : r.contains p = false := by simpa using hp
      simp only [hp', Bool.false_eq_true, if_false, List.map_cons, lastDef, ih]

/-- the full statement for the repaired loader: the last given path that defines `k` wins -/
theorem load_last_path_wins (content : Nat → Vars) (pre post : List Nat) (p : Nat) (k : VKey) (v : S)
    (hf : dget (content p) k = some v) (hpost : ∀ q ∈ post, dget (content q) k = none) :
    dget (loadVars content (pre ++ p :: post)) k = some v := by
  rw [dedup_transparent, List.map_append, List.map_cons]
  apply last_file_wins _ _ _ _ _ hf
  intro g hg
  obtain ⟨q, hq, rfl⟩ := List.mem_map.mp hg
  exact hpost q hq

/-- the value injected into a stage: the stage section of the layered variables wins over the global one -/
theorem effective_stage_over_global (vars : Vars) (i : Nat) (n : S) (v : S)
    (h : dget vars (some i, n) = some v) : effective vars i n = some v := by
  simp [effective, h]

theorem effective_global (vars : Vars) (i : Nat) (n : S)
    (h : dget vars (some i, n) = none) : effective vars i n = dget vars (none, n) := by
  simp [effective, h]

/-! ### memoization serialisation: independent of dictionary and list order -/

/-- equal as Python values up to the order of dictionary entries and list items -/
inductive Reordered : Tree → Tree → Prop
  | prim (s : S) : Reordered (.prim s) (.prim s)
  | dnil : Reordered .dnil .dnil
  | lnil : Reordered .lnil .lnil
  | dcons (k : S) {v v' r r' : Tree} : Reordered v v' → Reordered r r' → Reordered (.dcons k v r) (.dcons k v' r')
  | dswap (k₁ k₂ : S) (v₁ v₂ r : Tree) :
      Reordered (.dcons k₁ v₁ (.dcons k₂ v₂ r)) (.dcons k₂ v₂ (.dcons k₁ v₁ r))
  | lcons (x : S) {r r' : Tree} : Reordered r r' → Reordered (.lcons x r) (.lcons x r')
  | lswap (x y : S) (r : Tree) : Reordered (.lcons x (.lcons y r)) (.lcons y (.lcons x r))
  | trans {a b c : Tree} : Reordered a b → Reordered b c → Reordered a c

/-- keys of the top-level dictionary -/
def dkeys : Tree → List S
  | .dcons k _ r => k :: dkeys r
  | _ => []

/-- dictionaries have no repeated key (true of every Python `dict`), at every level -/
def WF : Tree → Prop
  | .prim _ => True
  | .dnil => True
  | .lnil => True
  | .lcons _ r => WF r
  | .dcons k v r => k ∉ dkeys r ∧ WF v ∧ WF r

private theorem ser_entries_keys : ∀ t : Tree, ((ser t).2.1).map Prod.fst = dkeys t
  | .dcons k _ r => congrArg (k :: ·) (ser_entries_keys r)
  | .prim _ | .dnil | .lnil | .lcons _ _ => rfl

private theorem entries_nodup : ∀ t : Tree, WF t → ((ser t).2.1.map Prod.fst).Nodup
  | .dcons _ _ r, h => List.nodup_cons.mpr ⟨ser_entries_keys r ▸ h.1, entries_nodup r h.2.2⟩
  | .prim _, _ | .dnil, _ | .lnil, _ | .lcons _ _, _ => List.nodup_nil

/-- the serialisation of a dictionary / of a list is a function of its sorted entries / items, which the
reordering permutes -/
private theorem reordered_main {a b : Tree} (h : Reordered a b) :
    WF a → (WF b ∧ (ser a).1 = (ser b).1 ∧ ((ser a).2.1).Perm (ser b).2.1 ∧ ((ser a).2.2).Perm (ser b).2.2) := by
  induction h with
  | prim s | dnil | lnil => exact fun h => ⟨h, rfl, .refl _, .refl _⟩
  | @dcons k v v' r r' _ _ ihv ihr =>
    intro hwf
    obtain ⟨wv, sv, _, _⟩ := ihv hwf.2.1
    obtain ⟨wr, _, pr, _⟩ := ihr hwf.2.2
    have hp : ((k, (ser v).1) :: (ser r).2.1).Perm ((k, (ser v').1) :: (ser r').2.1) := sv ▸ pr.cons _
    have hk : k ∉ dkeys r' := by
      rw [← ser_entries_keys r']
      exact fun hm => hwf.1 (ser_entries_keys r ▸ (pr.map Prod.fst).mem_iff.mpr hm)
    exact ⟨⟨hk, wv, wr⟩, congrArg flat (Sort.sortByKey_perm _ _ hp (entries_nodup _ hwf)), hp, .refl _⟩
  | dswap k₁ k₂ v₁ v₂ r =>
    intro hwf
    have ⟨hk1, hv1, hk2, hv2, hr⟩ := hwf
    have hne : k₁ ≠ k₂ := fun e => hk1 (e ▸ List.mem_cons_self ..)
    exact ⟨⟨fun hm => (List.mem_cons.mp hm).elim (fun e => hne e.symm) hk2, hv2, fun hm => hk1 (List.mem_cons_of_mem _ hm),
        hv1, hr⟩,
      congrArg flat (Sort.sortByKey_perm _ _ (.swap ..) (entries_nodup _ hwf)), .swap .., .refl _⟩
  | @lcons x r r' _ ihr =>
    intro hwf
    obtain ⟨wr, _, _, pl⟩ := ihr hwf
    exact ⟨wr, congrArg concat (Sort.sortS_perm _ _ (pl.cons x)), .refl _, pl.cons x⟩
  | lswap x y r =>
    exact fun hwf => ⟨hwf, congrArg concat (Sort.sortS_perm _ _ (.swap ..)), .refl _, .swap ..⟩
  | trans _ _ ih1 ih2 =>
    intro hwf
    obtain ⟨w1, s1, p1, q1⟩ := ih1 hwf
    obtain ⟨w2, s2, p2, q2⟩ := ih2 w1
    exact ⟨w2, s1.trans s2, p1.trans p2, q1.trans q2⟩

/-- **serialize_perm_invariant.**  The buffer hashed by `_memoization_info_to_hash` does not depend on the
order of the entries of any dictionary nor on the order of the items of any list of the memoization info
(at every nesting level): two infos that are equal as Python values up to such orders get the same hash. -/
theorem serialize_perm_invariant (a b : Tree) (h : Reordered a b) (hwf : WF a) : serialize a = serialize b :=
  (reordered_main h hwf).2.1

/-! ### DSL 2.0: environments are de-duplicated as mappings, duplicate names follow the visiting order -/

section Dsl
open St4sd.DslLoad

/-- two lists of the same length whose items are pairwise related -/
inductive ListRel {α β : Type} (R : α → β → Prop) : List α → List β → Prop
  | nil : ListRel R [] []
  | cons {a : α} {b : β} {l : List α} {l' : List β} : R a b → ListRel R l l' → ListRel R (a :: l) (b :: l')

/-- the same environment written with its entries in another order (a Python `dict` has no repeated key) -/
inductive EnvReordered : CEnv → CEnv → Prop
  | unset : EnvReordered .unset .unset
  | dict {e e' : Env} : e.Perm e' → (e.map Prod.fst).Nodup → EnvReordered (.dict e) (.dict e')

/-- the same environment as a mapping: every key reads the same value (`None` included) -/
inductive EnvSameMapping : CEnv → CEnv → Prop
  | unset : EnvSameMapping .unset .unset
  | dict {e e' : Env} : (e.map Prod.fst).Nodup → (e'.map Prod.fst).Nodup → (∀ k, e.lookup k = e'.lookup k) →
      EnvSameMapping (.dict e) (.dict e')

/-- registered environments: same names, same mappings -/
def SameRegistered (a b : List (Nat × Env)) : Prop :=
  ListRel (fun x y => x.1 = y.1 ∧ x.2.Perm y.2) a b

private theorem ListRel.append {α β : Type} {R : α → β → Prop} {a₁ a₂ : List α} {b₁ b₂ : List β}
    (h₁ : ListRel R a₁ b₁) (h₂ : ListRel R a₂ b₂) : ListRel R (a₁ ++ a₂) (b₁ ++ b₂) := by
  induction h₁ with
  | nil => exact h₂
  | cons hr _ ih => exact .cons hr ih

private theorem envStep_reordered {c c' : CEnv} (hc : EnvReordered c c') (known : Known) :
    (envStep hashEnv known c).name = (envStep hashEnv known c').name ∧
      (envStep hashEnv known c).known = (envStep hashEnv known c').known ∧
      SameRegistered (envStep hashEnv known c).registered (envStep hashEnv known c').registered := by
  cases hc with
  | unset => exact ⟨rfl, rfl, .nil⟩
  | @dict e e' hp hnd =>
    simp only [envStep, ← hashEnv_perm e e' hp hnd, ← hp.isEmpty_eq]
    cases e.isEmpty
    · cases known.lookup (hashEnv e)
      · exact ⟨rfl, rfl, .cons ⟨rfl, hp⟩ .nil⟩
      · exact ⟨rfl, rfl, .nil⟩
    · exact ⟨rfl, rfl, .nil⟩

/-- **env_dedup_perm_invariant.**  Given the order of the components, permuting the entries of any of their
environments changes neither the partition of the components into environments nor the names assigned
(`command.environment` of every component is the same), nor the table `known_environments`, nor — as
mappings — the environments registered under the names `env0, env1, …`. -/
theorem env_dedup_perm_invariant (cs cs' : List CEnv) (hr : ListRel EnvReordered cs cs') (known : Known) :
    assignEnvs known cs = assignEnvs known cs' ∧ knownAfter known cs = knownAfter known cs' ∧
      SameRegistered (registered known cs) (registered known cs') := by
  unfold assignEnvs knownAfter registered
  induction hr generalizing known with
  | nil => exact ⟨rfl, rfl, .nil⟩
  | @cons c c' r r' hc _ ih =>
    obtain ⟨e1, e2, e3⟩ := envStep_reordered hc known
    obtain ⟨h1, h2, h3⟩ := ih (envStep hashEnv known c).known
    simp only [assignEnvsWith_cons, knownAfterWith_cons, registeredWith_cons, ← e1, ← e2]
    exact ⟨congrArg _ h1, h2, e3.append h3⟩

/-- **env_dedup_mapping_only.**  The de-duplication reads every environment as a mapping: two sequences of
components whose environments are pairwise the same mapping (whatever the order in which each was written)
get the same environment names. -/
theorem env_dedup_mapping_only (cs cs' : List CEnv) (hm : ListRel EnvSameMapping cs cs') :
    assignEnvs [] cs = assignEnvs [] cs' ∧ SameRegistered (registered [] cs) (registered [] cs') := by
  have hr : ListRel EnvReordered cs cs' := by
    induction hm with
    | nil => exact .nil
    | cons hc _ ih =>
      refine .cons ?_ ih
      cases hc with
      | unset => exact .unset
      | dict h1 h2 hk => exact .dict (perm_of_same_mapping _ _ h1 h2 hk) h1
  obtain ⟨names, _, regs⟩ := env_dedup_perm_invariant cs cs' hr []
  exact ⟨names, regs⟩

/-- **env_same_name_iff.**  The partition: two components with non-empty environments share an environment
name exactly when their environments have the same identity (`hash_environment`) … -/
theorem env_same_name_iff (cs : List CEnv) (e e' : Env) (n n' : EnvName)
    (h1 : (CEnv.dict e, n) ∈ cs.zip (assignEnvs [] cs)) (h2 : (CEnv.dict e', n') ∈ cs.zip (assignEnvs [] cs))
    (he : e ≠ []) (he' : e' ≠ []) : n = n' ↔ hashEnv e = hashEnv e' := by
  obtain ⟨i, rfl, hi⟩ := name_is_index hashEnv [] cs e n h1 he
  obtain ⟨i', rfl, hi'⟩ := name_is_index hashEnv [] cs e' n' h2 he'
  obtain ⟨_, inj⟩ := knownOK_after hashEnv [] cs knownOK_nil
  constructor
  · intro hn
    cases hn
    exact inj _ _ _ hi hi'
  · intro hh
    rw [hh, hi'] at hi
    cases hi
    rfl

/-- … and that identity is exactly the set of entries whose value is not `None`: environments that share a name
set the same variables to the same values. -/
theorem env_identity_determines_entries (e e' : Env) (hh : hashEnv e = hashEnv e') (k v : S) :
    (k, some v) ∈ e ↔ (k, some v) ∈ e' := by
  rw [← mem_hashEnv, ← mem_hashEnv, hh]

/-- **dup_naming_visit_order_only.**  The `-I, -II, …` numbering of duplicate step names and the naming of
the environments read, of every visited component instance, its step name and its environment only, in the
order of the visit: two visits that agree on these give the same names, whatever the locations and the templates
of the instances. -/
theorem dup_naming_visit_order_only (cs cs' : List Inst)
    (hs : cs.map Inst.stepName = cs'.map Inst.stepName) : loadNames cs = loadNames cs' := by
  unfold loadNames; rw [hs]

theorem env_naming_visit_order_only (cs cs' : List Inst)
    (hs : cs.map Inst.env = cs'.map Inst.env) : loadEnvs cs = loadEnvs cs' ∧ loadRegistered cs = loadRegistered cs' := by
  unfold loadEnvs loadRegistered; rw [hs]; exact ⟨rfl, rfl⟩

/-- **dup_naming_prefix_stable.**  The name of an instance depends only on the instances visited before it:
the names of a prefix of the visit are the names that the prefix gets on its own. -/
theorem dup_naming_prefix_stable (l r : List S) :
    (assignNames [] (l ++ r)).take l.length = assignNames [] l := by
  rw [assignNames_append, List.take_left' (assignNames_length [] l)]

/-- **dup_naming_first_free.**  An instance is given the first of the candidates `s, s-I, s-II, …` whose full name
`(stage, name)` is not yet in use. -/
theorem dup_naming_first_free (used : List FullName) (s : S) (fuel : Nat) (st : Nat) (n : S)
    (hp : pick used s fuel 0 = .named st n) :
    (st, n) ∉ used ∧ ∃ j, parseName (cand s j) = some (st, n) ∧
      ∀ i, i < j → ∃ fn, parseName (cand s i) = some fn ∧ fn ∈ used := by
  obtain ⟨h1, j, _, h2, h3⟩ := pick_named used s fuel 0 st n hp
  exact ⟨h1, j, h2, fun i hi => h3 i (Nat.zero_le _) hi⟩

/-- **dup_names_distinct.**  No two instances get the same full name. -/
theorem dup_names_distinct (steps : List S) : (namedOnly (assignNames [] steps)).Nodup :=
  (namedOnly_fresh [] steps).1

end Dsl

/-! ### non-vacuity -/

private def fA : Vars := [((none, "v".toList), "from-a".toList), ((some 1, "s".toList), "a1".toList)]
private def fB : Vars := [((none, "v".toList), "from-b".toList)]

example : dget (layerMany ([fA] ++ fB :: [])) (none, "v".toList) = some "from-b".toList :=
  last_file_wins [fA] [] fB _ _ (by decide +kernel) (by simp)
example : dget (layerMany [fA, fB]) (some 1, "s".toList) = some "a1".toList := by decide +kernel
example : loadVars (fun i => if i = 0 then fA else fB) [0, 1, 0] = layerMany [fB, fA] := by decide +kernel
example : WF (.dcons "b".toList (.prim "1".toList) (.dcons "a".toList (.lcons "y".toList (.lcons "x".toList .lnil)) .dnil)) := by
  simp [WF, dkeys]
example : serialize (.dcons "b".toList (.prim "1".toList) (.dcons "a".toList (.prim "2".toList) .dnil))
    = serialize (.dcons "a".toList (.prim "2".toList) (.dcons "b".toList (.prim "1".toList) .dnil)) := by decide +kernel

section DslExamples
open St4sd.DslLoad
private def envAB : Env := [("ALPHA".toList, some "1".toList), ("BETA".toList, some "/opt/bin".toList)]
private def envBA : Env := [("BETA".toList, some "/opt/bin".toList), ("ALPHA".toList, some "1".toList)]
private def envZ : Env := [("Z".toList, some "9".toList), ("U".toList, none)]

example : ListRel EnvReordered [.dict envAB, .unset, .dict envZ, .dict envAB] [.dict envBA, .unset, .dict envZ, .dict envAB] :=
  .cons (.dict (List.Perm.swap _ _ _) (by decide +kernel)) (.cons .unset (.cons (.dict (List.Perm.refl _) (by decide +kernel))
    (.cons (.dict (List.Perm.refl _) (by decide +kernel)) .nil)))
example : assignEnvs [] [.dict envAB, .unset, .dict envZ, .dict envBA, .dict []] = [.env 0, .null, .env 1, .env 0, .noneLit] := by
  unfold envAB envZ envBA
  simp -index only [String.toList_ofList]
  decide +kernel
example : registered [] [.dict envAB, .unset, .dict envZ, .dict envBA, .dict []] = [(0, envAB), (1, envZ)] := by
  unfold envAB envZ envBA
  simp -index only [String.toList_ofList]
  decide +kernel
example : loadNames [⟨["entry-instance".toList, "work".toList], "c-a".toList, .unset⟩,
      ⟨["entry-instance".toList, "inner".toList, "work".toList], "c-b".toList, .dict envAB⟩,
      ⟨["entry-instance".toList, "work-I".toList], "c-a".toList, .unset⟩,
      ⟨["entry-instance".toList, "other".toList, "stage1.work".toList], "c-a".toList, .unset⟩,
      ⟨["entry-instance".toList, "step2".toList], "c-a".toList, .unset⟩]
    = [.named 0 "work".toList, .named 0 "work-I".toList, .named 0 "work-I-I".toList, .named 1 "work".toList, .invalid] := by
  simp -index only [String.toList_ofList]
  decide +kernel
example : pick [(0, "work".toList), (0, "work-I".toList)] "work".toList 3 0 = .named 0 "work-II".toList := by
  simp -index only [String.toList_ofList]
  decide +kernel
end DslExamples

/-! ## replication: the order in which a set hands over the components -/

section ReplOrder
open St4sd.Repl in
/-- **The resolved replica counts / aggregate flags do not depend on the visiting order.**  For any two
orders `wf`, `wf'` of the same components (the iteration order of the set of component identifiers in two
processes): if the resolution loop of `apply_replicate` succeeds on one it succeeds on the other and records
the same resolved components; if it fails on one it fails on the other. -/
theorem replicate_resolution_visit_order_irrelevant (g : St4sd.Repl.Vars) (st : Nat → St4sd.Repl.Vars)
    {wf wf' : List St4sd.Repl.Raw} (hp : wf.Perm wf') :
    (∀ out, resolveAll g st wf = .ok out →
      ∃ out', resolveAll g st wf' = .ok out' ∧ ∀ c, c ∈ out ↔ c ∈ out') ∧
    ((∃ e, resolveAll g st wf = .error e) → ∃ e', resolveAll g st wf' = .error e') := by
  constructor
  · intro out h
    obtain ⟨out', h', hperm⟩ := St4sd.C03.resolveAll_perm g st hp out h
    exact ⟨out', h', fun c => hperm.mem_iff⟩
  · rintro ⟨e, he⟩
    cases h' : resolveAll g st wf' with
    | error e' => exact ⟨e', rfl⟩
    | ok out' =>
      obtain ⟨out, h, _⟩ := St4sd.C03.resolveAll_perm g st hp.symm out' h'
      rw [h] at he
      cases he

open St4sd.Repl in
/-- the value recorded for one component is a function of the scopes it can see — wherever it stands in
either order (C03 `count_independent_of_siblings`, restated for two enumeration orders of one set) -/
theorem replicate_count_position_irrelevant (g : St4sd.Repl.Vars) (st : Nat → St4sd.Repl.Vars) (r : St4sd.Repl.Raw)
    (pre post pre' post' : List St4sd.Repl.Raw) (out out' : List Comp)
    (h : resolveAll g st (pre ++ r :: post) = .ok out) (h' : resolveAll g st (pre' ++ r :: post') = .ok out') :
    out[pre.length]? = out'[pre'.length]? := by
  obtain ⟨c, _, h1, h2⟩ := St4sd.C03.count_independent_of_siblings g st r pre post pre' post' out out' h h'
  rw [h1, h2]

/-- `sweep` asks for `%(N)s` replicas (N = 2 globally), its sibling `tune` sets N = 3 for itself: 2 in both orders -/
example : ((St4sd.Repl.resolveAll [("N".toList, "2".toList)] (fun _ => [])
      [{ stage := 0, name := "tune".toList, refs := [], vars := [("N".toList, "3".toList)], replicate := .absent,
         aggregate := .absent },
       { stage := 0, name := "sweep".toList, refs := [], vars := [], replicate := .var "N".toList,
         aggregate := .absent }]).toOption.map (·.map (·.repl)),
    (St4sd.Repl.resolveAll [("N".toList, "2".toList)] (fun _ => [])
      [{ stage := 0, name := "sweep".toList, refs := [], vars := [], replicate := .var "N".toList,
         aggregate := .absent },
       { stage := 0, name := "tune".toList, refs := [], vars := [("N".toList, "3".toList)], replicate := .absent,
         aggregate := .absent }]).toOption.map (·.map (·.repl))) =
    (some [none, some 2], some [some 2, none]) := by decide +kernel
end ReplOrder

/-! ## DOSINI packages: discovery of the stage files (`Model/C15Stages.lean`, dosini.py `_discover_stages`) -/
section StageDiscovery
open St4sd.C15Stages

private theorem getLast?_perm_of_all_eq {α : Type} {F F' : List α} (hp : F'.Perm F)
    (hall : ∀ a ∈ F, ∀ b ∈ F, a = b) : F'.getLast? = F.getLast? := by
  cases hF : F.getLast? with
  | none =>
    rw [List.getLast?_eq_none_iff.mp hF] at hp
    rw [hp.eq_nil]
    rfl
  | some b =>
    cases hF' : F'.getLast? with
    | none =>
      rw [List.getLast?_eq_none_iff.mp hF'] at hp
      rw [← hp.nil_eq] at hF
      cases hF
    | some a => rw [hall a (hp.mem_iff.mp (List.mem_of_getLast? hF')) b (List.mem_of_getLast? hF)]

/-- The stage files `Dosini._discover_stages` selects do not depend on the order in which the file system lists
`conf/stages.d`: for every listing `l` whose files are told apart by (stage index, flavour) — a directory holding
`stage<N>.conf` and `stage<N>.instance.conf` files — every other order `l'` of the same listing selects the same
file for every stage index, for the package flavour and for the instance flavour. -/
theorem stage_discovery_listing_order_irrelevant (isInst : Bool) (l l' : List Entry) (hp : l'.Perm l)
    (hd : ∀ a ∈ l, ∀ b ∈ l, a.idx = b.idx → a.inst = b.inst → a = b) (i : Nat) :
    discover isInst l' i = discover isInst l i := by
  unfold discover assign select
  -- the files of one flavour and one index are all the same file
  rw [getLast?_perm_of_all_eq ((hp.filter _).filter _)]
  intro a ha b hb
  simp only [List.mem_filter, beq_iff_eq] at ha hb
  exact hd a ha.1.1 b hb.1.1 (by rw [ha.2, hb.2]) (by rw [ha.1.2, hb.1.2])

/-- What an earlier launch left in the directory is invisible: files of the OTHER flavour, wherever the file
system lists them, change nothing of what a load of one flavour selects. -/
theorem stage_discovery_ignores_other_flavour (isInst : Bool) (l extra : List Entry)
    (he : ∀ e ∈ extra, e.inst = !isInst) (i : Nat) :
    discover isInst (l ++ extra) i = discover isInst l i ∧ discover isInst (extra ++ l) i = discover isInst l i := by
  have h0 : extra.filter (fun e => e.inst == isInst) = [] :=
    List.filter_eq_nil_iff.mpr fun e hm => by cases isInst <;> simp [he e hm]
  unfold discover assign select
  simp [List.filter_append, h0]

/-- the hypothesis of `stage_discovery_listing_order_irrelevant` holds for a launched one-stage package, and both
listing orders select the package flavour -/
example : discover false [⟨0, false, "stage0.conf"⟩, ⟨0, true, "stage0.instance.conf"⟩] 0 = some "stage0.conf" ∧
    discover false [⟨0, true, "stage0.instance.conf"⟩, ⟨0, false, "stage0.conf"⟩] 0 = some "stage0.conf" ∧
    discover true [⟨0, false, "stage0.conf"⟩, ⟨0, true, "stage0.instance.conf"⟩] 0 = some "stage0.instance.conf" := by
  decide +kernel
end StageDiscovery

end St4sd.C15
