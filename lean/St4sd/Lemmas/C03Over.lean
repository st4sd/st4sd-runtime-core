import St4sd.Model.ReplOver
/-!
# C03: variable scopes as lookup chains, and the `override.<platform>` block (`Model/ReplVars.lean`, `Model/ReplOver.lean`)

Every scope chain of C03 is a concatenation of scopes, so `lookup_append` (the first scope that defines a name
gives its value) is what all the chain theorems rest on.  For the kept override block the facts are stated on
`BlockEq (layerT x o) x` ("reading `x` back through `o` shows `x`"): it holds of `x = layerT base o` and is carried
along by every rewriting that is applied to the component and to the block alike.
-/
namespace St4sd.C03
open St4sd.Repl St4sd.Str

theorem lookup_append (a b : Vars) (k : S) : lookup (a ++ b) k = (lookup a k).or (lookup b k) := by
  induction a with
  | nil => rfl
  | cons e a ih =>
    simp only [List.cons_append, lookup]
    split
    · rfl
    · exact ih

theorem lookup_filter_key (p : S → Bool) (v : Vars) (k : S) :
    lookup (v.filter fun kv => p kv.1) k = if p k then lookup v k else none := by
  induction v with
  | nil => simp [lookup]
  | cons e v ih =>
    by_cases hk : e.1 = k
    · subst hk
      cases hp : p e.1 <;> simp [lookup, hp, ih]
    · have hk' : (e.1 == k) = false := by simpa using hk
      cases hp : p e.1 <;> simp [lookup, hp, hk', ih]

/-- a rewriting of the values that leaves the keys alone (`replace_strings`, `fixReplica`) -/
theorem lookup_map_val (f : S → S → S) (v : Vars) (k : S) :
    lookup (v.map fun kv => (kv.1, f kv.1 kv.2)) k = (lookup v k).map (f k) := by
  induction v with
  | nil => rfl
  | cons e v ih =>
    simp only [List.map_cons, lookup]
    split
    · rename_i hk
      rw [eq_of_beq hk]
      rfl
    · exact ih

theorem lookup_copyVars (own : Vars) (i : Nat) (k : S) :
    lookup (copyVars own i) k = if k = replicaKey then some (natToDigits i) else lookup own k := by
  unfold copyVars override
  rw [lookup_append]
  by_cases hk : k = replicaKey
  · rw [if_pos hk, hk]
    simp [lookup]
  · rw [if_neg hk]
    simp [lookup, Ne.symm hk]

theorem lookup_fixReplica (i : Nat) (b : TBlock) (k : S) :
    lookup (fixReplica i b).vars k =
      if k = replicaKey then (lookup b.vars k).map fun _ => natToDigits i else lookup b.vars k := by
  have hf : (fun kv : S × S => if kv.1 == replicaKey then (kv.1, natToDigits i) else kv) =
      fun kv => (kv.1, if kv.1 = replicaKey then natToDigits i else kv.2) := by
    funext kv
    by_cases h : kv.1 = replicaKey <;> simp [h]
  simp only [fixReplica, hf]
  rw [lookup_map_val fun k x => if k = replicaKey then natToDigits i else x]
  split
  · rfl
  · exact Option.map_id'

/-- two blocks a reader cannot tell apart: same `references`, same command line, every variable name
resolves to the same value -/
def BlockEq (a b : TBlock) : Prop :=
  a.refs = b.refs ∧ a.args = b.args ∧ ∀ k, lookup a.vars k = lookup b.vars k

theorem BlockEq.rfl' (a : TBlock) : BlockEq a a := ⟨rfl, rfl, fun _ => rfl⟩

theorem BlockEq.map (g : S → S) {a b : TBlock} (h : BlockEq a b) : BlockEq (a.map g) (b.map g) :=
  ⟨congrArg (Option.map (List.map g)) h.1, congrArg (Option.map g) h.2.1, fun k => by
    simp only [TBlock.map, lookup_map_val (fun _ => g), h.2.2 k]⟩

private theorem or_self_or {α : Type} (a b : Option α) : a.or (a.or b) = a.or b := by
  cases a <;> simp

theorem layerT_idem (base over : TBlock) : BlockEq (layerT (layerT base over) over) (layerT base over) := by
  refine ⟨?_, ?_, fun k => ?_⟩
  · cases h : over.refs <;> simp [layerT, h]
  · cases h : over.args <;> simp [layerT, h]
  · simp only [layerT, override, lookup_append]
    exact or_self_or _ _

theorem layerT_split {x o : TBlock} (h : BlockEq (layerT x o) x) :
    BlockEq (layerT (splitRefs x) (splitRefs o)) (splitRefs x) := by
  obtain ⟨hrefs, hargs, hvars⟩ := h
  refine ⟨?_, hargs, hvars⟩
  simp only [layerT, splitRefs] at hrefs ⊢
  rw [← Option.map_or, hrefs]

/-- copy `i`: the component gets `replica := i`, a `replica` of the block is set to `i` as well, so the block
still hides nothing of the component -/
theorem layerT_replica (i : Nat) {x o : TBlock} (h : BlockEq (layerT x o) x) :
    BlockEq (layerT (setReplica i x) (fixReplica i o)) (setReplica i x) := by
  obtain ⟨hrefs, hargs, hvars⟩ := h
  refine ⟨hrefs, hargs, fun k => ?_⟩
  have hk := hvars k
  simp only [layerT, override, lookup_append] at hk
  simp only [layerT, setReplica, override, lookup_append, lookup_fixReplica, lookup_copyVars]
  by_cases hr : k = replicaKey
  · rw [if_pos hr, if_pos hr]
    cases lookup o.vars k <;> rfl
  · rw [if_neg hr, if_neg hr]
    exact hk

end St4sd.C03
