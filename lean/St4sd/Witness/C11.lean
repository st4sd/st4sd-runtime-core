import St4sd.Model.ValidateLoop
import St4sd.Gen.C11
/-!
# C11 — witnesses: variants of the loader of which the theorems of `Props/C11.lean` are false

The boolean options converted with Python's builtin `bool`, the code that `fixes/C11-bool-options.diff` repairs
(`FlowIR.convert_component_types` on `aggregate`, `isMigratable`, `isMigrated`, `isRepeat`, `optimizer.disable`: every
non-empty string is `True`, so `aggregate: zzz` was accepted and `aggregate: "no"` read as `True`); a cycle check that
skips the edges leaving aggregating components; a conversion pre-pass that truncates floats; the load-time binding check
before its repair (`validateP`; repaired: `validatePFixed`), which knows the `$import` entries.
-/
namespace St4sd.C11.Witness
open St4sd.ValSchema St4sd.Validate

/-- the conversion table entry as it was -/
def oldTable : List (S × Conv) :=
  [("workflowAttributes".toList, .node [("aggregate".toList, .leaf .bool)])]

def doc (word : String) : Doc :=
  { comps := [{ stage := 0, name := "ca".toList, refs := [], argRefs := [], vars := [], uses := [],
                opts := .dict [("workflowAttributes".toList, .dict [("aggregate".toList, .str word.toList)])] }],
    globals := [] }

/-- builtin `bool`: "no" becomes `True` -/
theorem builtin_bool_reads_no_as_true :
    (match convLeaf .bool (.str "no".toList) with | some (.bool b) => b | _ => false) = true := by decide

/-- with the old table a word given for the boolean option `aggregate` is accepted -/
theorem old_accepts_word_for_boolean :
    validate oldTable Gen.C11.componentSchema (doc "zzz") = [] := by
  -- the string literals become lists of characters first: the kernel is slow at decoding them
  unfold oldTable Gen.C11.componentSchema doc
  simp -index only [String.toList_ofList]
  decide +kernel

/-- with the repaired converter it is rejected, and "no" is read as `False` -/
theorem repaired_rejects_word_for_boolean :
    validate [("workflowAttributes".toList, .node [("aggregate".toList, .leaf .toBool)])]
      Gen.C11.componentSchema (doc "zzz") = [Err.option (0, "ca".toList) .convertFailed] := by decide +kernel

theorem repaired_reads_no_as_false :
    (match convLeaf .toBool (.str "no".toList) with | some (.bool b) => b | _ => true) = false := by decide +kernel

/-! ## why the cycle check must see the edges that leave aggregating components

An aggregating component does not forward its `replicate` value, so for the *propagation* of `replicate` the
edges aggregator → consumer carry nothing.  They still carry dependencies: a cycle check over the propagation
graph without them accepts a document whose expanded graph is cyclic. -/

def edgesWithoutAggregatorOut (d : Doc) : List (Id × Id) := (edges d).filter (fun e => !isAgg d e.1)

def cyc : Doc :=
  { comps := [{ stage := 0, name := "gen".toList, refs := [(0, "red".toList)], argRefs := [], opts := .dict [],
                vars := [], uses := [], replicate := some 2 },
              { stage := 0, name := "sim".toList, refs := [(0, "gen".toList)], argRefs := [], opts := .dict [],
                vars := [], uses := [] },
              { stage := 0, name := "red".toList, refs := [(0, "sim".toList)], argRefs := [], opts := .dict [],
                vars := [], uses := [], aggregate := true }],
    globals := [] }

/-- Kahn's algorithm over the reduced graph ranks every component of `cyc` … -/
theorem reduced_graph_looks_acyclic :
    (ids cyc).all (isRanked (kahn (edgesWithoutAggregatorOut cyc) (ids cyc) (ids cyc).length 0 [])) = true := by
  decide +kernel

/-- … but the expanded graph has the cycle `red → gen0 → sim0 → red`, and the check over the full graph
reports it -/
theorem expanded_graph_is_cyclic :
    ((0, "red".toList), (0, "gen0".toList)) ∈ edges (expandDoc cyc) ∧
    ((0, "gen0".toList), (0, "sim0".toList)) ∈ edges (expandDoc cyc) ∧
    ((0, "sim0".toList), (0, "red".toList)) ∈ edges (expandDoc cyc) ∧ acyclicB cyc = false := by
  decide +kernel

/-! ## why the conversion pre-pass must leave floats alone

`convert_component_types` applies `expected_type(value)` to `str`/`int`/`bool` values only.  Were floats converted
too, `int(2.5)` would hand the schema a proper `2`: the wrongly typed `numberProcesses: 2.5` would load with a value
the author did not write. -/

/-- `expected_type(value)` applied to a float as well (`int()` truncates) -/
def coerceFloat : ConvKind → Val → Val
  | .int, .float i _ => .int i
  | .optionalInt, .float i _ => .int i
  | _, v => v

def intRule : Schema := .or [.ty [.int], .pred .isVarReference]

theorem truncated_float_passes_int_rule : check intRule (coerceFloat .int (.float 2 true)) = [] := by decide
theorem float_fails_int_rule : check intRule (.float 2 true) = [.valueInvalid] ∧
    check intRule (.float 3 false) = [.valueInvalid] := by decide
/-- the conversion of the model (= of the source) does not touch it -/
theorem model_conversion_keeps_float : convert (.leaf .int) (.float 2 true) = some (.float 2 true) := rfl

/-! ## a binding value that names the importing entry (known finding C11-binding-to-import-entry)

`package_document_load` compares the binding values of a `$import` entry with a set of identifiers that contains
the `$import` entries themselves; `instantiate_dowhile_next_iteration` compares them with the components of the
graph.  When no looped component reads the binding, nothing of iteration 0 carries the dangling name: the package
loads, and the instantiation of iteration 1 raises `FlowIRReferenceToUnknownComponent`. -/

/-- `ca` (stage 0) feeds the loop imported as `stage1.loop0`; the second input binding `in1`, read by nobody, is
bound to the entry itself -/
def selfBound : Package :=
  { main := { comps := [{ stage := 0, name := "ca".toList, refs := [], argRefs := [], opts := .dict [], vars := [],
                          uses := [] }], globals := [] },
    loops := [{ stage := 1, name := "loop0".toList, inputs := ["in0".toList, "in1".toList],
                bindings := [("in0".toList, (0, "ca".toList)), ("in1".toList, (1, "loop0".toList))],
                loopBindings := [], cond := (0, "la".toList),
                comps := [{ stage := 0, name := "la".toList, refs := [(0, "in0".toList)], opts := .dict [],
                            vars := [], uses := [] }] }] }

/-- the unrepaired load-time check accepts the package … -/
theorem asis_accepts_binding_to_import_entry :
    validateP Gen.C11.convTable Gen.C11.componentSchema selfBound = [] := by decide +kernel

/-- … and the binding check of the next iteration fails -/
theorem asis_next_iteration_raises :
    nextBindingErrors selfBound selfBound.loops.head! 0
      = [.bindingUnknown "in1".toList (1, "loop0".toList)] := by decide +kernel

/-- the hypothesis of `next_iteration_bindings_known_partial` excludes exactly this -/
theorem selfBound_violates_hypothesis : bindingsAvoidImportEntries selfBound selfBound.loops.head! = false := by
  decide +kernel

/-- the repaired load-time check reports the binding -/
theorem repaired_rejects_binding_to_import_entry :
    validatePFixed Gen.C11.convTable Gen.C11.componentSchema selfBound
      = [.loop (1, "loop0".toList) (.bindingUnknown "in1".toList (1, "loop0".toList))] := by decide +kernel

end St4sd.C11.Witness
