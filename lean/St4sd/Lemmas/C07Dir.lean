import St4sd.Model.InstanceDir
/-!
Helper lemmas for C07 (instance directory): deploying a manifest only appends folder entries; every manifest
key is then a folder of the listing; the implied folders are monotone in the listing, and so is the decision
"reference into a folder" in the folder list.
-/
namespace St4sd.InstanceDir

theorem hasName_iff (l : Listing) (n : Name) : hasName l n = true ↔ ∃ k, (n, k) ∈ l := by
  unfold hasName
  rw [List.any_eq_true]
  constructor
  · rintro ⟨⟨a, k⟩, hm, he⟩
    have : a = n := by simpa using he
    subst this
    exact ⟨k, hm⟩
  · rintro ⟨k, hm⟩
    exact ⟨(n, k), hm, by simp⟩

theorem mem_implied (l : Listing) (n : Name) : n ∈ implied l ↔ ∃ k, (n, k) ∈ l ∧ isFolder k = true := by
  unfold implied
  simp only [List.mem_map, List.mem_filter]
  constructor
  · rintro ⟨⟨a, k⟩, ⟨hm, hf⟩, rfl⟩
    exact ⟨k, hm, hf⟩
  · rintro ⟨k, hm, hf⟩
    exact ⟨(n, k), ⟨hm, hf⟩, rfl⟩

theorem append_folder_spec {l : Listing} (hf : allFolders l) (n : Name) {k : Kind} (hk : isFolder k = true) :
    grows l (l ++ [(n, k)]) ∧ allFolders (l ++ [(n, k)]) ∧ hasName (l ++ [(n, k)]) n = true := by
  refine ⟨fun x hx => List.mem_append_left _ hx, fun x hx => ?_,
    (hasName_iff _ _).mpr ⟨k, List.mem_append_right _ (List.mem_singleton.mpr rfl)⟩⟩
  rcases List.mem_append.mp hx with hx | hx
  · exact hf x hx
  · rw [List.mem_singleton.mp hx]; exact hk

theorem deployEntry_spec {l l' : Listing} {e : Entry} (h : deployEntry l e = some l') (hf : allFolders l) :
    grows l l' ∧ allFolders l' ∧ hasName l' e.top = true := by
  unfold deployEntry at h
  split at h <;> split at h
  · rename_i hh
    cases h
    exact ⟨fun x hx => hx, hf, hh⟩
  · split at h
    · cases h; exact append_folder_spec hf e.top rfl
    · cases h
  · cases h
  · cases h
    exact append_folder_spec hf e.top (by cases e.method <;> rfl)

theorem hasName_grows {l l' : Listing} (hg : grows l l') {n : Name} (h : hasName l n = true) :
    hasName l' n = true := by
  obtain ⟨k, hk⟩ := (hasName_iff l n).mp h
  exact (hasName_iff l' n).mpr ⟨k, hg _ hk⟩

theorem deploy_spec : ∀ (m : List Entry) {l l' : Listing}, deploy l m = some l' → allFolders l →
    grows l l' ∧ allFolders l' ∧ ∀ e ∈ m, hasName l' e.top = true
  | [], l, l', h, hf => by
    have : l = l' := by simpa [deploy] using h
    subst this
    exact ⟨fun x hx => hx, hf, fun e he => by cases he⟩
  | e :: r, l, l', h, hf => by
    unfold deploy at h
    cases h1 : deployEntry l e with
    | none => rw [h1] at h; cases h
    | some l1 =>
      rw [h1] at h
      obtain ⟨g1, f1, n1⟩ := deployEntry_spec h1 hf
      obtain ⟨g2, f2, n2⟩ := deploy_spec r h f1
      refine ⟨fun x hx => g2 x (g1 x hx), f2, ?_⟩
      intro e' he'
      rcases List.mem_cons.mp he' with rfl | he'
      · exact hasName_grows g2 n1
      · exact n2 e' he'

theorem implied_mono {l l' : Listing} (hg : grows l l') : ∀ n, n ∈ implied l → n ∈ implied l' := by
  intro n hn
  obtain ⟨k, hm, hf⟩ := (mem_implied l n).mp hn
  exact (mem_implied l' n).mpr ⟨k, hg _ hm, hf⟩

/-- the decision looks at the folder list only to ask whether the producer is in it -/
theorem isDirect_mono {f f' : List Name} {r : Ref} (h : r.producer ∈ f → r.producer ∈ f')
    (hd : isDirect f r = true) : isDirect f' r = true := by
  unfold isDirect at hd ⊢
  simp only [Bool.or_eq_true, Bool.and_eq_true, List.contains_iff_mem] at hd ⊢
  exact hd.imp_left (And.imp_right h)

end St4sd.InstanceDir
