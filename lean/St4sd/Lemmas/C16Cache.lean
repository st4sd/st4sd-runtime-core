import St4sd.Model.HashCache
import St4sd.Lemmas.C16Fs
/-!
C16: lemmas about the remembered hashes (`Model/HashCache.lean`) for the session theorems of `Props/C16.lean`:
the producers of a resolved reference are those of its location, and what is in the cache after an evaluation.
-/
namespace St4sd.C16
open St4sd.Str St4sd.Hash

theorem resolve_producer (fs : Fs) (r : SRef) : (r.resolve fs).target.producer? = r.loc.producer? := by
  simp only [SRef.resolve, resolveTarget]
  obtain _ | p := r.loc <;> obtain _ | _ | _ := view fs _ <;> rfl

theorem mem_producersOf (c : SComp) (r : SRef) (p : Nat) (hr : r ∈ c.refs) (hp : r.loc.producer? = some p) :
    p ∈ producersOf c :=
  List.mem_filterMap.mpr ⟨r, hr, hp⟩

theorem getH_computeAt {md5 : S → S} {bps : Blueprints} {cs : List SComp} {fs : Fs} {fuzzy : Bool}
    {cache : List (Option S)} {j k : Nat} {x : S} (h : getH (computeAt md5 bps cs fs fuzzy cache j) k = some x) :
    getH cache k = some x ∨ ∃ c, cs[k]? = some c ∧ hashOne md5 fuzzy bps cache (c.resolve fs) = some x := by
  unfold computeAt at h
  split at h
  · exact .inl h
  · split at h
    · exact .inl h
    · rcases getH_set _ j k _ x h with ⟨rfl, hv⟩ | hold
      · exact .inr ⟨_, ‹_›, hv⟩
      · exact .inl hold

theorem mem_cachedIdx (l : List (Option S)) (k : Nat) (h : S) (hg : getH l k = some h) : k ∈ cachedIdx l := by
  simp [cachedIdx, getH_lt l k h hg, hg]

end St4sd.C16
