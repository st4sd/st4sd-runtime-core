import St4sd.Lemmas.C05Multi
import St4sd.Lemmas.C05Disk
/-!
# C05 — DoWhile unrolling is wired correctly for any number of iterations

Theorems about `St4sd.Loop` (`Model/Loop.lean`) with the repaired sort keys (`num = true`, i.e.
`fixes/C05-numeric-iteration-order.diff`) and the repaired single-pass substitution of argument strings
(`fixes/C05-rewrite-references-single-pass.diff`) and the condition matched on stage and name
(`fixes/C05-condition-matched-by-stage.diff`).  The code before these repairs violates the `latest`/order clauses from
iteration 10 on and the argument clause for repeated/overlapping references: `Witness/C05.lean`.

Standing hypotheses (what the loader validates / what the generator of the harness guarantees):
* `hOut`  : names of the components outside the loop contain no `#`;
* `hCond` : the condition (stage, name) is a looped component (`instantiate_dowhile` raises otherwise);
* `hNames`: names of the template components contain no `#` (needed for the loop-carried clause only);
* `hNodup`: the template has no duplicate component ids (`instantiate_dowhile` raises otherwise; needed for the
  aggregate order only).

`blockIds`, `instanceIds`, `pid`, `OutsideUnlooped`, `CondInLoop` and the invariant of `run` (`run_inv`): `Lemmas/C05Inst.lean`;
`kOf`, `LoopsDisjoint` and the invariant of `runM` (`unrolled_runM`): `Lemmas/C05Multi.lean`.
-/
namespace St4sd.C05
open St4sd.Str St4sd.Loop St4sd.C05L

/-- **instances_exact.**  After any number `k` of further iterations the workflow consists of the components outside
the loop followed by exactly the instances `0 … k` of every looped component (iteration by iteration, template
order), and the components recognised as looped are exactly those instances. -/
theorem instances_exact (d : Doc) (out : List Comp) (hOut : OutsideUnlooped out) (hCond : CondInLoop d) (k : Nat) :
    ids (run d out k).comps = ids out ++ instanceIds d k ∧ loopedIds (run d out k).comps = instanceIds d k :=
  ⟨run_inv d out hOut hCond k, loopedIds_of_ids hOut (run_inv d out hOut hCond k)⟩

/-- membership form: `x` is a looped component of the workflow iff it is instance `i ≤ k` of a template component -/
theorem instances_exact_mem (d : Doc) (out : List Comp) (hOut : OutsideUnlooped out) (hCond : CondInLoop d) (k : Nat)
    (x : CId) : x ∈ loopedIds (run d out k).comps ↔
      ∃ i, i ≤ k ∧ ∃ c ∈ d.comps, x = (c.stage + d.importStage, instName i c.name) := by
  rw [(instances_exact d out hOut hCond k).2]
  exact mem_instanceIds

/-- **condition_is_k.**  The loop's current iteration is `k` and its current condition is the condition reference of
the document produced by instance `k` of the condition component, in the condition's stage (for every `k`:
`compute_dowhile_state` sorts on `int`; with the repair it also matches the stage, so another looped component of
the same name in a different stage cannot be taken for the condition). -/
theorem condition_is_k (d : Doc) (out : List Comp) (hOut : OutsideUnlooped out) (hCond : CondInLoop d) (k : Nat) :
    curIter d (run d out k).comps = k ∧
    currentCondition d (run d out k).comps =
      some ((d.condStage + d.importStage, instName k d.condName), d.condFile) := by
  obtain ⟨h1, h2⟩ := cond_of_matched hCond fun p _ => matched_run d out hOut hCond k p
  exact ⟨h1, by rw [currentCondition, h2]; rfl⟩

/-- the next iteration generated is always `k + 1`, from the ids known after `k` iterations -/
theorem run_succ (d : Doc) (out : List Comp) (hOut : OutsideUnlooped out) (hCond : CondInLoop d) (k : Nat) :
    (run d out (k + 1)).comps = (run d out k).comps ++ instantiate d (ids (run d out k).comps) (k + 1) := by
  show _ ++ instantiate d _ (curIter d (run d out k).comps + 1) = _
  rw [(condition_is_k d out hOut hCond k).1]

/-- **latest_is_numeric_max.**  For every looped component `c` and every `k`, the placeholder's `latest` — the
producer that a `:ref`/`:output`/`:copy`/… reference from outside the loop resolves to — is instance `k`, the
numerically highest iteration (for `k ≥ 10` as well: `int` keys, `int(str(k)) = k`). -/
theorem latest_is_numeric_max (d : Doc) (out : List Comp) (hOut : OutsideUnlooped out) (hCond : CondInLoop d) (k : Nat)
    (c : Comp) (hc : c ∈ d.comps) :
    resolveProducer true d (run d out k).comps (pid d c) = some (c.stage + d.importStage, instName k c.name) := by
  rw [resolveProducer, findPlaceholder_eq, if_pos (pid_mem hc)]
  show firstMaxBy (iterLt true) (matched _ (pid d c)) = _
  rw [matched_run d out hOut hCond]
  exact firstMaxBy_filter_instanceIds (pid_mem hc) k

/-- the same choice as a maximum: every instance the placeholder represents has an iteration number `≤` that of
`latest` -/
theorem latest_ge_all (d : Doc) (out : List Comp) (hOut : OutsideUnlooped out) (hCond : CondInLoop d) (k : Nat)
    (c : Comp) (x : CId) (hx : x ∈ matched (run d out k).comps (pid d c)) :
    iterNum x.2 ≤ k := by
  rw [matched_run d out hOut hCond] at hx
  obtain ⟨i, hi, c', _, rfl⟩ := mem_instanceIds.mp (List.mem_filter.mp hx).1
  simpa using hi

/-- the instances represented by the placeholder of `c`, in the order of the workflow -/
theorem represents_eq (d : Doc) (out : List Comp) (hOut : OutsideUnlooped out) (hCond : CondInLoop d)
    (hNodup : (loopIds d).Nodup) (k : Nat) (c : Comp) (hc : c ∈ d.comps) :
    matched (run d out k).comps (pid d c) =
      (List.range (k + 1)).map fun i => (c.stage + d.importStage, instName i c.name) :=
  (matched_run d out hOut hCond k _).trans (filter_instanceIds_nodup hNodup (pid_mem hc) k)

/-- **loopref_sorted_numerically.**  An aggregate reference (`:loopref`, `:loopoutput`) to looped component `c` lists
exactly the instances `0, 1, …, k` in increasing iteration order, for every `k`. -/
theorem loopref_sorted_numerically (d : Doc) (out : List Comp) (hOut : OutsideUnlooped out) (hCond : CondInLoop d)
    (hNodup : (loopIds d).Nodup) (k : Nat) (c : Comp) (hc : c ∈ d.comps) :
    loopRefOrder true d (run d out k).comps (pid d c) =
      (List.range (k + 1)).map fun i => (c.stage + d.importStage, instName i c.name) := by
  rw [loopRefOrder, findPlaceholder_eq, if_pos (pid_mem hc)]
  show sortBy (iterLt true) (matched _ (pid d c)) = _
  rw [represents_eq d out hOut hCond hNodup k c hc]
  exact sortBy_range_inst _ _ _

/-- the numeric sort puts any order of the represented instances (the real `represents` comes from a set) into
non-decreasing iteration order: adjacent results are never out of order -/
theorem sortBy_num_sorted (l : List CId) : (sortBy (iterLt true) l).Pairwise (fun a b => iterNum a.2 ≤ iterNum b.2) :=
  iterLt_true ▸ sortBy_key_sorted (fun x : CId => iterNum x.2) l

/-- … and the sort only reorders: the result is a permutation of the represented instances.  Together with
`sortBy_num_sorted`: whatever order the set `represents` is enumerated in, an aggregate reference lists all
instances, each once, in non-decreasing iteration order. -/
theorem sortBy_perm (lt : CId → CId → Bool) (l : List CId) : (sortBy lt l).Perm l :=
  sortBy_perm_any lt l

/-! ### wiring -/

/-- loop-carried wiring against any set of known ids that contains instance `j` of the producer -/
theorem wiring_loop_carried_of_known (d : Doc) (known : List CId)
    (hNames : ∀ c ∈ d.comps, isLooped c.name = false)
    (j : Nat) (owner : Nat) (r lb : Ref) (hr : r.direct = false)
    (hlb : lookup r.producer d.loopBindings = some lb) (hagg : isAggregate lb.method = false)
    (t : Comp) (hts : t.stage = lb.stage.getD 0) (htn : t.name = lb.producer)
    (hknown : known.contains (t.stage + d.importStage, instName j t.name) = true) :
    rewriteRef d known (j + 1) owner r =
      { direct := false, stage := some (t.stage + d.importStage), producer := instName j t.name,
        file := if r.file.isEmpty then lb.file else r.file, method := lb.method } := by
  have hnl : (loopIds d).contains (t.stage + d.importStage, instName j t.name) = false := by
    rw [List.contains_eq_mem, decide_eq_false_iff_not]
    exact instName_not_mem_loopIds hNames _ _ _
  unfold rewriteRef
  simp only [hr, Bool.false_eq_true, if_false, lookup_eff_loopBinding d j _ hlb, projectRef, hagg, Nat.add_sub_cancel,
    Option.getD_some, ← hts, ← htn, hknown, hnl]
  simp

/-- **wiring (loop-carried inputs).**  In iteration `j + 1`, a reference of a looped component through a binding that
has a loopBinding `lb` (non-aggregating, pointing to a looped component, as the loader validates) is wired to
instance `j` of that component, in the component's stage (template stage + import stage, computed from the template
each time: no drift), keeping the binding's method and the file of the use site. -/
theorem wiring_loop_carried (d : Doc) (out : List Comp) (hOut : OutsideUnlooped out) (hCond : CondInLoop d)
    (hNames : ∀ c ∈ d.comps, isLooped c.name = false)
    (j : Nat) (owner : Nat) (r lb : Ref) (hr : r.direct = false)
    (hlb : lookup r.producer d.loopBindings = some lb) (hagg : isAggregate lb.method = false)
    (t : Comp) (ht : t ∈ d.comps) (hts : t.stage = lb.stage.getD 0) (htn : t.name = lb.producer) :
    rewriteRef d (ids (run d out j).comps) (j + 1) owner r =
      { direct := false, stage := some (t.stage + d.importStage), producer := instName j t.name,
        file := if r.file.isEmpty then lb.file else r.file, method := lb.method } := by
  apply wiring_loop_carried_of_known d _ hNames j owner r lb hr hlb hagg t hts htn
  rw [run_inv d out hOut hCond, List.contains_eq_mem, decide_eq_true_eq]
  exact List.mem_append_right _ (mem_instanceIds.mpr ⟨j, Nat.le_refl j, t, ht, rfl⟩)

/-- **wiring (other inputs).**  In every iteration `i`, a reference through a binding that is not loop-carried (or any
binding in iteration 0) is wired to the original binding value `b`, which names a component outside the loop. -/
theorem wiring_binding (d : Doc) (known : List CId) (i : Nat) (owner : Nat) (r b : Ref) (hr : r.direct = false)
    (hnot : i = 0 ∨ lookup r.producer d.loopBindings = none)
    (hb : lookup r.producer d.bindings = some b)
    (hknown : known.contains (b.stage.getD d.importStage, b.producer) = true)
    (hout : (loopIds d).contains (b.stage.getD d.importStage, b.producer) = false) :
    rewriteRef d known i owner r =
      { direct := false, stage := some (b.stage.getD d.importStage), producer := b.producer,
        file := if r.file.isEmpty then b.file else r.file, method := b.method } := by
  unfold rewriteRef
  simp only [hr, Bool.false_eq_true, if_false, lookup_eff_binding d i r.producer hnot, hb, Option.map_some,
    expandRef, Option.getD_some, hknown, hout]
  simp

/-- **wiring (references between looped components; no drift).**  A reference of a looped component of template
stage `owner` to a looped component `t` (spelled relative or with the template stage) is wired, in every iteration
`i` and whatever the workflow contains, to instance `i` of `t` in stage `template stage + import stage` — the same
stage in every iteration; aggregating methods keep pointing at the placeholder. -/
theorem wiring_internal (d : Doc) (known : List CId) (i : Nat) (owner : Nat) (r : Ref) (hr : r.direct = false)
    (hb : lookup r.producer d.bindings = none) (hlb : lookup r.producer d.loopBindings = none)
    (t : Comp) (ht : t ∈ d.comps) (hts : t.stage = r.stage.getD owner) (htn : t.name = r.producer) :
    rewriteRef d known i owner r =
      { r with stage := some (t.stage + d.importStage),
               producer := if isAggregate r.method then r.producer else instName i r.producer } := by
  have hin : (loopIds d).contains (r.stage.getD owner + d.importStage, r.producer) = true := by
    rw [List.contains_eq_mem, decide_eq_true_eq, ← hts, ← htn]
    exact pid_mem ht
  unfold rewriteRef
  simp only [hr, Bool.false_eq_true, if_false, lookup_eff_binding d i r.producer (Or.inr hlb), hb, Option.map_none,
    Option.getD_some, hin, Bool.or_true, Bool.not_true, Bool.true_and, hts]
  cases isAggregate r.method <;> simp

/-- references to files and folders (direct references) are never rewritten -/
theorem wiring_direct (d : Doc) (known : List CId) (i : Nat) (owner : Nat) (r : Ref) (hr : r.direct = true) :
    rewriteRef d known i owner r = r := by
  simp [rewriteRef, hr]

/-- **wiring (structure).**  The workflow after `k` iterations is the outside components followed, for `i = 0 … k`, by
the template rewritten for iteration `i` against the component ids known when iteration `i` was generated; every
reference occurrence of the command line is rewritten exactly like the declared reference (single pass). -/
theorem wiring_structure (d : Doc) (out : List Comp) (hOut : OutsideUnlooped out) (hCond : CondInLoop d) (k : Nat) :
    (run d out (k + 1)).comps = (run d out k).comps ++
      d.comps.map (fun c => { stage := c.stage + d.importStage, name := instName (k + 1) c.name,
                              refs := c.refs.map (rewriteRef d (ids (run d out k).comps) (k + 1) c.stage),
                              args := c.args.map (rewriteRef d (ids (run d out k).comps) (k + 1) c.stage) }) := by
  rw [run_succ d out hOut hCond k]; rfl

/-! ## several DoWhile documents, any interleaving of their iterations, readers in between

`ds` are the DoWhile documents of the workflow in document order, a history `h : List Nat` lists the documents that
instantiated a further iteration (in the order in which they did), `kOf h i` is the number of further iterations of
document `i`.  Additional standing hypotheses:
* `hConds`  : every document's condition is one of its looped components;
* `hNodups` : no document has duplicate template ids;
* `hDisj`   : no placeholder id belongs to two documents (`LoopsDisjoint`; the loader rejects duplicate component ids).

Everything rests on `unrolled_runM` (`Lemmas/C05Multi.lean`): after history `h` the placeholders of document `i` match
what they match among the instances `0 … kOf h i` of that document.
-/

section Multi

/-- instance `j` of template component `c` of document `d` -/
abbrev instOf (d : Doc) (c : Comp) : Nat → CId := fun j => (c.stage + d.importStage, instName j c.name)

/-- invariant of `runM`: what every placeholder matches, and where every looped id comes from -/
def MInv (ds : List Doc) (kf : Nat → Nat) (cs : List Comp) : Prop :=
  (∀ i d, ds[i]? = some d → ∀ c ∈ d.comps, matched cs (pid d c) = (List.range (kf i + 1)).map (instOf d c)) ∧
  (∀ x ∈ loopedIds cs, ∃ i d, ds[i]? = some d ∧ ∃ j, j ≤ kf i ∧ ∃ c ∈ d.comps, x = instOf d c j)

/-- **the invariant holds after every history** -/
theorem multi_inv (ds : List Doc) (out : List Comp) (hOut : OutsideUnlooped out) (hConds : ∀ d ∈ ds, CondInLoop d)
    (hNodups : ∀ d ∈ ds, (loopIds d).Nodup) (hDisj : LoopsDisjoint ds) (h : List Nat) :
    MInv ds (kOf h) (runM ds out h).comps := by
  have hU := unrolled_runM hOut hConds hDisj h
  exact ⟨fun i d hi c hc => (hU.matched_eq hi (pid_mem hc)).trans
      (filter_instanceIds_nodup (hNodups d (List.mem_of_getElem? hi)) (pid_mem hc) _),
    fun x hx => let ⟨i, d, hi, hm⟩ := hU.looped_mem x hx; ⟨i, d, hi, mem_instanceIds.mp hm⟩⟩

/-- **multi_represents_eq (instances exact, per document).**  Whatever the interleaving of the documents' iterations,
the placeholder of looped component `c` of document `i` matches exactly the instances `0 … kOf h i` of `c`, each once,
in this order — the iteration count of the document itself, never that of another document. -/
theorem multi_represents_eq (ds : List Doc) (out : List Comp) (hOut : OutsideUnlooped out) (hConds : ∀ d ∈ ds, CondInLoop d)
    (hNodups : ∀ d ∈ ds, (loopIds d).Nodup) (hDisj : LoopsDisjoint ds) (h : List Nat)
    (i : Nat) (d : Doc) (hi : ds[i]? = some d) (c : Comp) (hc : c ∈ d.comps) :
    matched (runM ds out h).comps (pid d c) =
      (List.range (kOf h i + 1)).map fun j => (c.stage + d.importStage, instName j c.name) :=
  (multi_inv ds out hOut hConds hNodups hDisj h).1 i d hi c hc

/-- **multi_instances_exact_mem.**  The looped components of the workflow are exactly the instances `j ≤ kOf h i` of the
template components of the documents `i`. -/
theorem multi_instances_exact_mem (ds : List Doc) (out : List Comp) (hOut : OutsideUnlooped out)
    (hConds : ∀ d ∈ ds, CondInLoop d) (hNodups : ∀ d ∈ ds, (loopIds d).Nodup) (hDisj : LoopsDisjoint ds) (h : List Nat)
    (x : CId) : x ∈ loopedIds (runM ds out h).comps ↔
      ∃ i d, ds[i]? = some d ∧ ∃ j, j ≤ kOf h i ∧ ∃ c ∈ d.comps, x = (c.stage + d.importStage, instName j c.name) := by
  constructor
  · exact (multi_inv ds out hOut hConds hNodups hDisj h).2 x
  · rintro ⟨i, d, hi, j, hj, c, hc, rfl⟩
    exact (unrolled_runM hOut hConds hDisj h).inst_mem hi hc hj

/-- **multi_condition_is_k.**  The current iteration of document `i` is its own count `kOf h i` and its current condition
is produced by instance `kOf h i` of its condition component. -/
theorem multi_condition_is_k (ds : List Doc) (out : List Comp) (hOut : OutsideUnlooped out) (hConds : ∀ d ∈ ds, CondInLoop d)
    (hNodups : ∀ d ∈ ds, (loopIds d).Nodup) (hDisj : LoopsDisjoint ds) (h : List Nat)
    (i : Nat) (d : Doc) (hi : ds[i]? = some d) :
    curIter d (runM ds out h).comps = kOf h i ∧
    currentCondition d (runM ds out h).comps =
      some ((d.condStage + d.importStage, instName (kOf h i) d.condName), d.condFile) := by
  obtain ⟨h1, h2⟩ := multi_cond hOut hConds hDisj h hi
  exact ⟨h1, by rw [currentCondition, h2]; rfl⟩

/-- the entry of `WorkflowGraph._placeholders` for a placeholder of document `i`: it is recorded for document `i`,
represents what the placeholder matches among ALL looped ids, and `latest` is chosen among these -/
theorem multi_placeholder_entry (num : Bool) (ds : List Doc) (hDisj : LoopsDisjoint ds) (cs : List Comp)
    (i : Nat) (d : Doc) (hi : ds[i]? = some d) (c : Comp) (hc : c ∈ d.comps) :
    findPlaceholderM num ds cs (pid d c) =
      some (d, { id := pid d c, represents := matched cs (pid d c),
                 latest := firstMaxBy (iterLt num) (matched cs (pid d c)) }) := by
  rw [findPlaceholderM, placeholdersM, discover_find, tagged_find hDisj hi (pid_mem hc)]
  rfl

/-- **multi_latest_is_numeric_max.**  A `:ref`/`:output`/`:copy`/… reference from outside to looped component `c` of
document `i` resolves to instance `kOf h i` — an instance that exists, whatever the other documents did. -/
theorem multi_latest_is_numeric_max (ds : List Doc) (out : List Comp) (hOut : OutsideUnlooped out)
    (hConds : ∀ d ∈ ds, CondInLoop d) (hNodups : ∀ d ∈ ds, (loopIds d).Nodup) (hDisj : LoopsDisjoint ds) (h : List Nat)
    (i : Nat) (d : Doc) (hi : ds[i]? = some d) (c : Comp) (hc : c ∈ d.comps) :
    resolveProducerM true ds (runM ds out h).comps (pid d c) = some (c.stage + d.importStage, instName (kOf h i) c.name) := by
  rw [resolveProducerM, multi_placeholder_entry true ds hDisj _ i d hi c hc]
  show firstMaxBy (iterLt true) (matched _ (pid d c)) = _
  rw [(unrolled_runM hOut hConds hDisj h).matched_eq hi (pid_mem hc)]
  exact firstMaxBy_filter_instanceIds (pid_mem hc) _

/-- **multi_loopref_sorted_numerically.**  An aggregate reference to looped component `c` of document `i` lists exactly
the instances `0 … kOf h i` of `c` in increasing iteration order, and nothing else. -/
theorem multi_loopref_sorted_numerically (ds : List Doc) (out : List Comp) (hOut : OutsideUnlooped out)
    (hConds : ∀ d ∈ ds, CondInLoop d) (hNodups : ∀ d ∈ ds, (loopIds d).Nodup) (hDisj : LoopsDisjoint ds) (h : List Nat)
    (i : Nat) (d : Doc) (hi : ds[i]? = some d) (c : Comp) (hc : c ∈ d.comps) :
    loopRefOrderM true ds (runM ds out h).comps (pid d c) =
      (List.range (kOf h i + 1)).map fun j => (c.stage + d.importStage, instName j c.name) := by
  rw [loopRefOrderM, multi_placeholder_entry true ds hDisj _ i d hi c hc]
  show sortBy (iterLt true) (matched _ (pid d c)) = _
  rw [multi_represents_eq ds out hOut hConds hNodups hDisj h i d hi c hc]
  exact sortBy_range_inst _ _ _

/-- **multi_ctl_predecessors.**  The Controller's dependency analysis of the placeholder of `c` yields the instances
`0 … kOf h i` of `c` and — unless `c` is the condition component itself — the producer of the document's current
condition, instance `kOf h i` of the condition component.  It is a function of the workflow: it yields a new list and
leaves `represents` as it is. -/
theorem multi_ctl_predecessors (ds : List Doc) (out : List Comp) (hOut : OutsideUnlooped out)
    (hConds : ∀ d ∈ ds, CondInLoop d) (hNodups : ∀ d ∈ ds, (loopIds d).Nodup) (hDisj : LoopsDisjoint ds) (h : List Nat)
    (i : Nat) (d : Doc) (hi : ds[i]? = some d) (c : Comp) (hc : c ∈ d.comps) :
    ctlPredecessors ds (runM ds out h).comps (pid d c) =
      ((List.range (kOf h i + 1)).map fun j => (c.stage + d.importStage, instName j c.name)) ++
        (if c.stage = d.condStage ∧ c.name = d.condName then []
         else [(d.condStage + d.importStage, instName (kOf h i) d.condName)]) := by
  rw [ctlPredecessors, multi_placeholder_entry true ds hDisj _ i d hi c hc]
  simp only [(multi_cond hOut hConds hDisj h hi).2, multi_represents_eq ds out hOut hConds hNodups hDisj h i d hi c hc]
  -- the condition's producer is among the instances of `c` iff `c` is the condition component
  have hmem : ((List.range (kOf h i + 1)).map fun j => ((c.stage + d.importStage, instName j c.name) : CId)).contains
      (d.condStage + d.importStage, instName (kOf h i) d.condName) = true ↔
        c.stage = d.condStage ∧ c.name = d.condName := by
    rw [List.contains_iff_mem, mem_range_inst]
    exact ⟨fun ⟨_, e1, e2⟩ => ⟨by omega, e2.symm⟩, fun ⟨e1, e2⟩ => ⟨Nat.le_refl _, by rw [e1], e2.symm⟩⟩
  by_cases hcc : c.stage = d.condStage ∧ c.name = d.condName
  · rw [if_pos (hmem.mpr hcc), if_pos hcc, List.append_nil]
  · rw [if_neg (mt hmem.mp hcc), if_neg hcc]

/-- the Controller registers, per document, the producer of its current condition: instance `kOf h i` -/
theorem multi_ctl_conditions (ds : List Doc) (out : List Comp) (hOut : OutsideUnlooped out)
    (hConds : ∀ d ∈ ds, CondInLoop d) (hNodups : ∀ d ∈ ds, (loopIds d).Nodup) (hDisj : LoopsDisjoint ds) (h : List Nat)
    (i : Nat) (d : Doc) (hi : ds[i]? = some d) :
    (ctlConditions ds (runM ds out h).comps)[i]? =
      some (some (d.condStage + d.importStage, instName (kOf h i) d.condName)) := by
  rw [ctlConditions, List.getElem?_map, hi]
  exact congrArg some (multi_cond hOut hConds hDisj h hi).2

/-- **multi_wiring_structure.**  When document `a` instantiates its next iteration the workflow grows by the template of
`a` rewritten for iteration `kOf h a + 1` against the component ids known at that moment; nothing that exists changes. -/
theorem multi_wiring_structure (ds : List Doc) (out : List Comp) (hOut : OutsideUnlooped out) (hConds : ∀ d ∈ ds, CondInLoop d)
    (hNodups : ∀ d ∈ ds, (loopIds d).Nodup) (hDisj : LoopsDisjoint ds) (h : List Nat)
    (a : Nat) (d : Doc) (ha : ds[a]? = some d) :
    (runM ds out (h ++ [a])).comps = (runM ds out h).comps ++
      d.comps.map (fun c => { stage := c.stage + d.importStage, name := instName (kOf h a + 1) c.name,
                              refs := c.refs.map (rewriteRef d (ids (runM ds out h).comps) (kOf h a + 1) c.stage),
                              args := c.args.map (rewriteRef d (ids (runM ds out h).comps) (kOf h a + 1) c.stage) }) := by
  rw [runM_snoc, comps_stepM, ha]
  show _ ++ instantiate d _ (curIter d _ + 1) = _
  rw [(multi_cond hOut hConds hDisj h ha).1]
  rfl

/-- **multi_independence.**  When another document `b ≠ a` instantiates an iteration, nothing of document `a` changes:
what its placeholders represent, its current iteration and condition, the instance an outside reference resolves to,
the expansion of an aggregate reference; and the components that exist are kept as they are. -/
theorem multi_independence (ds : List Doc) (out : List Comp) (hOut : OutsideUnlooped out) (hConds : ∀ d ∈ ds, CondInLoop d)
    (hNodups : ∀ d ∈ ds, (loopIds d).Nodup) (hDisj : LoopsDisjoint ds) (h : List Nat)
    (a b : Nat) (hab : a ≠ b) (d : Doc) (ha : ds[a]? = some d) (c : Comp) (hc : c ∈ d.comps) :
    matched (runM ds out (h ++ [b])).comps (pid d c) = matched (runM ds out h).comps (pid d c) ∧
    curIter d (runM ds out (h ++ [b])).comps = curIter d (runM ds out h).comps ∧
    currentCondition d (runM ds out (h ++ [b])).comps = currentCondition d (runM ds out h).comps ∧
    resolveProducerM true ds (runM ds out (h ++ [b])).comps (pid d c) =
      resolveProducerM true ds (runM ds out h).comps (pid d c) ∧
    loopRefOrderM true ds (runM ds out (h ++ [b])).comps (pid d c) =
      loopRefOrderM true ds (runM ds out h).comps (pid d c) ∧
    ∃ new, (runM ds out (h ++ [b])).comps = (runM ds out h).comps ++ new := by
  have hk : kOf (h ++ [b]) a = kOf h a := by rw [kOf_snoc, if_neg hab]
  have R := fun h' => multi_represents_eq ds out hOut hConds hNodups hDisj h' a d ha c hc
  have C := fun h' => multi_condition_is_k ds out hOut hConds hNodups hDisj h' a d ha
  have L := fun h' => multi_latest_is_numeric_max ds out hOut hConds hNodups hDisj h' a d ha c hc
  have O := fun h' => multi_loopref_sorted_numerically ds out hOut hConds hNodups hDisj h' a d ha c hc
  exact ⟨by rw [R, R, hk], by rw [(C _).1, (C _).1, hk], by rw [(C _).2, (C _).2, hk], by rw [L, L, hk],
    by rw [O, O, hk], _, (runM_snoc ds out h b).symm ▸ comps_stepM ds b _⟩

/-- **multi_entry_frozen (finished placeholders keep their instances).**  While document `a` instantiates nothing (it
lies in a stage that is over: the Controller marked its placeholders FINISHED and `_discover_dowhile_placeholders` no
longer updates their entries), recomputing the entry of each of its placeholders from ALL looped ids of the workflow —
what the model does, and what the ids taken out of `remaining_looped_ids` amount to — gives the entry it had: the same
instances `0 … kOf h a`, the same `latest`, for the same document, whatever the other documents instantiate. -/
theorem multi_entry_frozen (ds : List Doc) (out : List Comp) (hOut : OutsideUnlooped out) (hConds : ∀ d ∈ ds, CondInLoop d)
    (hNodups : ∀ d ∈ ds, (loopIds d).Nodup) (hDisj : LoopsDisjoint ds) (h h' : List Nat)
    (a : Nat) (hfrozen : a ∉ h') (d : Doc) (ha : ds[a]? = some d) (c : Comp) (hc : c ∈ d.comps) :
    findPlaceholderM true ds (runM ds out (h ++ h')).comps (pid d c) =
      findPlaceholderM true ds (runM ds out h).comps (pid d c) ∧
    curIter d (runM ds out (h ++ h')).comps = curIter d (runM ds out h).comps ∧
    matched (runM ds out (h ++ h')).comps (pid d c) =
      (List.range (kOf h a + 1)).map fun j => (c.stage + d.importStage, instName j c.name) := by
  have hk : kOf (h ++ h') a = kOf h a := by
    rw [kOf, List.count_append, List.count_eq_zero.mpr hfrozen]; rfl
  have R := fun h' => multi_represents_eq ds out hOut hConds hNodups hDisj h' a d ha c hc
  have C := fun h' => (multi_condition_is_k ds out hOut hConds hNodups hDisj h' a d ha).1
  have E := fun cs => multi_placeholder_entry true ds hDisj cs a d ha c hc
  exact ⟨by rw [E, E, R, R, hk], by rw [C, C, hk], by rw [R, hk]⟩

/-- **multi_wiring_loop_carried.**  In iteration `kOf h a + 1` of document `a` a loop-carried input is wired to instance
`kOf h a` of the producing looped component of the SAME document, whatever the other documents have instantiated. -/
theorem multi_wiring_loop_carried (ds : List Doc) (out : List Comp) (hOut : OutsideUnlooped out)
    (hConds : ∀ d ∈ ds, CondInLoop d) (hNodups : ∀ d ∈ ds, (loopIds d).Nodup) (hDisj : LoopsDisjoint ds) (h : List Nat)
    (a : Nat) (d : Doc) (ha : ds[a]? = some d) (hNames : ∀ c ∈ d.comps, isLooped c.name = false)
    (owner : Nat) (r lb : Ref) (hr : r.direct = false)
    (hlb : lookup r.producer d.loopBindings = some lb) (hagg : isAggregate lb.method = false)
    (t : Comp) (ht : t ∈ d.comps) (hts : t.stage = lb.stage.getD 0) (htn : t.name = lb.producer) :
    rewriteRef d (ids (runM ds out h).comps) (kOf h a + 1) owner r =
      { direct := false, stage := some (t.stage + d.importStage), producer := instName (kOf h a) t.name,
        file := if r.file.isEmpty then lb.file else r.file, method := lb.method } := by
  apply wiring_loop_carried_of_known d _ hNames (kOf h a) owner r lb hr hlb hagg t hts htn
  rw [List.contains_eq_mem, decide_eq_true_eq]
  exact mem_ids_of_loopedIds ((unrolled_runM hOut hConds hDisj h).inst_mem ha ht (Nat.le_refl _))

/-! ### wiring of the consumers of a placeholder (graph edges) -/

/-- the producer of the condition of iteration `k` of document `d` -/
abbrev condOf (d : Doc) (k : Nat) : CId := (d.condStage + d.importStage, instName k d.condName)

/-- **multi_refPreds_placeholder (per-consumer expansion).**  Whatever the history, a reference `r` of ANY component `c`
(outside the loops or an instance of a looped component, e.g. the condition component aggregating a sibling with
`:loopref`/`:loopoutput`) that names the placeholder of looped component `t` of document `i` expands to exactly the
instances `0 … kOf h i` of `t` followed by the producer of the condition of iteration `kOf h i` — unless `c` is that
producer itself.  The right-hand side mentions only `c`: what another consumer of the same placeholder is, or whether
it was visited earlier in the same graph construction, does not matter. -/
theorem multi_refPreds_placeholder (ds : List Doc) (out : List Comp) (hOut : OutsideUnlooped out)
    (hConds : ∀ d ∈ ds, CondInLoop d) (hNodups : ∀ d ∈ ds, (loopIds d).Nodup) (hDisj : LoopsDisjoint ds) (h : List Nat)
    (i : Nat) (d : Doc) (hi : ds[i]? = some d) (t : Comp) (ht : t ∈ d.comps)
    (c : Comp) (r : Ref) (hr : (r.stage.getD c.stage, r.producer) = pid d t) :
    refPreds ds (runM ds out h).comps c r =
      ((List.range (kOf h i + 1)).map fun j => (t.stage + d.importStage, instName j t.name)) ++
        (if c.id = condOf d (kOf h i) then [] else [condOf d (kOf h i)]) := by
  simp only [refPreds, hr, multi_placeholder_entry true ds hDisj _ i d hi t ht,
    multi_represents_eq ds out hOut hConds hNodups hDisj h i d hi t ht, (multi_cond hOut hConds hDisj h hi).2]
  by_cases hcc : c.id = condOf d (kOf h i)
  · simp [hcc]
  · have : ((d.condStage + d.importStage, instName (kOf h i) d.condName) != c.id) = true :=
      bne_iff_ne.mpr fun e => hcc e.symm
    simp [this, hcc]

/-- every edge of a graph construction over the current workflow is an edge of the live graph: the edges of the nodes
that existed before an iteration are merged into the graph like those of the new nodes, on every iteration -/
theorem multi_edges_complete (ds : List Doc) (out : List Comp) (h : List Nat) :
    ∀ e ∈ edgesOfM ds (runM ds out h).comps, e ∈ (runM ds out h).edges :=
  runM_induction (P := fun _ w => ∀ e ∈ edgesOfM ds w.comps, e ∈ w.edges) (fun _ he => he)
    (fun _ a w hw => by
      unfold stepM
      cases ds[a]? with
      | none => exact hw
      | some d => exact fun e he => List.mem_append_right _ he) h

/-- the components that exist are kept, in particular those outside the loops -/
theorem multi_out_mem (ds : List Doc) (out : List Comp) (h : List Nat) {c : Comp} (hc : c ∈ out) :
    c ∈ (runM ds out h).comps :=
  runM_induction (P := fun _ w => c ∈ w.comps) (List.mem_append_left _ hc)
    (fun _ a w hw => by rw [comps_stepM]; exact List.mem_append_left _ hw) h

/-- **multi_consumer_wired.**  After every history `h` (every number of iterations of every document, in any
interleaving), a component `c` of the workflow that declares a reference to looped component `t` of document `i` has, in
the live graph, an edge from EVERY instance `0 … kOf h i` of `t` — in particular from the numerically highest one, also
when `c` existed long before that instance — and, unless it produces that condition itself, from the producer of the
condition of iteration `kOf h i`: it is not released before the loop decided whether there is a further iteration. -/
theorem multi_consumer_wired (ds : List Doc) (out : List Comp) (hOut : OutsideUnlooped out)
    (hConds : ∀ d ∈ ds, CondInLoop d) (hNodups : ∀ d ∈ ds, (loopIds d).Nodup) (hDisj : LoopsDisjoint ds) (h : List Nat)
    (i : Nat) (d : Doc) (hi : ds[i]? = some d) (t : Comp) (ht : t ∈ d.comps)
    (c : Comp) (hc : c ∈ (runM ds out h).comps) (r : Ref) (hrc : r ∈ c.refs) (hrd : r.direct = false)
    (hr : (r.stage.getD c.stage, r.producer) = pid d t) :
    (∀ j, j ≤ kOf h i → ((t.stage + d.importStage, instName j t.name), c.id) ∈ (runM ds out h).edges) ∧
    (c.id ≠ condOf d (kOf h i) → (condOf d (kOf h i), c.id) ∈ (runM ds out h).edges) := by
  have hexp := multi_refPreds_placeholder ds out hOut hConds hNodups hDisj h i d hi t ht c r hr
  have hU := unrolled_runM hOut hConds hDisj h
  refine ⟨fun j hj => ?_, fun hne => ?_⟩
  · apply multi_edges_complete
    apply mem_edgesOfM hc hrc hrd _ (mem_ids_of_loopedIds (hU.inst_mem hi ht hj))
    rw [hexp]
    exact List.mem_append_left _ (mem_range_inst.mpr ⟨hj, rfl, rfl⟩)
  · apply multi_edges_complete
    apply mem_edgesOfM hc hrc hrd
    · rw [hexp, if_neg hne]
      exact List.mem_append_right _ List.mem_cons_self
    · obtain ⟨c', hc', hcs, hcn⟩ := hConds d (List.mem_of_getElem? hi)
      have := mem_ids_of_loopedIds (hU.inst_mem hi hc' (Nat.le_refl (kOf h i)))
      rwa [hcs, hcn] at this

/-- the same for a component outside the loops, which exists from the start: after every iteration it is wired to the
instances and the condition of THAT iteration -/
theorem multi_outside_consumer_wired (ds : List Doc) (out : List Comp) (hOut : OutsideUnlooped out)
    (hConds : ∀ d ∈ ds, CondInLoop d) (hNodups : ∀ d ∈ ds, (loopIds d).Nodup) (hDisj : LoopsDisjoint ds) (h : List Nat)
    (i : Nat) (d : Doc) (hi : ds[i]? = some d) (t : Comp) (ht : t ∈ d.comps)
    (c : Comp) (hc : c ∈ out) (r : Ref) (hrc : r ∈ c.refs) (hrd : r.direct = false)
    (hr : (r.stage.getD c.stage, r.producer) = pid d t) :
    ((t.stage + d.importStage, instName (kOf h i) t.name), c.id) ∈ (runM ds out h).edges ∧
    (condOf d (kOf h i), c.id) ∈ (runM ds out h).edges := by
  have hw := multi_consumer_wired ds out hOut hConds hNodups hDisj h i d hi t ht c (multi_out_mem ds out h hc) r hrc hrd hr
  refine ⟨hw.1 _ (Nat.le_refl _), hw.2 fun e => ?_⟩
  have := hOut c hc
  have e2 : c.name = instName (kOf h i) d.condName := (Prod.ext_iff.mp e).2
  rw [e2, isLooped_instName] at this
  cases this

/-- **multi_condition_not_its_own_predecessor.**  The component that produces the current condition may itself read a
looped sibling `t` through its placeholder (an aggregate reference): the expansion for THIS consumer is the instances of
`t` alone — it never names the consumer itself, so the graph gets no self-loop (no cycle), while every other consumer of
the same placeholder does get the condition (`multi_refPreds_placeholder`). -/
theorem multi_condition_not_its_own_predecessor (ds : List Doc) (out : List Comp) (hOut : OutsideUnlooped out)
    (hConds : ∀ d ∈ ds, CondInLoop d) (hNodups : ∀ d ∈ ds, (loopIds d).Nodup) (hDisj : LoopsDisjoint ds) (h : List Nat)
    (i : Nat) (d : Doc) (hi : ds[i]? = some d) (t : Comp) (ht : t ∈ d.comps)
    (hnc : ¬ (t.stage = d.condStage ∧ t.name = d.condName))
    (c : Comp) (hcc : c.id = condOf d (kOf h i)) (r : Ref) (hr : (r.stage.getD c.stage, r.producer) = pid d t) :
    c.id ∉ refPreds ds (runM ds out h).comps c r := by
  rw [multi_refPreds_placeholder ds out hOut hConds hNodups hDisj h i d hi t ht c r hr, hcc, if_pos rfl,
    List.append_nil, condOf, mem_range_inst]
  exact fun ⟨_, e1, e2⟩ => hnc ⟨by omega, e2.symm⟩

/-- **readers change nothing.**  For every sequence of operations — documents instantiating iterations, and in between the
Controller's dependency analysis / status report / placeholder state or a consumer resolving references — the workflow
is the one obtained from the instantiations alone: all theorems above hold after any such sequence. -/
theorem runOps_eq_runM (ds : List Doc) (out : List Comp) (ops : List Op) :
    runOps ds out ops = runM ds out (advances ops) := by
  unfold runOps runM
  generalize initM ds out = w
  induction ops generalizing w with
  | nil => rfl
  | cons o ops ih =>
    cases o <;> exact ih _

/-- a read between two operations is not observable afterwards -/
theorem read_is_identity (ds : List Doc) (out : List Comp) (ops ops' : List Op) :
    runOps ds out (ops ++ Op.read :: ops') = runOps ds out (ops ++ ops') := by
  simp [runOps_eq_runM, advances_append, advances]

/-! ### one document: the model of this section is the model of the first part -/

/-- **runM_single.**  For a workflow with one DoWhile document the model of this section coincides with `run`: the
theorems of the first part are statements about the same function the harness compares the real code with. -/
theorem runM_single (d : Doc) (out : List Comp) (k : Nat) : runM [d] out (List.replicate k 0) = run d out k := by
  induction k with
  | zero => simp [runM, run, initM, init, initComps, edgesOfM_single]
  | succ k ih =>
    rw [List.replicate_succ', runM_snoc, ih]
    simp [stepM, run, step, edgesOfM_single]

end Multi

/-! ### aggregate and newest-instance references resolved against what is on disk

`Model/LoopDisk.lean`.  `disk` — for every instance: is the file the reference asks for there, and what does it contain —
is universally quantified: every instance independently may have produced its output or not (never executed, shut down,
directory cleaned), whatever the history `h` of the iterations was. -/

section Disk

/-- instance `j` of looped component `c` of document `d` -/
def inst (d : Doc) (c : Comp) (j : Nat) : CId := (c.stage + d.importStage, instName j c.name)

/-- **multi_loopoutput_all_or_error.**  `<c>:loopoutput` resolves to `vs` iff EVERY instance `0 … kOf h i` has its file
and `vs` are their contents in increasing iteration order: position `j` of a resolved value is the output of iteration
`j`, nothing is skipped and nothing is added. -/
theorem multi_loopoutput_all_or_error (ds : List Doc) (out : List Comp) (hOut : OutsideUnlooped out)
    (hConds : ∀ d ∈ ds, CondInLoop d) (hNodups : ∀ d ∈ ds, (loopIds d).Nodup) (hDisj : LoopsDisjoint ds) (h : List Nat)
    (i : Nat) (d : Doc) (hi : ds[i]? = some d) (c : Comp) (hc : c ∈ d.comps) (disk : Disk) (vs : List S) :
    loopOutputM true ds (runM ds out h).comps (pid d c) disk = .ok vs ↔
      ((List.range (kOf h i + 1)).map fun j => (disk (inst d c j)).content?) = vs.map some := by
  unfold loopOutputM
  rw [multi_loopref_sorted_numerically ds out hOut hConds hNodups hDisj h i d hi c hc, resolveLoopOutput_ok_iff,
    List.map_map]
  rfl

/-- **multi_loopoutput_length.**  A resolved `:loopoutput` value has exactly one entry per instance: `kOf h i + 1`. -/
theorem multi_loopoutput_length (ds : List Doc) (out : List Comp) (hOut : OutsideUnlooped out)
    (hConds : ∀ d ∈ ds, CondInLoop d) (hNodups : ∀ d ∈ ds, (loopIds d).Nodup) (hDisj : LoopsDisjoint ds) (h : List Nat)
    (i : Nat) (d : Doc) (hi : ds[i]? = some d) (c : Comp) (hc : c ∈ d.comps) (disk : Disk) (vs : List S)
    (hok : loopOutputM true ds (runM ds out h).comps (pid d c) disk = .ok vs) : vs.length = kOf h i + 1 := by
  have e := (multi_loopoutput_all_or_error ds out hOut hConds hNodups hDisj h i d hi c hc disk vs).mp hok
  have := congrArg List.length e
  simpa using this.symm

/-- **multi_loopoutput_position.**  Entry `j` of a resolved `:loopoutput` value is the contents of the file of instance
`j` — for every `j ≤ kOf h i` (in particular `j ≥ 10`). -/
theorem multi_loopoutput_position (ds : List Doc) (out : List Comp) (hOut : OutsideUnlooped out)
    (hConds : ∀ d ∈ ds, CondInLoop d) (hNodups : ∀ d ∈ ds, (loopIds d).Nodup) (hDisj : LoopsDisjoint ds) (h : List Nat)
    (i : Nat) (d : Doc) (hi : ds[i]? = some d) (c : Comp) (hc : c ∈ d.comps) (disk : Disk) (vs : List S)
    (hok : loopOutputM true ds (runM ds out h).comps (pid d c) disk = .ok vs) (j : Nat) (hj : j ≤ kOf h i) :
    (disk (inst d c j)).content? = vs[j]? ∧ (vs[j]?).isSome = true := by
  have e := (multi_loopoutput_all_or_error ds out hOut hConds hNodups hDisj h i d hi c hc disk vs).mp hok
  have ej := congrArg (·[j]?) e
  rw [List.getElem?_map, List.getElem?_range (by omega), List.getElem?_map] at ej
  cases hv : vs[j]? with
  | none => rw [hv] at ej; cases ej
  | some v => rw [hv] at ej; exact ⟨Option.some.inj ej, rfl⟩

/-- **multi_loopoutput_missing_is_error.**  If the file of ANY instance `j ≤ kOf h i` — the first, one in the middle, the
last — is not there, the reference does not resolve: the error names exactly the instances without a file, in
increasing iteration order.  It never resolves to a shorter list. -/
theorem multi_loopoutput_missing_is_error (ds : List Doc) (out : List Comp) (hOut : OutsideUnlooped out)
    (hConds : ∀ d ∈ ds, CondInLoop d) (hNodups : ∀ d ∈ ds, (loopIds d).Nodup) (hDisj : LoopsDisjoint ds) (h : List Nat)
    (i : Nat) (d : Doc) (hi : ds[i]? = some d) (c : Comp) (hc : c ∈ d.comps) (disk : Disk)
    (j : Nat) (hj : j ≤ kOf h i) (hmiss : (disk (inst d c j)).content? = none) :
    loopOutputM true ds (runM ds out h).comps (pid d c) disk =
      .error (((List.range (kOf h i + 1)).filter fun j => missing disk (inst d c j)).map (inst d c)) := by
  unfold loopOutputM
  rw [multi_loopref_sorted_numerically ds out hOut hConds hNodups hDisj h i d hi c hc]
  rw [resolveLoopOutput_error_iff, List.filter_map]
  refine ⟨List.ne_nil_of_mem (List.mem_map.mpr ⟨j, List.mem_filter.mpr ⟨List.mem_range.mpr (by omega), ?_⟩, rfl⟩), rfl⟩
  simp [missing, hmiss]

/-- **multi_stage_loopref.**  Staging a `:loopref` reference succeeds iff the path of EVERY instance `0 … kOf h i` exists,
and then yields those paths in increasing iteration order. -/
theorem multi_stage_loopref (ds : List Doc) (out : List Comp) (hOut : OutsideUnlooped out)
    (hConds : ∀ d ∈ ds, CondInLoop d) (hNodups : ∀ d ∈ ds, (loopIds d).Nodup) (hDisj : LoopsDisjoint ds) (h : List Nat)
    (i : Nat) (d : Doc) (hi : ds[i]? = some d) (c : Comp) (hc : c ∈ d.comps) (ex : CId → Bool) (r : List CId) :
    stageLoopRefM true ds (runM ds out h).comps (pid d c) ex = .ok r ↔
      r = (List.range (kOf h i + 1)).map (inst d c) ∧ ∀ j, j ≤ kOf h i → ex (inst d c j) = true := by
  unfold stageLoopRefM
  rw [multi_loopref_sorted_numerically ds out hOut hConds hNodups hDisj h i d hi c hc, stageLoopRef_ok_iff]
  simp only [List.forall_mem_map, List.mem_range, Nat.lt_succ_iff]
  rfl

/-- **multi_output_latest_or_error.**  `<c>:output` from outside the loop resolves to `v` iff the file of the
numerically highest instance `kOf h i` is there with contents `v`; if it is not there the reference fails naming that
instance — it never falls back to the output of an older iteration. -/
theorem multi_output_latest_or_error (ds : List Doc) (out : List Comp) (hOut : OutsideUnlooped out)
    (hConds : ∀ d ∈ ds, CondInLoop d) (hNodups : ∀ d ∈ ds, (loopIds d).Nodup) (hDisj : LoopsDisjoint ds) (h : List Nat)
    (i : Nat) (d : Doc) (hi : ds[i]? = some d) (c : Comp) (hc : c ∈ d.comps) (disk : Disk) :
    resolveOutputM true ds (runM ds out h).comps (pid d c) disk =
      match (disk (inst d c (kOf h i))).content? with
      | some v => .ok v
      | none => .error (some (inst d c (kOf h i))) := by
  unfold resolveOutputM
  rw [multi_latest_is_numeric_max ds out hOut hConds hNodups hDisj h i d hi c hc]
  rfl

/-- **arg_loopoutput_never_partial.**  What `resolveArguments` puts on a command line for a `:loopoutput` reference is
the complete list (one value per instance, in order) or — when files are missing — nothing at all (`blank`: exactly one
missing; `inconsistent`: more than one): never a shorter list. -/
theorem arg_loopoutput_never_partial (disk : Disk) (l : List CId) :
    (∃ vs, argLoopOutput disk l = .full vs ∧ (l.map fun x => (disk x).content?) = vs.map some) ∨
    (argLoopOutput disk l = .blank ∧ (l.filter (missing disk)).length = 1) ∨
    (argLoopOutput disk l = .inconsistent ∧ 2 ≤ (l.filter (missing disk)).length) := by
  have hok := resolveLoopOutput_ok_iff disk l
  rw [argLoopOutput]
  rw [resolveLoopOutput_eq] at hok ⊢
  generalize l.filter (missing disk) = m at hok ⊢
  match m with
  | [] => exact Or.inl ⟨_, rfl, (hok _).mp rfl⟩
  | [a] => exact Or.inr (Or.inl ⟨rfl, rfl⟩)
  | a :: b :: t => exact Or.inr (Or.inr ⟨rfl, Nat.le_add_left 2 _⟩)

/-- **multi_arg_loopoutput.**  The command-line value of `<c>:loopoutput` after history `h`: `full vs` iff all files of
the instances `0 … kOf h i` are there and `vs` are their contents in iteration order. -/
theorem multi_arg_loopoutput (ds : List Doc) (out : List Comp) (hOut : OutsideUnlooped out)
    (hConds : ∀ d ∈ ds, CondInLoop d) (hNodups : ∀ d ∈ ds, (loopIds d).Nodup) (hDisj : LoopsDisjoint ds) (h : List Nat)
    (i : Nat) (d : Doc) (hi : ds[i]? = some d) (c : Comp) (hc : c ∈ d.comps) (disk : Disk) (vs : List S) :
    argLoopOutputM true ds (runM ds out h).comps (pid d c) disk = .full vs ↔
      ((List.range (kOf h i + 1)).map fun j => (disk (inst d c j)).content?) = vs.map some := by
  rw [← multi_loopoutput_all_or_error ds out hOut hConds hNodups hDisj h i d hi c hc disk vs]
  unfold argLoopOutputM loopOutputM argLoopOutput
  generalize resolveLoopOutput disk _ = r
  match r with
  | .ok _ | .error [] | .error [_] | .error (_ :: _ :: _) => simp

/-- **multi_arg_output_latest.**  The command-line value of `<c>:output` is the contents of the file of instance
`kOf h i`, or empty when that file is not there — never the output of an older iteration. -/
theorem multi_arg_output_latest (ds : List Doc) (out : List Comp) (hOut : OutsideUnlooped out)
    (hConds : ∀ d ∈ ds, CondInLoop d) (hNodups : ∀ d ∈ ds, (loopIds d).Nodup) (hDisj : LoopsDisjoint ds) (h : List Nat)
    (i : Nat) (d : Doc) (hi : ds[i]? = some d) (c : Comp) (hc : c ∈ d.comps) (disk : Disk) :
    argOutputM true ds (runM ds out h).comps (pid d c) disk = ((disk (inst d c (kOf h i))).content?).getD [] := by
  unfold argOutputM
  rw [multi_output_latest_or_error ds out hOut hConds hNodups hDisj h i d hi c hc disk]
  cases (disk (inst d c (kOf h i))).content? <;> rfl

end Disk

/-! ### the hypotheses are satisfiable; the statements are not vacuous -/

section Examples

/-- the minimal package of the harness: one looped component `x` fed by `in0` (loop-carried from `x`), condition
`stop`, imported at stage 1; outside: `src0`, a `:ref` consumer and a `:loopref` consumer -/
def exDoc : Doc :=
  { comps := [{ stage := 0, name := "x".toList, refs := [⟨false, none, "in0".toList, [], "output".toList⟩] },
              { stage := 0, name := "stop".toList, refs := [⟨false, none, "x".toList, [], "output".toList⟩] }],
    bindings := [("in0".toList, ⟨false, some 0, "src0".toList, [], "output".toList⟩)],
    loopBindings := [("in0".toList, ⟨false, none, "x".toList, [], "output".toList⟩)],
    condStage := 0, condName := "stop".toList, condFile := [], importStage := 1 }

def exOut : List Comp :=
  [{ stage := 0, name := "src0".toList, refs := [] },
   { stage := 2, name := "plain0".toList, refs := [⟨false, some 1, "x".toList, [], "ref".toList⟩] },
   { stage := 2, name := "agg0".toList, refs := [⟨false, some 1, "x".toList, [], "loopref".toList⟩] }]

example : OutsideUnlooped exOut := by unfold OutsideUnlooped; decide +kernel
example : CondInLoop exDoc := ⟨_, List.mem_cons_of_mem _ List.mem_cons_self, rfl, rfl⟩
example : (loopIds exDoc).Nodup := by decide +kernel
example : ∀ c ∈ exDoc.comps, isLooped c.name = false := by decide +kernel
/-- iteration 2 of `x` reads instance 1 of `x` (loop-carried) … -/
example : ((run exDoc exOut 2).comps.filter (fun c => c.name == instName 2 "x".toList)).map (·.refs) =
    [[⟨false, some 1, instName 1 "x".toList, [], "output".toList⟩]] := by decide +kernel
/-- … and iteration 0 reads the original binding -/
example : ((run exDoc exOut 2).comps.filter (fun c => c.name == instName 0 "x".toList)).map (·.refs) =
    [[⟨false, some 0, "src0".toList, [], "output".toList⟩]] := by decide +kernel
example : resolveProducer true exDoc (run exDoc exOut 3).comps (1, "x".toList) = some (1, instName 3 "x".toList) := by
  decide +kernel

/-- the same template imported a second time, at stage 2 -/
def exDoc2 : Doc := { exDoc with importStage := 2 }

example : LoopsDisjoint [exDoc, exDoc2] := by unfold LoopsDisjoint; decide
example : ∀ d ∈ [exDoc, exDoc2], CondInLoop d := by
  intro d hd
  simp only [List.mem_cons, List.not_mem_nil, or_false] at hd
  rcases hd with e | e <;> subst e <;> exact ⟨_, List.mem_cons_of_mem _ List.mem_cons_self, rfl, rfl⟩
/-- the first document did one further iteration, the second three: a reference to `x` of the first resolves to its
instance 1, a reference to `x` of the second to its instance 3 -/
example : resolveProducerM true [exDoc, exDoc2] (runM [exDoc, exDoc2] exOut [0, 1, 1, 1]).comps (1, "x".toList)
    = some (1, instName 1 "x".toList) := by decide +kernel
example : resolveProducerM true [exDoc, exDoc2] (runM [exDoc, exDoc2] exOut [0, 1, 1, 1]).comps (2, "x".toList)
    = some (2, instName 3 "x".toList) := by decide +kernel
/-- the outside consumer `plain0` (there from the start) is wired to instance 2 of `x` and to the condition of iteration 2 -/
example : ((1, instName 2 "x".toList), ((2, "plain0".toList) : CId)) ∈ (runM [exDoc] exOut [0, 0]).edges ∧
    ((1, instName 2 "stop".toList), ((2, "plain0".toList) : CId)) ∈ (runM [exDoc] exOut [0, 0]).edges := by decide +kernel
/-- the condition component aggregates the looped sibling `x` (`x:loopoutput`) that `plain0` reads from outside -/
def exDocAgg : Doc :=
  { exDoc with comps := [{ stage := 0, name := "x".toList, refs := [⟨false, none, "in0".toList, [], "output".toList⟩] },
                         { stage := 0, name := "stop".toList, refs := [⟨false, none, "x".toList, [], "loopoutput".toList⟩] }] }

/-- the expansion of the SAME placeholder differs between its two consumers: the producer of the current condition
gets the instances only (no self-loop), the outside consumer gets the instances and that producer -/
example :
    refPreds [exDocAgg] (runM [exDocAgg] exOut [0]).comps
        { stage := 1, name := instName 1 "stop".toList, refs := [] } ⟨false, some 1, "x".toList, [], "loopoutput".toList⟩
      = [(1, instName 0 "x".toList), (1, instName 1 "x".toList)] ∧
    refPreds [exDocAgg] (runM [exDocAgg] exOut [0]).comps
        { stage := 2, name := "plain0".toList, refs := [] } ⟨false, some 1, "x".toList, [], "ref".toList⟩
      = [(1, instName 0 "x".toList), (1, instName 1 "x".toList), (1, instName 1 "stop".toList)] := by decide +kernel
/-- … and the live graph has no self-loop -/
example : (runM [exDocAgg] exOut [0, 0]).edges.all (fun e => e.1 != e.2) = true := by decide +kernel
example : ctlPredecessors [exDoc, exDoc2] (runM [exDoc, exDoc2] exOut [1, 0]).comps (1, "x".toList)
    = [(1, instName 0 "x".toList), (1, instName 1 "x".toList), (1, instName 1 "stop".toList)] := by decide +kernel

/-- three instances of `x`; the file of iteration 1 is missing (the first and the last are there) -/
def exDisk : Disk := fun x =>
  if x == (1, instName 0 "x".toList) then .value "a".toList
  else if x == (1, instName 2 "x".toList) then .value "c".toList
  else if x == (1, instName 1 "x".toList) then .noFile else .noDir

/-- … `x:loopoutput` does not resolve (it names instance 1), its command-line value is blank, `x:output` is the output
of instance 2 -/
example : (match loopOutputM true [exDoc] (runM [exDoc] exOut [0, 0]).comps (1, "x".toList) exDisk with
    | .error nf => nf == [(1, instName 1 "x".toList)]
    | .ok _ => false) = true := by decide +kernel
example : argLoopOutputM true [exDoc] (runM [exDoc] exOut [0, 0]).comps (1, "x".toList) exDisk = .blank := by decide +kernel
example : argOutputM true [exDoc] (runM [exDoc] exOut [0, 0]).comps (1, "x".toList) exDisk = "c".toList := by decide +kernel
/-- with all three files there it resolves to the three values in iteration order -/
example : (match loopOutputM true [exDoc] (runM [exDoc] exOut [0, 0]).comps (1, "x".toList)
      (fun x => .value x.2) with
    | .ok vs => vs == [instName 0 "x".toList, instName 1 "x".toList, instName 2 "x".toList]
    | .error _ => false) = true := by decide +kernel

end Examples

end St4sd.C05
