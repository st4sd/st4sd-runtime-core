import St4sd.Lemmas.C02Inv
import St4sd.Model.CtrlGrow
/-! The stage loop (`Op.next`): what `run()` reported for the stages left behind (`runR`), and the
invariant `SInv` tying those reports to the FAILED components of earlier stages. -/
namespace St4sd.C02L
open St4sd.Ctrl

theorem runR_fst (wf : Wf) (ops : List Op) : (runR wf ops).1 = run wf ops :=
  (List.foldl_hom Prod.fst fun _ _ => rfl).symm

/-! ## the verdict (`verdict wf s` is `verdictOn` of the components of the current stage) -/

theorem verdictOn_jobFailure {wf : Wf} {s : St} {mine : List Nat} :
    verdictOn wf s mine = .jobFailure ↔ ∃ c ∈ mine, (s.comp c).ctrl = some .failed := by
  have hany : mine.any (fun c => (s.comp c).ctrl == some .failed) = true ↔
      ∃ c ∈ mine, (s.comp c).ctrl = some .failed := by simp
  unfold verdictOn
  split
  · next ha => exact ⟨fun _ => hany.1 ha, fun _ => rfl⟩
  · next ha => exact ⟨(fun h => by split at h <;> cases h), fun h => absurd (hany.2 h) ha⟩

theorem mem_stageComps {wf : Wf} {k c : Nat} : c ∈ stageComps wf k ↔ c < wf.n ∧ (wf.cdef c).stage = k := by
  simp [stageComps, comps]

theorem verdict_jobFailure {wf : Wf} {s : St} {c : Nat} (hc : c < wf.n)
    (hst : (wf.cdef c).stage = s.cur) (hf : (s.comp c).ctrl = some .failed) :
    verdict wf s = .jobFailure :=
  verdictOn_jobFailure.2 ⟨c, mem_stageComps.2 ⟨hc, hst⟩, hf⟩

theorem failed_of_verdict {wf : Wf} {s : St} (h : verdict wf s = .jobFailure) :
    ∃ c, c < wf.n ∧ (wf.cdef c).stage = s.cur ∧ (s.comp c).ctrl = some .failed := by
  obtain ⟨c, hc, hf⟩ := verdictOn_jobFailure.1 h
  exact ⟨c, (mem_stageComps.1 hc).1, (mem_stageComps.1 hc).2, hf⟩

theorem cur_of_noFinishedLeaf {wf : Wf} {s : St} (h : verdict wf s = .noFinishedLeaf) :
    s.cur = wf.lastStage := by
  unfold verdict at h
  dsimp only at h
  split at h
  · cases h
  · split at h
    · next hc =>
      simp only [Bool.and_eq_true, beq_iff_eq] at hc
      exact hc.1
    · cases h

/-- invariant of the stage loop; `a = (state, reports)` -/
structure SInv (wf : Wf) (a : St × Reports) : Prop where
  /-- the stages left behind are complete: every component of theirs is in a final state -/
  before : ∀ c, c < wf.n → (wf.cdef c).stage < a.1.cur → (a.1.comp c).ctrl.isSome = true
  /-- a FAILED component of a stage left behind: that stage was reported as failed -/
  rep : ∀ c, c < wf.n → (wf.cdef c).stage < a.1.cur → (a.1.comp c).ctrl = some .failed →
      ((wf.cdef c).stage, Verdict.jobFailure) ∈ a.2
  /-- reports are about stages left behind -/
  lt : ∀ e ∈ a.2, e.1 < a.1.cur
  /-- a stage is reported as failed only if one of its components is FAILED -/
  sound : ∀ e ∈ a.2, e.2 = Verdict.jobFailure →
      ∃ c, c < wf.n ∧ (wf.cdef c).stage = e.1 ∧ (a.1.comp c).ctrl = some .failed
  /-- a stage without `continue-on-error` is left behind only after `run()` returned normally -/
  cont : ∀ e ∈ a.2, e.2 = Verdict.ok ∨ wf.contOnErr e.1 = true

theorem sinv_init (wf : Wf) : SInv wf (init, []) :=
  ⟨fun _ _ h => (Nat.not_lt_zero _ h).elim, fun _ _ h => (Nat.not_lt_zero _ h).elim,
   fun _ he => (List.not_mem_nil he).elim, fun _ he => (List.not_mem_nil he).elim,
   fun _ he => (List.not_mem_nil he).elim⟩

theorem SInv.mono {wf : Wf} {a : St × Reports} {t : St} (hS : SInv wf a) (hM : Mono a.1 t) :
    SInv wf (t, a.2) := by
  have keep : ∀ c, c < wf.n → (wf.cdef c).stage < a.1.cur → (t.comp c).ctrl = (a.1.comp c).ctrl := by
    intro c hc h
    cases hct : (a.1.comp c).ctrl with
    | none => have := hS.before c hc h; simp [hct] at this
    | some f => exact hM.ctrl c f hct
  refine ⟨fun c hc h => ?_, fun c hc h hf => ?_, fun e he => ?_, fun e he hj => ?_, hS.cont⟩
  · have h : (wf.cdef c).stage < a.1.cur := hM.cur ▸ h
    exact (keep c hc h).symm ▸ hS.before c hc h
  · have h : (wf.cdef c).stage < a.1.cur := hM.cur ▸ h
    exact hS.rep c hc h ((keep c hc h).symm.trans hf)
  · exact hM.cur.symm ▸ hS.lt e he
  · obtain ⟨c, hc, h1, h2⟩ := hS.sound e he hj
    exact ⟨c, hc, h1, hM.ctrl c _ h2⟩

theorem SInv.advance {wf : Wf} {a : St × Reports} (hI : Inv wf none a.1) (hS : SInv wf a)
    (hca : canAdvance wf a.1 = true) :
    SInv wf ({ a.1 with cur := a.1.cur + 1, stop := false }, a.2 ++ [(a.1.cur, verdict wf a.1)]) := by
  simp only [canAdvance, Bool.and_eq_true, decide_eq_true_eq, Bool.or_eq_true, beq_iff_eq] at hca
  obtain ⟨⟨hdone, _⟩, hv⟩ := hca
  simp only [stageDone, comps, List.all_eq_true, List.mem_range, Bool.or_eq_true, bne_iff_ne, ne_eq] at hdone
  refine ⟨fun c hc h => ?_, fun c hc h hf => ?_, fun e he => ?_, fun e he hj => ?_, fun e he => ?_⟩
  · by_cases e : (wf.cdef c).stage = a.1.cur
    · exact (hI.ci c).k8 ((hdone c hc).resolve_left (absurd e))
    · exact hS.before c hc (Nat.lt_of_le_of_ne (Nat.le_of_lt_succ h) e)
  · by_cases e : (wf.cdef c).stage = a.1.cur
    · rw [verdict_jobFailure hc e hf, e]
      exact List.mem_append_right _ (List.mem_singleton.2 rfl)
    · exact List.mem_append_left _ (hS.rep c hc (Nat.lt_of_le_of_ne (Nat.le_of_lt_succ h) e) hf)
  · rcases List.mem_append.1 he with he | he
    · exact Nat.lt_succ_of_lt (hS.lt e he)
    · cases List.mem_singleton.1 he; exact Nat.lt_succ_self _
  · rcases List.mem_append.1 he with he | he
    · exact hS.sound e he hj
    · cases List.mem_singleton.1 he; exact failed_of_verdict hj
  · rcases List.mem_append.1 he with he | he
    · exact hS.cont e he
    · cases List.mem_singleton.1 he; exact hv

theorem stepR_sinv {wf : Wf} {a : St × Reports} (op : Op) (hI : Inv wf none a.1) (hS : SInv wf a) :
    SInv wf (stepR wf a op) := by
  by_cases hop : op = .next
  · subst hop
    by_cases hca : canAdvance wf a.1 = true
    · rw [show stepR wf a .next = _ by simp only [stepR, step, advance, hca, if_true]; rfl]
      exact hS.advance hI hca
    · rw [show stepR wf a .next = a by simp [stepR, step, advance, hca]]
      exact hS
  · rw [show stepR wf a op = (step wf a.1 op, a.2) by simp [stepR, hop]]
    exact hS.mono (step_inv' op hop hI).2

theorem runR_sinv (wf : Wf) (ops : List Op) : SInv wf (run wf ops, (runR wf ops).2) := by
  rw [← runR_fst]
  exact (List.foldlRecOn (motive := fun a => Inv wf none a.1 ∧ SInv wf a) ops (stepR wf)
    ⟨inv_init wf, sinv_init wf⟩ fun _ h op _ => ⟨(step_inv op h.1).1, stepR_sinv op h.1 h.2⟩).2

end St4sd.C02L
