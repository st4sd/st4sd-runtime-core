import St4sd.Model.LoopMulti
import St4sd.Lemmas.C05
/-!
The instances of the template of one DoWhile document (`blockIds`, `instanceIds`) and what a placeholder matches among
them.  Both the run of one document and the run of several are analysed through one fact about the workflow `cs`:
`matched cs p = (instanceIds d k).filter (matchP p)` for the placeholders `p` of `d` — from it follow the newest
instance, the current condition, and (for a duplicate-free template) the list of represented instances.
Namespace `St4sd.C05` holds only the definitions the property statements mention; all lemmas are in `St4sd.C05L`.
-/
namespace St4sd.C05
open St4sd.Loop

/-- ids of the instances of iteration `i` -/
def blockIds (d : Doc) (i : Nat) : List CId := d.comps.map fun c => (c.stage + d.importStage, instName i c.name)

/-- ids of the instances of iterations `0 … k`, iteration by iteration -/
def instanceIds (d : Doc) (k : Nat) : List CId := (List.range (k + 1)).flatMap (blockIds d)

/-- id of the placeholder of template component `c` -/
def pid (d : Doc) (c : Comp) : CId := (c.stage + d.importStage, c.name)

def OutsideUnlooped (out : List Comp) : Prop := ∀ c ∈ out, isLooped c.name = false
def CondInLoop (d : Doc) : Prop := ∃ c ∈ d.comps, c.stage = d.condStage ∧ c.name = d.condName

end St4sd.C05

namespace St4sd.C05L
open St4sd.Str St4sd.Loop St4sd.C05

theorem matchP_iff (p x : CId) : matchP p x = true ↔ (x.1, baseName x.2) = p := by
  obtain ⟨a, b⟩ := p
  simp [matchP, Prod.ext_iff]

theorem matched_eq_filter (cs : List Comp) (p : CId) : matched cs p = (loopedIds cs).filter (matchP p) := rfl

theorem pid_mem {d : Doc} {c : Comp} (hc : c ∈ d.comps) : pid d c ∈ loopIds d := List.mem_map.mpr ⟨c, hc, rfl⟩

theorem condPid_mem {d : Doc} (hCond : CondInLoop d) : (d.condStage + d.importStage, d.condName) ∈ loopIds d := by
  obtain ⟨c, hc, hcs, hcn⟩ := hCond
  exact hcs ▸ hcn ▸ pid_mem hc

/-! ### ids of component lists -/

theorem ids_append (a b : List Comp) : ids (a ++ b) = ids a ++ ids b := List.map_append

theorem ids_instantiate (d : Doc) (known : List CId) (i : Nat) : ids (instantiate d known i) = blockIds d i := by
  simp [ids, instantiate, blockIds, Comp.id, List.map_map, Function.comp_def]

theorem loopedIds_append (a b : List Comp) : loopedIds (a ++ b) = loopedIds a ++ loopedIds b := by
  simp [loopedIds, ids]

theorem matched_append (a b : List Comp) (p : CId) : matched (a ++ b) p = matched a p ++ matched b p := by
  simp [matched, loopedIds_append]

theorem mem_loopedIds_of_matched {cs : List Comp} {p x : CId} (h : x ∈ matched cs p) : x ∈ loopedIds cs :=
  (List.mem_filter.mp h).1

theorem mem_ids_of_loopedIds {cs : List Comp} {x : CId} (h : x ∈ loopedIds cs) : x ∈ ids cs :=
  (List.mem_filter.mp h).1

theorem loopedIds_out {out : List Comp} (hOut : OutsideUnlooped out) : loopedIds out = [] := by
  rw [loopedIds, List.filter_eq_nil_iff]
  intro x hx
  obtain ⟨c, hc, rfl⟩ := List.mem_map.mp hx
  simp [Comp.id, hOut c hc]

/-! ### the instances of a template -/

theorem blockIds_eq (d : Doc) (i : Nat) : blockIds d i = (loopIds d).map fun q => (q.1, instName i q.2) := by
  simp [blockIds, loopIds, List.map_map, Function.comp_def]

theorem instanceIds_zero (d : Doc) : instanceIds d 0 = blockIds d 0 := List.append_nil _

theorem instanceIds_succ (d : Doc) (k : Nat) : instanceIds d (k + 1) = instanceIds d k ++ blockIds d (k + 1) := by
  simp [instanceIds, List.range_succ, List.flatMap_append]

theorem mem_instanceIds {d : Doc} {k : Nat} {x : CId} :
    x ∈ instanceIds d k ↔ ∃ i, i ≤ k ∧ ∃ c ∈ d.comps, x = (c.stage + d.importStage, instName i c.name) := by
  simp only [instanceIds, List.mem_flatMap, List.mem_range, blockIds, List.mem_map, Nat.lt_succ_iff, eq_comm]

theorem instanceIds_mono {d : Doc} {k k' : Nat} (h : k ≤ k') {x : CId} (hx : x ∈ instanceIds d k) :
    x ∈ instanceIds d k' := by
  obtain ⟨i, hi, r⟩ := mem_instanceIds.mp hx
  exact mem_instanceIds.mpr ⟨i, Nat.le_trans hi h, r⟩

theorem loopedIds_instantiate (d : Doc) (known : List CId) (n : Nat) :
    loopedIds (instantiate d known n) = blockIds d n := by
  rw [loopedIds, ids_instantiate, List.filter_eq_self]
  intro x hx
  obtain ⟨c, _, rfl⟩ := List.mem_map.mp hx
  exact isLooped_instName _ _

theorem loopedIds_of_ids {out cs : List Comp} {d : Doc} {k : Nat} (hOut : OutsideUnlooped out)
    (h : ids cs = ids out ++ instanceIds d k) : loopedIds cs = instanceIds d k := by
  have h1 : (ids out).filter (fun x => isLooped x.2) = [] := loopedIds_out hOut
  rw [loopedIds, h, List.filter_append, h1, List.nil_append, List.filter_eq_self]
  intro x hx
  obtain ⟨i, _, c, _, rfl⟩ := mem_instanceIds.mp hx
  exact isLooped_instName _ _

theorem matched_of_ids {out cs : List Comp} {d : Doc} {k : Nat} (hOut : OutsideUnlooped out)
    (h : ids cs = ids out ++ instanceIds d k) (p : CId) : matched cs p = (instanceIds d k).filter (matchP p) := by
  rw [matched_eq_filter, loopedIds_of_ids hOut h]

theorem instName_not_mem_loopIds {d : Doc} (hNames : ∀ c ∈ d.comps, isLooped c.name = false) (s j : Nat) (n : S) :
    (s, instName j n) ∉ loopIds d := by
  intro h
  obtain ⟨c, hc, e⟩ := List.mem_map.mp h
  have e2 : c.name = instName j n := (Prod.ext_iff.mp e).2
  have := hNames c hc
  rw [e2, isLooped_instName] at this
  cases this

/-! ### what a placeholder matches among the instances -/

theorem filter_blockIds (d : Doc) (p : CId) (i : Nat) :
    (blockIds d i).filter (matchP p) = List.replicate ((loopIds d).count p) (p.1, instName i p.2) := by
  have : (matchP p ∘ fun q : CId => (q.1, instName i q.2)) = fun q => q == p := by
    funext q
    exact Bool.eq_iff_iff.mpr (by rw [Function.comp, matchP_iff, baseName_instName, beq_iff_eq])
  rw [blockIds_eq, List.filter_map, this, List.filter_beq, List.map_replicate]

theorem matched_instantiate (d : Doc) (known : List CId) (n : Nat) (p : CId) :
    matched (instantiate d known n) p = List.replicate ((loopIds d).count p) (p.1, instName n p.2) := by
  rw [matched_eq_filter, loopedIds_instantiate, filter_blockIds]

theorem filter_instanceIds (d : Doc) (p : CId) (k : Nat) :
    (instanceIds d k).filter (matchP p) =
      (List.range (k + 1)).flatMap fun i => List.replicate ((loopIds d).count p) (p.1, instName i p.2) := by
  rw [instanceIds, List.filter_flatMap]
  simp only [filter_blockIds]

theorem mem_filter_instanceIds {d : Doc} {p : CId} (hp : p ∈ loopIds d) {k : Nat} {y : CId} :
    y ∈ (instanceIds d k).filter (matchP p) ↔ ∃ i, i ≤ k ∧ y = (p.1, instName i p.2) := by
  simp [filter_instanceIds, List.mem_replicate, List.count_eq_zero, hp, Nat.lt_succ_iff]

theorem filter_instanceIds_nodup {d : Doc} (hN : (loopIds d).Nodup) {p : CId} (hp : p ∈ loopIds d) (k : Nat) :
    (instanceIds d k).filter (matchP p) = (List.range (k + 1)).map fun i => (p.1, instName i p.2) := by
  rw [filter_instanceIds, hN.count, if_pos hp, List.map_eq_flatMap]
  rfl

theorem firstMaxBy_filter_instanceIds {d : Doc} {p : CId} (hp : p ∈ loopIds d) (k : Nat) :
    firstMaxBy (iterLt true) ((instanceIds d k).filter (matchP p)) = some (p.1, instName k p.2) := by
  rw [iterLt_true]
  refine firstMaxBy_unique_max (fun x : CId => iterNum x.2)
    ((mem_filter_instanceIds hp).mpr ⟨k, Nat.le_refl k, rfl⟩) (fun y hy => ?_) (fun y hy e => ?_)
  · obtain ⟨i, hi, rfl⟩ := (mem_filter_instanceIds hp).mp hy
    simpa using hi
  · obtain ⟨i, _, rfl⟩ := (mem_filter_instanceIds hp).mp hy
    rw [iterNum_instName, iterNum_instName] at e
    rw [e]

theorem cond_of_matched {d : Doc} {cs : List Comp} {k : Nat} (hCond : CondInLoop d)
    (h : ∀ p ∈ loopIds d, matched cs p = (instanceIds d k).filter (matchP p)) :
    curIter d cs = k ∧ latestCond d cs = some (d.condStage + d.importStage, instName k d.condName) := by
  have hl : latestCond d cs = some (d.condStage + d.importStage, instName k d.condName) := by
    show firstMaxBy (iterLt true) (matched cs (d.condStage + d.importStage, d.condName)) = _
    rw [h _ (condPid_mem hCond)]
    exact firstMaxBy_filter_instanceIds (condPid_mem hCond) k
  exact ⟨by simp [curIter, hl], hl⟩

theorem findPlaceholder_eq (num : Bool) (d : Doc) (cs : List Comp) (p : CId) :
    findPlaceholder num d cs p = if p ∈ loopIds d then
      some { id := p, represents := matched cs p, latest := firstMaxBy (iterLt num) (matched cs p) } else none := by
  rw [findPlaceholder, placeholders, List.find?_map]
  show ((loopIds d).find? (fun q => q == p)).map _ = _
  rw [find?_beq]
  split <;> rfl

/-! ### the run of one document -/

theorem run_inv (d : Doc) (out : List Comp) (hOut : OutsideUnlooped out) (hCond : CondInLoop d) (k : Nat) :
    ids (run d out k).comps = ids out ++ instanceIds d k := by
  induction k with
  | zero => rw [instanceIds_zero, ← ids_instantiate d (ids out) 0, ← ids_append]; rfl
  | succ k ih =>
    have hcur := (cond_of_matched hCond fun p _ => matched_of_ids hOut ih p).1
    show ids ((run d out k).comps ++ instantiate d _ (curIter d (run d out k).comps + 1)) = _
    rw [ids_append, ids_instantiate, hcur, ih, instanceIds_succ, List.append_assoc]

theorem matched_run (d : Doc) (out : List Comp) (hOut : OutsideUnlooped out) (hCond : CondInLoop d) (k : Nat) (p : CId) :
    matched (run d out k).comps p = (instanceIds d k).filter (matchP p) :=
  matched_of_ids hOut (run_inv d out hOut hCond k) p

end St4sd.C05L
