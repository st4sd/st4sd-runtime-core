import St4sd.Model.Ini
import St4sd.Lemmas.Str
/-!
# C19 — per-type round-trip lemmas of the printers/parsers of the legacy format

`int(str(n)) = n`, `' '.join(ws).split() = ws`, bool lower-casing, memory texts, variable references:
for every printer/parser pair that `Ini.good` accepts, parsing the printed text gives the value back.
`rawFieldOk` is the check on tables under which an option's text is written and read unchanged.
-/
namespace St4sd.Ini
open St4sd.Str

/-! ## decimal digits -/

/-- `int(str(n)) = n` on naturals -/
theorem digitsToNat_natToDigits (n : Nat) : digitsToNat? (natToDigits n) = some n :=
  St4sd.Str.digitsToNat_natToDigits n

private theorem parseInt_digits (s : S) (hne : s ≠ []) (hall : ∀ c ∈ s, isDigit c = true) :
    parseInt? s = (digitsToNat? s).map fun n => (n : Int) := by
  cases s with
  | nil => exact absurd rfl hne
  | cons c r =>
    have hc : isDigit c = true := hall c List.mem_cons_self
    unfold parseInt?
    split
    · next heq => cases heq; exact absurd hc (by decide +kernel)
    · next heq => cases heq; exact absurd hc (by decide +kernel)
    · rfl

/-- `int(str(n)) = n` on integers -/
theorem parseInt_intToStr (n : Int) : parseInt? (intToStr n) = some n := by
  cases n with
  | ofNat k =>
    simp only [intToStr]
    rw [parseInt_digits _ (natToDigits_ne_nil k) (natToDigits_all k), digitsToNat_natToDigits]
    rfl
  | negSucc k =>
    simp only [intToStr, parseInt?]
    rw [digitsToNat_natToDigits]
    rfl

/-! ## `' '.join(ws).split() = ws` -/

private theorem split_word (w : S) (hw : w.all (fun c => !isSpace c) = true) :
    ∀ (cur rest : S), splitWordsAux cur (w ++ rest) = splitWordsAux (w.reverse ++ cur) rest := by
  induction w with
  | nil => intro cur rest; rfl
  | cons c w ih =>
    intro cur rest
    simp only [List.all_cons, Bool.and_eq_true, Bool.not_eq_true'] at hw
    have hrest : w.all (fun c => !isSpace c) = true := by
      simpa using hw.2
    simp only [List.cons_append, splitWordsAux, hw.1, Bool.false_eq_true, if_false]
    rw [ih hrest]
    simp

theorem splitWords_join (ws : List S) (h : ws.all wordOk = true) : splitWords (join [' '] ws) = ws := by
  unfold splitWords
  induction ws with
  | nil => rfl
  | cons p r ih =>
    simp only [List.all_cons, Bool.and_eq_true] at h
    obtain ⟨hp, hr⟩ := h
    unfold wordOk at hp
    simp only [Bool.and_eq_true, Bool.not_eq_true'] at hp
    obtain ⟨hpne, hpall⟩ := hp
    have hrev : p.reverse.isEmpty = false := by
      cases p with
      | nil => simp at hpne
      | cons _ _ => simp
    cases r with
    | nil =>
      have := split_word p hpall [] []
      simp only [List.append_nil] at this
      simp only [join, this, splitWordsAux, hrev, Bool.false_eq_true, if_false, List.reverse_reverse]
    | cons q r' =>
      simp only [join, List.append_assoc]
      rw [split_word p hpall]
      have hsp : isSpace ' ' = true := by decide +kernel
      simp only [List.append_nil, List.singleton_append, splitWordsAux, hsp, if_true, hrev, Bool.false_eq_true,
        if_false, List.reverse_reverse]
      rw [ih hr]

/-! ## every accepted printer/parser pair is a round trip on the parser's domain -/

private theorem orVarRef_of {s : S} (h : isVarRef s = true) : orVarRef s = some (.str s) := if_pos h

private theorem parse_pyStr (pa : Parser) (v : Val) (hg : good .ident pa = true) (hd : inDom pa v = true) :
    ∃ w, parse pa (pyStr v) = some w ∧ norm pa w = norm pa v := by
  cases pa <;> (try cases hg) <;> cases v <;> try cases hd
  · exact ⟨_, rfl, rfl⟩
  · next s =>
    obtain ⟨hv, hn⟩ := Bool.and_eq_true_iff.mp hd
    exact ⟨.str s, by simp only [pyStr, parse, Option.isNone_iff_eq_none.mp hn, orVarRef_of hv], rfl⟩
  · next n => exact ⟨.int n, by simp only [pyStr, parse, parseInt_intToStr], rfl⟩
  · next s =>
    obtain ⟨hv, hn⟩ := Bool.and_eq_true_iff.mp hd
    have hn : isFloatLit s = false := by simpa using hn
    exact ⟨.str s, by simp only [pyStr, parse, hn, Bool.false_eq_true, if_false, orVarRef_of hv], rfl⟩
  · next l =>
    have hd : isFloatLit l = true := hd
    exact ⟨.float l, by simp only [pyStr, parse, hd, if_true], rfl⟩
  · next s =>
    refine ⟨.str s, ?_, rfl⟩
    simp only [pyStr, parse]
    cases hm : memBytes? s with
    | some n => rfl
    | none => exact orVarRef_of (by simpa [inDom, hm] using hd)
  · next n =>
    have hm : memBytes? (intToStr n) = some n := by simp only [memBytes?, parseInt_intToStr]
    exact ⟨.str (intToStr n), by simp only [pyStr, parse, hm], by simp only [norm, hm]⟩

theorem print_parse (pr : Printer) (pa : Parser) (v : Val) (hg : good pr pa = true) (hd : inDom pa v = true) :
    ∃ w, parse pa (print pr v) = some w ∧ norm pa w = norm pa v := by
  cases pr with
  | ident => exact parse_pyStr pa v hg hd
  | strOf => exact parse_pyStr pa v (by cases pa <;> exact hg) hd
  | lowerIfBool =>
    cases pa <;> try cases hg
    cases v <;> try cases hd
    · next s =>
      obtain ⟨hv, hn⟩ := Bool.and_eq_true_iff.mp hd
      exact ⟨.str s, by simp only [print, pyStr, parse, Option.isNone_iff_eq_none.mp hn, orVarRef_of hv], rfl⟩
    · next b => cases b <;> exact ⟨_, by decide +kernel, rfl⟩
  | joinWords =>
    cases pa <;> try cases hg
    cases v <;> try cases hd
    next ws => exact ⟨.words ws, by simp only [print, parse, splitWords_join ws hd], rfl⟩
  | strLower | unknown => cases pa <;> cases hg

/-! ## an option whose text is written and read as it is -/

/-- a check on tables: the option `p` is written as it is — by an `ident` entry of the dump table, or under its own name
below a pass-through prefix — under a known key whose branch of the reader stores the text under `p` and nothing else -/
def rawFieldOk (dt : List DumpEntry) (pt : List ParseEntry) (known : List S) (pass : List Path) (p : Path) : Bool :=
  p.length != 2 &&
  match (match findDump dt p with
    | some e => if e.printer = Printer.ident then some e.key else none
    | none => passKey pass p) with
  | some k => known.contains k && (findParse pt k).map ParseEntry.outs == some [(p, POut.parsed Parser.raw)]
  | none => false

theorem rawField_roundtrip {dt : List DumpEntry} {pt : List ParseEntry} {known : List S} {pass : List Path} {p : Path}
    (h : rawFieldOk dt pt known pass p = true) (s : S) :
    ∃ k, dumpPair dt pass (p, .str s) = some (k, s) ∧ parsePair pt known (k, s) = some [(p, .str s)] := by
  unfold rawFieldOk at h
  obtain ⟨hlen, h⟩ := Bool.and_eq_true_iff.mp h
  split at h
  · next k hk =>
    obtain ⟨hknown, hfind⟩ := Bool.and_eq_true_iff.mp h
    refine ⟨k, ?_, ?_⟩
    · show dumpSome dt pass p (.str s) = _
      unfold dumpSome
      split
      · simp at hlen
      · split at hk
        · next e hf =>
          split at hk
          · next hid =>
            simp only [hf, hid]
            rw [← Option.some.inj hk]
            rfl
          · cases hk
        · next hf => simp only [hf, hk]; rfl
    · cases hf : findParse pt k with
      | none => simp [hf] at hfind
      | some pe =>
        have ho : pe.outs = [(p, .parsed .raw)] := by simpa [hf] using hfind
        simp only [parsePair, hknown, if_true, hf, ho, parseOuts, parse, Option.map_some]
        simp [dropEmptyTop]
  · cases h

end St4sd.Ini
