import St4sd.Model.C17Scalar
import St4sd.Lemmas.Assoc
import St4sd.Lemmas.Str
/-!
Equations and lookup laws for the functions of `Model/Env.lean`, `Model/C17Vars.lean` and `Model/C17Scalar.lean`,
stated about variables: which keys a step of a loop can add, what `platEnv` / `getEnv` answer in terms of the
lookups in the document, the flattened environments of an instance document, rendering of literal tokens.
-/
namespace St4sd.C17
open St4sd.Str St4sd.Assoc St4sd.Env

abbrev has (d : Dict) (k : S) : Prop := (dget d k).isSome = true

theorem has_foldl {step : Dict → S → Dict} {P : S → Prop}
    (hstep : ∀ acc n k, has (step acc n) k → has acc k ∨ (k = n ∧ P n)) :
    ∀ (names : List S) (acc : Dict) (k : S), has (names.foldl step acc) k → has acc k ∨ (k ∈ names ∧ P k)
  | [], _, _, h => Or.inl h
  | n :: r, acc, k, h => by
    rcases has_foldl hstep r _ k h with h | ⟨h1, h2⟩
    · rcases hstep acc n k h with h | ⟨rfl, hp⟩
      · exact Or.inl h
      · exact Or.inr ⟨List.mem_cons_self, hp⟩
    · exact Or.inr ⟨List.mem_cons_of_mem _ h1, h2⟩

theorem has_importStep {launch : Dict} (acc : Dict) (n k : S) (h : has (importStep launch acc n) k) :
    has acc k ∨ (k = n ∧ has launch n) := by
  unfold importStep at h
  split at h
  · exact Or.inl h
  · next lv hl =>
    have hn : has launch n := by rw [has, hl]; rfl
    split at h <;> exact (isSome_dget_dset h).imp_right fun hk => ⟨hk, hn⟩

theorem has_interpStep {launch env : Dict} (acc : Dict) (n k : S) (h : has (interpStep launch env acc n) k) :
    has acc k ∨ (k = n ∧ has launch n) := by
  unfold interpStep at h
  split at h
  · exact Or.inl h
  · next lv hl =>
    split at h
    · exact Or.inl h
    · exact (isSome_dget_dset h).imp_right fun hk => ⟨hk, by rw [has, hl]; rfl⟩

theorem has_applyDefaults {launch env : Dict} {rm : Bool} {k : S} (h : has (applyDefaults launch env rm) k) :
    has env k ∨ (k ∈ importNames env ∧ has launch k) := by
  unfold applyDefaults at h
  unfold importNames
  split at h
  · exact Or.inl h
  · next v hd =>
    rw [hd]
    refine has_foldl has_importStep _ env k ?_
    split at h
    · rw [has, dget_derase] at h
      split at h
      · cases h
      · exact h
    · exact h

theorem platEnv_eq (e : Envs) (nm plat : S) : platEnv e nm plat =
    if lower nm == sNone then .ok [] else
      match dget ((dget e plat).getD []) (lower nm) with
      | some x => .ok x
      | none => .error .unknownEnv := by
  simp only [platEnv]
  by_cases hn : (lower nm == sNone) = true
  · simp only [hn, if_true]
  · simp only [hn]
    cases dget e plat <;> rfl

theorem dget_eq_platEnv (e : Envs) {nm : S} (plat : S) (h : (lower nm == sNone) = false) :
    dget ((dget e plat).getD []) (lower nm) = (platEnv e nm plat).toOption := by
  rw [platEnv_eq, h]
  cases dget ((dget e plat).getD []) (lower nm) <;> rfl

theorem getEnv_defined {e : Envs} {nm plat : S}
    (h : (∃ d, platEnv e nm plat = .ok d) ∨ (∃ d, platEnv e nm sDefault = .ok d)) :
    ∃ r, getEnv e nm plat = .ok r := by
  unfold getEnv
  by_cases hp : (plat == sDefault) = true
  · obtain rfl : plat = sDefault := by simpa using hp
    rw [if_pos hp]
    rcases h with ⟨d, hd⟩ | ⟨d, hd⟩ <;> exact ⟨_, by rw [hd]⟩
  · rw [if_neg hp]
    rcases h with ⟨d, hd⟩ | ⟨d, hd⟩
    · cases hx : platEnv e nm sDefault <;> exact ⟨_, by rw [hd]⟩
    · cases hx : platEnv e nm plat <;> exact ⟨_, by rw [hd]⟩

/-- `dict(d).update(p)` read key-wise -/
theorem dget_layers (d p : Dict) (k : S) :
    dget (dupdate (dupdate [] d) p) k = match dgetLast p k with
      | some v => some v
      | none => dgetLast d k := by
  rw [dget_dupdate]
  cases dgetLast p k with
  | some v => rfl
  | none => exact dget_copy d k

theorem dget_layer_fold (d p : List (S × Dict)) (ks : List S) (acc : List (S × Dict)) (n : S) :
    dget (ks.foldl (layerStep d p) acc) n =
      if n ∈ ks then some (dupdate (dupdate [] ((dget d n).getD [])) ((dget p n).getD [])) else dget acc n := by
  induction ks generalizing acc with
  | nil => rfl
  | cons a r ih =>
    rw [List.foldl_cons, ih]
    by_cases hr : n ∈ r
    · simp [hr]
    · by_cases han : a = n
      · simp [han, layerStep, dget_dset]
      · simp [hr, han, Ne.symm han, layerStep, dget_dset]

theorem dget_flatEnvs (e : Envs) (plat n : S) :
    dget (flatEnvs e plat) n =
      let dn := if plat == sDefault then none else dget ((dget e sDefault).getD []) n
      match dget ((dget e plat).getD []) n with
      | some pn => some (dupdate (dupdate [] (dn.getD [])) pn)
      | none => dn := by
  have hd : dget (if plat == sDefault then [] else (dget e sDefault).getD []) n =
      if plat == sDefault then none else dget ((dget e sDefault).getD []) n := by split <;> rfl
  unfold flatEnvs
  simp only [dget_layer_fold, hd]
  cases hp : dget ((dget e plat).getD []) n with
  | none => rw [if_neg ((dget_eq_none_iff _ n).mp hp)]
  | some pn => rw [if_pos ((dget_isSome_iff_mem_keys _ n).mp (by rw [hp]; rfl))]; rfl

/-- in an instance document everything is on the default platform, and the answer is a copy of the entry -/
theorem getEnv_mkInst (flat : List (S × Dict)) (nm plat : S) :
    getEnv (mkInstEnvs plat flat) nm plat =
      if lower nm == sNone then .ok [] else
        match dget flat (lower nm) with
        | some x => .ok (dupdate [] x)
        | none => .error .unknownEnv := by
  unfold getEnv mkInstEnvs
  simp only [platEnv_eq]
  by_cases hn : (lower nm == sNone) = true
  · simp only [hn, if_true]; split <;> rfl
  · by_cases hp : (plat == sDefault) = true
    · obtain rfl : plat = sDefault := by simpa using hp
      simp only [hn, BEq.rfl, if_true, dget, Option.getD_some]
      cases dget flat (lower nm) <;> rfl
    · have hp2 : (sDefault == plat) = false := beq_false_of_ne fun h => hp (by rw [h]; exact BEq.rfl)
      simp only [hn, hp, hp2, dget, BEq.rfl, if_true, Option.getD_some, Bool.false_eq_true, if_false]
      cases dget flat (lower nm) <;> rfl

/-- two answers of `getEnv` that stand for the same environment: dictionaries with the same lookups, or both errors -/
structure SameEnv (x y : Except Err Dict) : Prop where
  lookups : ∀ r, x = .ok r → ∃ s, y = .ok s ∧ ∀ k, dget r k = dget s k
  defined : (∃ s, y = .ok s) → ∃ r, x = .ok r

theorem SameEnv.ok {a b : Dict} (h : ∀ k, dget a k = dget b k) : SameEnv (.ok a) (.ok b) :=
  ⟨fun _ hr => ⟨b, rfl, Except.ok.inj hr ▸ h⟩, fun _ => ⟨a, rfl⟩⟩

theorem SameEnv.error (x y : Err) : SameEnv (.error x) (.error y) :=
  ⟨fun _ => nofun, fun ⟨_, h⟩ => nomatch h⟩

/-- `instance(platform)` keeps every named environment, key by key: an answer of the instance document is,
lookup for lookup, the answer of the document it was made from, and it is an error for the one exactly when it is
for the other. -/
theorem getEnv_instEnvs (e : Envs) (nm plat : S) : SameEnv (getEnv (instEnvs e plat) nm plat) (getEnv e nm plat) := by
  rw [show instEnvs e plat = mkInstEnvs plat (flatEnvs e plat) from rfl, getEnv_mkInst, dget_flatEnvs]
  unfold getEnv
  simp only [platEnv_eq]
  by_cases hn : (lower nm == sNone) = true
  · simp only [hn, if_true]
    split <;> exact .ok fun _ => rfl
  · by_cases hp : (plat == sDefault) = true
    · obtain rfl : plat = sDefault := by simpa using hp
      simp only [hn, BEq.rfl, if_true, Bool.false_eq_true, if_false]
      cases dget ((dget e sDefault).getD []) (lower nm) with
      | none => exact .error _ _
      | some p => exact .ok (dget_copy_dupdate [] p)
    · simp only [hn, hp, Bool.false_eq_true, if_false]
      cases dget ((dget e plat).getD []) (lower nm) <;> cases dget ((dget e sDefault).getD []) (lower nm)
      · exact .error _ _
      · exact .ok fun _ => rfl
      · exact .ok (dget_copy_dupdate [] _)
      · exact .ok (dget_copy_dupdate _ _)

theorem render_lits_append (lk : S → Option S) (a : S) (ts : List Tok) :
    render lk (lits a ++ ts) = a ++ render lk ts := by
  induction a with
  | nil => rfl
  | cons c r ih => exact congrArg (c :: ·) ih

theorem render_lits (lk : S → Option S) (a : S) : render lk (lits a) = a := by
  have := render_lits_append lk a []
  rwa [List.append_nil, render, List.append_nil] at this

theorem renderStrict_congr (lk₁ lk₂ : S → Option S) (safe : S → Bool) (ts : List Tok)
    (h : ∀ n ∈ refNames ts, lk₁ n = lk₂ n) : renderStrict lk₁ safe ts = renderStrict lk₂ safe ts := by
  induction ts with
  | nil => rfl
  | cons t r ih =>
    cases t with
    | lit c => simp only [renderStrict, ih h]
    | ref n o =>
      simp only [renderStrict]
      rw [h n List.mem_cons_self, ih fun m hm => h m (List.mem_cons_of_mem _ hm)]

theorem renderStrict_no_refs (lk : S → Option S) (safe : S → Bool) (ts : List Tok)
    (h : refNames ts = []) : renderStrict lk safe ts = some (render lk ts) := by
  induction ts with
  | nil => rfl
  | cons t r ih =>
    cases t with
    | lit c => simp only [renderStrict, render, ih h, Option.map_some]
    | ref n o => cases h

theorem tokT_no_dollar (s : S) (h : ∀ c ∈ s, (c == '$') = false) : tokT .normal s = lits s := by
  induction s with
  | nil => rfl
  | cons c cs ih =>
    simp only [tokT, h c List.mem_cons_self, Bool.false_eq_true, if_false,
      ih fun d hd => h d (List.mem_cons_of_mem _ hd)]
    rfl

theorem tokE_no_dollar (s : S) (h : ∀ c ∈ s, (c == '$') = false) : tokE .normal s = lits s := by
  induction s with
  | nil => rfl
  | cons c cs ih =>
    simp only [tokE, h c List.mem_cons_self, Bool.false_eq_true, if_false,
      ih fun d hd => h d (List.mem_cons_of_mem _ hd)]
    rfl

theorem intText_ne_nil (i : Int) : intText i ≠ [] := by
  cases i with
  | ofNat n => exact natToDigits_ne_nil n
  | negSucc n => exact List.cons_ne_nil _ _

end St4sd.C17
