import St4sd.Lemmas.C04Tree
import St4sd.Model.TreeFlatten
/-!
# The layering skeleton `flattenRaw` of C04 (`Model/TreeFlatten.lean`), key by key

What the two variable scopes of the flattened description offer together (`get_flatScope`), and what is left of a
component: its stage, its own variables and its override for the selected platform.
-/
namespace St4sd.Tree
open St4sd.Str

theorem get_update_nil (b : Fields) (x : S) : get (update [] b) x = get b x := by
  rw [get_update]; cases get b x <;> rfl

theorem lookupN_map {α : Type} (f : Nat → α) (l : List Nat) (i : Nat) (h : i ∈ l) :
    lookupN (l.map fun j => (j, f j)) i = some (f i) := by
  induction l with
  | nil => cases h
  | cons a r ih =>
    simp only [List.map_cons, lookupN]
    split
    · next ha => rw [ha]
    · next ha => exact ih ((List.mem_cons.1 h).resolve_left fun e => ha e.symm)

theorem mem_stagesOf (cs : List Comp) (c : Comp) (h : c ∈ cs) : c.stage ∈ stagesOf cs := by
  induction cs with
  | nil => cases h
  | cons a r ih =>
    have hc : c.stage = a.stage ∨ c.stage ∈ stagesOf r := (List.mem_cons.1 h).imp (congrArg _) ih
    simp only [stagesOf]
    split
    · next ha => exact hc.elim (fun e => e ▸ by simpa using ha) id
    · exact List.mem_cons.2 hc

theorem flattenRaw_global_default (d : Desc) (P : S) :
    globalVars (flattenRaw d P) defaultName = flatGlobal0 d P := by
  simp [globalVars, platVars, flattenRaw, lookupS]

theorem flattenRaw_stage_default (d : Desc) (P : S) (i : Nat) (hi : i ∈ stagesOf d.comps) :
    stageVars (flattenRaw d P) defaultName i = flatStage0 d P i := by
  simp [stageVars, platVars, flattenRaw, lookupS, lookupN_map (fun j => flatStage0 d P j) _ i hi]

theorem flattenRaw_global_other (d : Desc) (P : S) (hP : P ≠ defaultName) :
    globalVars (flattenRaw d P) P = [] := by
  simp [globalVars, platVars, flattenRaw, lookupS, hP.symm]

theorem flattenRaw_stage_other (d : Desc) (P : S) (i : Nat) (hP : P ≠ defaultName) :
    stageVars (flattenRaw d P) P i = [] := by
  simp [stageVars, platVars, flattenRaw, lookupS, hP.symm, lookupN]

/-- what the scopes of a flattened description offer to a component of stage `i`: exactly the documented
layering of the four scopes of the original description -/
theorem get_flatScope (d : Desc) (P : S) (i : Nat) (x : S) :
    get (update (flatGlobal0 d P) (flatStage0 d P i)) x =
      get (if P = defaultName then update (globalVars d defaultName) (stageVars d defaultName i)
           else update (update (update (globalVars d defaultName) (stageVars d defaultName i)) (globalVars d P))
                  (stageVars d P i)) x := by
  by_cases hP : P = defaultName
  · subst hP
    simp only [flatGlobal0, flatStage0, if_true, get_update, get, Option.or_self, Option.or_none]
  · simp only [flatGlobal0, flatStage0, hP, if_false, get_update, get_filter_absent]
    cases get (stageVars d P i) x <;> cases get (globalVars d P) x <;>
      cases get (stageVars d defaultName i) x <;> cases get (globalVars d defaultName) x <;> rfl

theorem overrideName_ne_variables : ("override".toList : S) ≠ "variables".toList := by decide +kernel

/-- "keep just the override options for the selected platform", key by key: only `override` changes, and what it
says about `P` stays -/
theorem get_trimOverrideRaw (body : Fields) (P k : S) :
    get (trimOverrideRaw body P) k =
      if "override".toList = k then
        match get body "override".toList with
        | some (.dict o) => (get o P).map fun v => .dict [(P, v)]
        | w => w
      else get body k := by
  unfold trimOverrideRaw trimOverride
  cases h : get body "override".toList with
  | some o =>
    cases o with
    | dict kvs => cases hv : get kvs P <;> simp only [hv, get_erase, get_set, Option.map]
    | _ => exact (ite_eq_right_iff.2 fun e => e ▸ h.symm).symm
  | none => exact (ite_eq_right_iff.2 fun e => e ▸ h.symm).symm

theorem flatCompRaw_stage (P : S) (c : Comp) : (flatCompRaw P c).stage = c.stage := rfl

theorem flatCompRaw_compVars (P : S) (c : Comp) : compVars (flatCompRaw P c) = flatCompVars0 c P := by
  simp only [compVars, flatCompRaw, get_trimOverrideRaw, if_neg overrideName_ne_variables, get_set, if_true, dictOr]

theorem flatCompRaw_ovrOf (P : S) (c : Comp) : ovrOf (flatCompRaw P c) P = ovrOf c P := by
  simp only [ovrOf, flatCompRaw, get_trimOverrideRaw, if_true, get_set, if_neg overrideName_ne_variables.symm]
  cases get c.body "override".toList with
  | some o =>
    cases o with
    | dict kvs => cases h : get kvs P <;> simp [dictOr, get, h]
    | _ => rfl
  | none => rfl

theorem flatCompRaw_ovrVars (P : S) (c : Comp) : ovrVars (flatCompRaw P c) P = ovrVars c P := by
  unfold ovrVars
  rw [flatCompRaw_ovrOf]

end St4sd.Tree
