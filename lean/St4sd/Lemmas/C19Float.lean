import St4sd.Model.IniFloat
import St4sd.Lemmas.C19
/-!
# C19 — lemmas about decimal literals (`Model/IniFloat.lean`)

`parseWeight (printWeight w) = some w` for every well-formed literal, by induction over its digit lists; and what the
reader finds under each key of a status section as `dumpStage` writes it.
-/
namespace St4sd.IniFloat
open St4sd.Str
open St4sd.Ini (digitsOk)

theorem span_digits (d r : S) (hd : d.all isDigit = true) (hr : ∀ c t, r = c :: t → isDigit c = false) :
    (d ++ r).takeWhile isDigit = d ∧ (d ++ r).dropWhile isDigit = r := by
  induction d with
  | nil =>
    cases r with
    | nil => exact ⟨rfl, rfl⟩
    | cons c t =>
      have := hr c t rfl
      simp [this]
  | cons c d ih =>
    simp only [List.all_cons, Bool.and_eq_true] at hd
    obtain ⟨h1, h2⟩ := ih hd.2
    constructor
    · simp only [List.cons_append, List.takeWhile, hd.1, h1]
    · simp only [List.cons_append, List.dropWhile, hd.1, h2]

theorem expText_head {e : Option (Bool × S)} {c : Char} {t : S} (h : expText e = c :: t) : c = 'e' := by
  match e, h with
  | some (true, d), h => exact (List.cons.inj h).1.symm
  | some (false, d), h => exact (List.cons.inj h).1.symm

theorem expText_not_digit (e : Option (Bool × S)) : ∀ c t, expText e = c :: t → isDigit c = false :=
  fun c t h => expText_head h ▸ by decide

theorem fracExp_not_digit (f : Option S) (e : Option (Bool × S)) :
    ∀ c t, fracText f ++ expText e = c :: t → isDigit c = false := by
  cases f with
  | none => exact expText_not_digit e
  | some f => exact fun c t h => (List.cons.inj h).1 ▸ by decide

def expWf : Option (Bool × S) → Bool
  | none => true
  | some (_, d) => digitsOk d

theorem parseExp_expText (e : Option (Bool × S)) (h : expWf e = true) : parseExp (expText e) = some e := by
  -- on `e`, a sign and `d` the parser reduces to the test `digitsOk d`
  match e, h with
  | none, _ => rfl
  | some (true, d), h => exact if_pos h
  | some (false, d), h => exact if_pos h

theorem digitsOk_ne (d : S) (h : digitsOk d = true) : d.isEmpty = false ∧ d.all isDigit = true := by
  simp only [digitsOk, Bool.and_eq_true, Bool.not_eq_true'] at h
  exact h

theorem parseUnsigned_text (neg : Bool) (i : S) (f : Option S) (e : Option (Bool × S))
    (hi : digitsOk i = true) (hf : ∀ d, f = some d → d.all isDigit = true) (he : expWf e = true) :
    parseUnsigned neg (i ++ (fracText f ++ expText e)) = some ⟨neg, i, f, e⟩ := by
  obtain ⟨hine, hiall⟩ := digitsOk_ne i hi
  obtain ⟨h1, h2⟩ := span_digits i (fracText f ++ expText e) hiall (fracExp_not_digit f e)
  unfold parseUnsigned
  simp only [h1, h2]
  cases f with
  | none =>
    simp only [fracText, List.nil_append]
    split
    · rename_i t heq
      exact absurd (expText_head heq) (by decide +kernel)
    · simp only [hine, Bool.false_eq_true, if_false, parseExp_expText e he, Option.map_some]
  | some d =>
    have hd := hf d rfl
    obtain ⟨h3, h4⟩ := span_digits d (expText e) hd (expText_not_digit e)
    simp only [fracText, List.cons_append, h3, h4, hine, Bool.false_and, Bool.false_eq_true, if_false,
      parseExp_expText e he, Option.map_some]

theorem wf_parts (w : Lit) (h : wf w = true) :
    digitsOk w.int = true ∧ (∀ d, w.frac = some d → d.all isDigit = true) ∧ expWf w.exp = true := by
  unfold wf at h
  simp only [Bool.and_eq_true] at h
  obtain ⟨⟨h1, h2⟩, h3⟩ := h
  exact ⟨h1, fun d hd => by rw [hd] at h2; exact h2, h3⟩

/-- `float(str(x))` reads the literal of `x` back, for every well-formed literal -/
theorem parseWeight_printWeight (w : Lit) (h : wf w = true) : parseWeight (printWeight w) = some w := by
  obtain ⟨hi, hf, he⟩ := wf_parts w h
  obtain ⟨neg, i, f, e⟩ := w
  simp only at hi hf he
  cases neg with
  | true =>
    simp only [printWeight, unsignedText, if_true, parseWeight]
    exact parseUnsigned_text true i f e hi hf he
  | false =>
    simp only [printWeight, unsignedText, Bool.false_eq_true, if_false]
    obtain ⟨hine, hiall⟩ := digitsOk_ne i hi
    cases i with
    | nil => simp at hine
    | cons c r =>
      have hc : isDigit c = true := by
        simp only [List.all_cons, Bool.and_eq_true] at hiall; exact hiall.1
      unfold parseWeight
      split
      · next heq => cases heq; exact absurd hc (by decide +kernel)
      · next heq => cases heq; exact absurd hc (by decide +kernel)
      · exact parseUnsigned_text false (c :: r) f e hi hf he

theorem canonical_wf (w : Lit) (h : canonical w = true) : wf w = true := by
  unfold canonical at h
  simp only [Bool.and_eq_true] at h
  obtain ⟨⟨⟨h1, _⟩, h2⟩, h3⟩ := h
  unfold wf
  simp only [Bool.and_eq_true]
  refine ⟨⟨h1, ?_⟩, ?_⟩
  · cases hf : w.frac with
    | none => rfl
    | some f =>
      rw [hf] at h2
      simp only [Bool.and_eq_true] at h2
      exact (digitsOk_ne f h2.1).2
  · cases he : w.exp with
    | none => rfl
    | some sd =>
      obtain ⟨s, d⟩ := sd
      rw [he] at h3
      simp only [Bool.and_eq_true] at h3
      obtain ⟨⟨⟨⟨⟨hd, _⟩, _⟩, _⟩, _⟩, _⟩ := h3
      exact hd

/-! ## the lines of one status section -/

private theorem keys_distinct : kWeight ≠ kExecutable ∧ kWeight ≠ kArguments ∧ kWeight ≠ kReferences ∧
    kExecutable ≠ kWeight ∧ kArguments ≠ kWeight ∧ kReferences ≠ kWeight ∧
    kExecutable ≠ kArguments ∧ kExecutable ≠ kReferences ∧ kArguments ≠ kReferences := by decide +kernel

theorem get_weight_lines (w : Option Lit) (e : Option Exe) :
    get kWeight (weightLines w ++ exeLines e) = w.map printWeight := by
  obtain ⟨_, _, _, h1, h2, h3, _⟩ := keys_distinct
  cases w with
  | some w => exact if_pos rfl
  | none =>
    cases e with
    | none => rfl
    | some e => simp only [weightLines, exeLines, List.nil_append, get, Option.map_none, h1, h2, h3, if_false]

theorem readExe_lines (w : Option Lit) (e : Option Exe)
    (he : ∀ x, e = some x → x.executable.isEmpty = false ∧ x.references.all St4sd.Ini.wordOk = true) :
    readExe (weightLines w ++ exeLines e) = e := by
  obtain ⟨k1, k2, k3, _, _, _, a1, a2, a3⟩ := keys_distinct
  have hw : ∀ k, kWeight ≠ k → get k (weightLines w ++ exeLines e) = get k (exeLines e) := by
    intro k hk
    cases w with
    | none => rfl
    | some w => exact if_neg hk
  unfold readExe
  rw [hw _ k1, hw _ k2, hw _ k3]
  cases e with
  | none => rfl
  | some x =>
    obtain ⟨hx, hr⟩ := he x rfl
    simp only [exeLines, get, if_true, a1, a2, a3, if_false, hx, Bool.false_eq_true, Option.getD_some,
      St4sd.Ini.splitWords_join x.references hr]

end St4sd.IniFloat
