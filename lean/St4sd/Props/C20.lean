import St4sd.Lemmas.C20
/-!
# C20 — Reported progress is a proper weighted fraction

Property theorems; what they share about the model's definitions is in `Lemmas/C20.lean`.
Units: see `Model/Weights.lean` (1 = 10^9 units, tolerance 1e-6 = 1000 units).
-/
namespace St4sd.C20
open St4sd.Weights

/-- The fallback weights always sum to exactly one, for every number of stages `n ≥ 1`
(including `n > 1000`, where `int(1000/n) = 0` and the last stage carries everything). -/
theorem fallback_sums_to_one (n : Nat) (hn : 1 ≤ n) : sum (fallback n) = one := by
  have hn' : ((n - 1 : Nat) : Int) = (n : Int) - 1 := by omega
  rw [fallback, sum_append, sum_replicate, sum, sum, Int.add_zero, ← Int.mul_assoc, ← Int.add_mul, hn']
  rw [Int.add_comm, Int.sub_add_cancel]; rfl

/-- … and are all non-negative. -/
theorem fallback_nonneg (n : Nat) (hn : 1 ≤ n) : ∀ x ∈ fallback n, 0 ≤ x := by
  intro x hx
  have hm : (0 : Int) ≤ milli := by decide
  -- (n-1) * (1000 / n) ≤ 1000
  have hb := parts_bounds (c := (n : Int) - 1) (n := n) (D := 1000) (by omega) (by omega) (by decide)
  rcases List.mem_append.mp hx with h | h
  · rw [(List.mem_replicate.mp h).2]
    exact Int.mul_nonneg (Int.ediv_nonneg (by decide) (by omega)) hm
  · rw [List.mem_singleton.mp h]
    exact Int.mul_nonneg (by omega) hm

/-- `fallback n` has one weight per stage. -/
theorem fallback_length (n : Nat) (hn : 1 ≤ n) : (fallback n).length = n := by
  simp [fallback]; omega

theorem normalize_length (ws : List Int) (hn : 1 ≤ ws.length) : (normalize ws).length = ws.length := by
  unfold normalize; split
  · rfl
  · exact fallback_length _ hn

/-- Full statement, clause 1: after loading, the weights are non-negative and sum to one
(within the loader's tolerance of 1e-6 when the package's own weights are kept, exactly
otherwise) — for every number of stages and every given weight list. -/
theorem loaded_weights_proper (ws : List Int) (hn : 1 ≤ ws.length) :
    (∀ x ∈ normalize ws, 0 ≤ x) ∧ sum (normalize ws) - one < tol ∧ one - sum (normalize ws) < tol := by
  unfold normalize
  split
  · next h => exact (proper_iff ws).mp h
  · rw [fallback_sums_to_one _ hn]
    exact ⟨fallback_nonneg _ hn, by decide, by decide⟩

/-- Full statement, clause 2: weights that already are non-negative and sum to one are
returned unchanged. -/
theorem proper_weights_kept (ws : List Int) (hs : sum ws = one) (hp : ∀ x ∈ ws, 0 ≤ x) :
    normalize ws = ws :=
  if_pos ((proper_iff ws).mpr ⟨hp, by rw [hs]; decide, by rw [hs]; decide⟩)

/-- The re-check of `StatusMonitor.__init__` accepts whatever the loader produced … -/
theorem monitor_recheck_accepts_loaded (ws : List Int) (hn : 1 ≤ ws.length) : monitorKeeps (normalize ws) = true :=
  (proper_iff _).mpr (loaded_weights_proper ws hn)

/-- … and therefore the list `StatusMonitor` reports with is, position by position, the loaded
list: `stageWeights = loaded weights` as lists (same length, `stageWeights[i]` = loaded weight of
stage `i`), for every number of stages. -/
theorem monitor_keeps_loaded (ws : List Int) (hn : 1 ≤ ws.length) :
    monitorWeights (normalize ws) = some (normalize ws) :=
  if_pos (monitor_recheck_accepts_loaded ws hn)

/-- Why the position-wise statement is needed: the re-check cannot see a misplaced weight —
any rearrangement of a proper list is proper again (non-negative, same sum). -/
theorem recheck_blind_to_order (a b : List Int) (h : a.Perm b) : proper a = proper b := by
  rw [Bool.eq_iff_iff, proper_iff, proper_iff, sum_perm h]
  simp only [h.mem_iff]

/-- Negative weights are never kept, whatever the sum. -/
theorem negative_never_kept (ws : List Int) (x : Int) (hx : x ∈ ws) (hneg : x < 0) :
    normalize ws = fallback ws.length :=
  if_neg fun h => absurd (((proper_iff ws).mp h).1 x hx) (Int.not_le.mpr hneg)

/-- The coded guard `num_stages * int(100*fallbackWeight) != 1000` can never be false:
`int(100*fallbackWeight) ≤ 100 / n`, so the product is at most 100. -/
theorem guard_always_true (n : Nat) (hn : 1 ≤ n) (c : Int) (hc : c ≤ 100 / (n : Int)) : (n : Int) * c ≠ 1000 := by
  have h1 : (n : Int) * (100 / (n : Int)) ≤ 100 := Int.mul_ediv_self_le (by omega)
  have h2 : (n : Int) * c ≤ (n : Int) * (100 / (n : Int)) := Int.mul_le_mul_of_nonneg_left hc (by omega)
  exact Int.ne_of_lt (Int.lt_of_le_of_lt (Int.le_trans h2 h1) (by decide))

/-- Progress bound: with per-stage progress `0 ≤ p ≤ scale` and non-negative weights,
`0 ≤ Σ p·w ≤ scale · Σ w`; (divide by `scale·one` to read it as `0 ≤ total ≤ Σ w`). -/
theorem progress_bounds (scale : Int) (ps : List (Int × Int))
    (hp : ∀ e ∈ ps, 0 ≤ e.1 ∧ e.1 ≤ scale) (hw : ∀ e ∈ ps, 0 ≤ e.2) :
    0 ≤ progress ps ∧ progress ps ≤ scale * sum (ps.map Prod.snd) := by
  induction ps with
  | nil => simp [progress, sum]
  | cons e r ih =>
    obtain ⟨hr0, hr1⟩ := ih (fun e he => hp e (List.mem_cons_of_mem _ he)) (fun e he => hw e (List.mem_cons_of_mem _ he))
    obtain ⟨h0, h1⟩ := hp e List.mem_cons_self
    have h2 := hw e List.mem_cons_self
    obtain ⟨p, w⟩ := e
    show 0 ≤ p * w + progress r ∧ p * w + progress r ≤ scale * (w + sum (r.map Prod.snd))
    rw [Int.mul_add]
    exact ⟨Int.add_nonneg (Int.mul_nonneg h0 h2) hr0, Int.add_le_add (Int.mul_le_mul_of_nonneg_right h1 h2) hr1⟩

/-- Progress equals (scale times) the weight sum once every stage is complete. -/
theorem progress_complete (scale : Int) (ps : List (Int × Int)) (hp : ∀ e ∈ ps, e.1 = scale) :
    progress ps = scale * sum (ps.map Prod.snd) := by
  induction ps with
  | nil => simp [progress, sum]
  | cons e r ih =>
    have h1 : e.1 = scale := hp e List.mem_cons_self
    obtain ⟨p, w⟩ := e
    show p * w + progress r = scale * (w + sum (r.map Prod.snd))
    rw [ih (fun e he => hp e (List.mem_cons_of_mem _ he)), Int.mul_add, ← h1]

/-- Consequence stated as in the property: for loaded weights and progress values in
`[0, scale]`, `0 ≤ total ≤ scale·(1+1e-6)`, and with exact weights (`sum = one`) the total
of a completed experiment is exactly `scale·one`. -/
theorem total_progress_in_unit_interval (scale : Int) (hs : 0 ≤ scale) (ws ps : List Int)
    (hn : 1 ≤ ws.length) (hl : ps.length = ws.length) (hp : ∀ p ∈ ps, 0 ≤ p ∧ p ≤ scale) :
    0 ≤ progress (ps.zip (normalize ws)) ∧ progress (ps.zip (normalize ws)) ≤ scale * (one + tol) := by
  have hw := loaded_weights_proper ws hn
  have hb := progress_bounds scale (ps.zip (normalize ws))
    (fun e he => hp e.1 (List.of_mem_zip he).1) (fun e he => hw.1 e.2 (List.of_mem_zip he).2)
  rw [List.map_snd_zip (by rw [normalize_length ws hn, hl]; exact Nat.le_refl _)] at hb
  exact ⟨hb.1, Int.le_trans hb.2 (Int.mul_le_mul_of_nonneg_left (by omega) hs)⟩

/-! ### One status check against a changing controller -/

/-- `Σ_k ps[k]·ws[k]` written with `wsum` is the `progress` of the zipped lists. -/
theorem wsum_readOf_eq_progress (ps ws : List Int) : wsum (readOf ps) ws = progress (ps.zip ws) := by
  induction ps generalizing ws with
  | nil => rw [List.zip_nil_left]; exact (wsumFrom_const 0 ws 0).trans (Int.zero_mul _)
  | cons p ps ih =>
    cases ws with
    | nil => rfl
    | cons w ws => exact congrArg (p * w + ·) ((wsumFrom_succ _ 0 ws).trans (ih ws))

/-- **The bound needs the partition.**  If the in-transit list and the finished list of one
check are disjoint and the finished list has no repetition (which is what reading both inside
one `comp_lock` critical section provides: a stage either still has an active component or it
has none), then for progress values in `[0, scale]` and non-negative weights
`0 ≤ total ≤ scale · Σ w` — whatever the instants at which the individual progress values
were read.  (`Witness.C20.double_count_without_disjointness`: without the hypothesis the bound fails.) -/
theorem progress_of_partition_le_one (scale : Int) (cur : Nat) (transit finished : List Nat) (p : Nat → Int)
    (ws : List Int) (hd : ∀ k, k ∈ transit → k ∉ finished) (hnd : finished.Nodup)
    (hp : ∀ k, 0 ≤ p k ∧ p k ≤ scale) (hw : ∀ w ∈ ws, 0 ≤ w) :
    0 ≤ checkTotal scale cur transit finished p ws ∧
      checkTotal scale cur transit finished p ws ≤ scale * sum ws := by
  have hs : 0 ≤ scale := Int.le_trans (hp 0).1 (hp 0).2
  -- what the lock gives, pointwise: a stage is weighted with at most `scale`
  have hb : ∀ k, 0 ≤ stageFactor scale cur transit finished p k ∧
      stageFactor scale cur transit finished p k ≤ scale := by
    intro k
    rw [stageFactor_eq scale cur p hd hnd]
    split
    · exact hp k
    · split
      · exact ⟨hs, Int.le_refl _⟩
      · exact ⟨Int.le_refl _, hs⟩
  constructor
  · have := wsumFrom_mono (f := fun _ => 0) hw (fun k => (hb k).1) 0
    rwa [wsumFrom_const, Int.zero_mul] at this
  · have := wsumFrom_mono (g := fun _ => scale) hw (fun k => (hb k).2) 0
    rwa [wsumFrom_const] at this

/-- … in particular with the loaded weights: `0 ≤ total ≤ scale·(1 + 1e-6)`. -/
theorem progress_of_partition_loaded (scale : Int) (cur : Nat) (transit finished : List Nat) (p : Nat → Int)
    (ws : List Int) (hn : 1 ≤ ws.length) (hd : ∀ k, k ∈ transit → k ∉ finished) (hnd : finished.Nodup)
    (hp : ∀ k, 0 ≤ p k ∧ p k ≤ scale) :
    0 ≤ checkTotal scale cur transit finished p (normalize ws) ∧
      checkTotal scale cur transit finished p (normalize ws) ≤ scale * (one + tol) := by
  have hl := loaded_weights_proper ws hn
  have hb := progress_of_partition_le_one scale cur transit finished p (normalize ws) hd hnd hp hl.1
  refine ⟨hb.1, Int.le_trans hb.2 ?_⟩
  exact Int.mul_le_mul_of_nonneg_left (by omega) (Int.le_trans (hp 0).1 (hp 0).2)

/-- A check whose lists AND progress values come from one consistent controller state
reports exactly `Σ_k prog k · w k` of that state. -/
theorem atomic_check_reports_snapshot (scale : Int) (s : Snap) (hc : s.Consistent scale) (ws : List Int) :
    checkTotal scale s.cur s.transit s.finished s.prog ws = wsum s.prog ws := by
  have : stageFactor scale s.cur s.transit s.finished s.prog = s.prog :=
    funext fun k => (stageFactor_consistent scale s hc s.prog k).trans (ite_self _)
  rw [checkTotal, this]

/-- The check as it is coded reads the two lists at one instant (state `s`, inside the lock)
and every progress value at some later instant: if each value read lies between the stage's
progress in `s` and its progress in a later state `hi` (progress only grows, a finished stage
stays complete), the reported total lies between the exact weighted progress of the state
`s` and that of the later state. -/
theorem check_between_snapshots (scale : Int) (s : Snap) (hc : s.Consistent scale)
    (p hi : Nat → Int) (ws : List Int) (hw : ∀ w ∈ ws, 0 ≤ w)
    (hlo : ∀ k, s.prog k ≤ p k) (hhi : ∀ k, p k ≤ hi k) (hscale : ∀ k, hi k ≤ scale) :
    wsum s.prog ws ≤ checkTotal scale s.cur s.transit s.finished p ws ∧
      checkTotal scale s.cur s.transit s.finished p ws ≤ wsum hi ws := by
  have hpt : ∀ k, s.prog k ≤ stageFactor scale s.cur s.transit s.finished p k ∧
      stageFactor scale s.cur s.transit s.finished p k ≤ hi k := by
    intro k
    rw [stageFactor_consistent scale s hc]
    split
    · exact ⟨hlo k, hhi k⟩
    · exact ⟨Int.le_refl _, Int.le_trans (hlo k) (hhi k)⟩
  exact ⟨wsumFrom_mono hw (fun k => (hpt k).1) 0, wsumFrom_mono hw (fun k => (hpt k).2) 0⟩

/-- Once every stage has completed (every stage finished, or current/in transit with full
progress) an atomic check reports `scale · Σ w`, i.e. one for exact weights. -/
theorem complete_snapshot_reports_one (scale : Int) (s : Snap) (hc : s.Consistent scale) (ws : List Int)
    (hall : ∀ k, s.prog k = scale) :
    checkTotal scale s.cur s.transit s.finished s.prog ws = scale * sum ws := by
  rw [atomic_check_reports_snapshot scale s hc ws]
  have : s.prog = fun _ => scale := funext hall
  rw [this]
  exact wsumFrom_const scale ws 0

/-! ### Missing stages: the default weight is materialised by the loader and read by the monitor -/

/-- position by position: a given stage contributes its weight, a missing one 0 -/
theorem givenUnits_eq_map (gs : List (Option Int)) : givenUnits gs = gs.map (fun o => o.getD 0) := by
  induction gs with
  | nil => rfl
  | cons g r ih => cases g <;> simp [givenUnits, ih]

/-- Clause 1 with missing stages: whenever the weights a package GIVES are non-negative and sum to
one, the loaded weights are, position by position, the given weight for a stage that has one
and 0 for a stage without `status-report` entry / without `stage-weight` — for every number
of stages and every given/missing assignment. -/
theorem missing_stages_weigh_zero (gs : List (Option Int)) (hs : sum (givenUnits gs) = one)
    (hp : ∀ u, some u ∈ gs → 0 ≤ u) : load gs = gs.map (fun o => o.getD 0) := by
  unfold load
  rw [proper_weights_kept (givenUnits gs) hs, givenUnits_eq_map]
  intro x hx
  rw [givenUnits_eq_map] at hx
  obtain ⟨o, ho, rfl⟩ := List.mem_map.mp hx
  cases o with
  | none => exact Int.le_refl 0
  | some u => exact hp u ho

/-- The report the loader leaves behind has a `stage-weight` for every stage … -/
theorem loaded_report_complete (gs : List (Option Int)) : ∀ e ∈ loadReport gs, e.isSome = true := by
  intro e he
  obtain ⟨x, _, rfl⟩ := List.mem_map.mp he
  rfl

/-- … so `StatusMonitor`, reading that report key by key, never meets its "malformed" sentinel and
reports with exactly the loaded list (position by position), missing stages included. -/
theorem monitor_reads_loaded_report (gs : List (Option Int)) (hn : 1 ≤ gs.length) :
    monitorFromReport (loadReport gs) = some (load gs) := by
  unfold monitorFromReport loadReport
  rw [readReport_map_some]
  exact monitor_keeps_loaded (givenUnits gs) (by rw [givenUnits_eq_map, List.length_map]; exact hn)

/-- Both together, as the property states it: given weights that sum to one are the weights used
for reporting, a missing stage reports with weight 0. -/
theorem monitor_uses_given_weights (gs : List (Option Int)) (hn : 1 ≤ gs.length)
    (hs : sum (givenUnits gs) = one) (hp : ∀ u, some u ∈ gs → 0 ≤ u) :
    monitorFromReport (loadReport gs) = some (gs.map (fun o => o.getD 0)) := by
  rw [monitor_reads_loaded_report gs hn, missing_stages_weigh_zero gs hs hp]

/-! ### Per-stage progress from the controller's bookkeeping -/

/-- `get_stage_status`: finished ⊆ population, so the stage progress `finished/population` is a
value in `[0, 1]` … -/
theorem stage_progress_in_unit_interval (s : List Bool) : (stageProgress s).1 ≤ (stageProgress s).2 :=
  finishedCount_le s

/-- … after every history of component completions, population growth (DoWhile iterations) and
earlier queries, for every stage; and its denominator is the CURRENT population. -/
theorem stage_progress_in_unit_interval_history (c : Ctl) (h : List CtlOp) (k : Nat) :
    (queryStage (run c h) k).1 ≤ (queryStage (run c h) k).2 ∧
      (queryStage (run c h) k).2 = ((run c h).stages.getD k []).length :=
  ⟨finishedCount_le _, rfl⟩

/-- a stage all of whose components are finished has progress `population/population` = 1 -/
theorem stage_complete_progress_one (s : List Bool) (h : ∀ b ∈ s, b = true) :
    (stageProgress s).1 = (stageProgress s).2 :=
  (finishedCount_eq_count s).trans (List.count_eq_length.mpr fun b hb => (h b hb).symm)

/-- a new DoWhile iteration keeps the numerator and adds to the denominator -/
theorem grow_adds_to_population (s : List Bool) (m : Nat) :
    stageProgress (s ++ List.replicate m false) = ((stageProgress s).1, (stageProgress s).2 + m) := by
  simp [stageProgress, finishedCount_eq_count, List.count_replicate]

/-- the stage fractions over a common scale `D ≥ 0` satisfy `0 ≤ p ≤ D` (hypothesis of `progress_bounds`) -/
theorem scaled_bounds (D : Int) (hD : 0 ≤ D) (s : List Bool) (hne : s ≠ []) :
    0 ≤ scaled D s ∧ scaled D s ≤ D :=
  parts_bounds (Int.natCast_nonneg _) (Int.ofNat_le.mpr (finishedCount_le s)) hD

/-- End to end: per-stage progress values that come from the controller's bookkeeping (every stage
has at least one component) and loaded weights give `0 ≤ total ≤ 1 + 1e-6`
(numerators over `prodLen stages · one`). -/
theorem total_of_component_progress_in_unit_interval (stages : List (List Bool)) (ws : List Int)
    (hne : ∀ s ∈ stages, s ≠ []) (hn : 1 ≤ ws.length) (hl : stages.length = ws.length) :
    0 ≤ totalOfStages stages (normalize ws) ∧
      totalOfStages stages (normalize ws) ≤ prodLen stages * (one + tol) := by
  unfold totalOfStages
  apply total_progress_in_unit_interval (prodLen stages) (prodLen_nonneg stages) ws _ hn (by simpa using hl)
  intro p hp
  obtain ⟨s, hs, rfl⟩ := List.mem_map.mp hp
  exact scaled_bounds _ (prodLen_nonneg stages) s (hne s hs)

/-- … and once every component of every stage has finished the total is exactly `Σ w` (= one). -/
theorem total_of_complete_stages (stages : List (List Bool)) (ws : List Int)
    (hl : stages.length = ws.length)
    (hall : ∀ s ∈ stages, ∀ b ∈ s, b = true) :
    totalOfStages stages ws = prodLen stages * sum ws := by
  unfold totalOfStages
  have hp : ∀ e ∈ (stages.map (scaled (prodLen stages))).zip ws, e.1 = prodLen stages := by
    intro e he
    obtain ⟨s, hs, hse⟩ := List.mem_map.mp (List.of_mem_zip he).1
    rw [← hse, scaled, show finishedCount s = s.length from stage_complete_progress_one s (hall s hs)]
    exact Int.mul_ediv_cancel' (len_dvd_prodLen hs)
  rw [progress_complete (prodLen stages) _ hp, List.map_snd_zip (by rw [List.length_map, hl]; exact Nat.le_refl _)]

/-! ### Final states of components, `comp_done`, and the two stage lists of a status check

`Comp`, `inTransitOf`, `finishedOf`, `compTotal` (Model/Weights.lean): the lists are derived from the
controller's record of observed terminations only, the per-stage progress from the components' own
final states.  The theorems hold for EVERY controller state, hence after every history `runC c ops`
and for every assignment of final states (FINISHED / SHUTDOWN / FAILED) to the components. -/

/-- No stage is both in transit and finished — whatever final states its components reached. -/
theorem finished_and_in_transit_disjoint (ss : List (List Comp)) :
    ∀ k, k ∈ inTransitOf ss → k ∉ finishedOf ss := by
  intro k h1 h2
  have a := (mem_inTransitOf ss k).mp h1
  have b := (mem_finishedOf ss k).mp h2
  rw [a.2] at b
  exact absurd b.2 (by simp)

/-- Every stage the controller knows is in one of the two lists. -/
theorem finished_or_in_transit (ss : List (List Comp)) (k : Nat) (hk : k < ss.length) :
    k ∈ inTransitOf ss ∨ k ∈ finishedOf ss := by
  cases h : hasActive (ss.getD k [])
  · exact Or.inr ((mem_finishedOf ss k).mpr ⟨hk, h⟩)
  · exact Or.inl ((mem_inTransitOf ss k).mpr ⟨hk, h⟩)

/-- The finished list names a stage at most once. -/
theorem finishedOf_nodup (ss : List (List Comp)) : (finishedOf ss).Nodup :=
  List.nodup_range.filter _

/-- the per-stage progress of every stage is within `[0, D]` (FINISHED components over the population) -/
theorem scaledC_bounds (D : Int) (hD : 0 ≤ D) (s : List Comp) : 0 ≤ scaledC D s ∧ scaledC D s ≤ D :=
  parts_bounds (Int.natCast_nonneg _) (Int.ofNat_le.mpr (succCount_le s)) hD

theorem stageFactor_comp (cur : Nat) (ss : List (List Comp)) (k : Nat) :
    stageFactor (prodLenC ss) cur (inTransitOf ss) (finishedOf ss) (progC ss) k =
      if k = cur ∨ k ∈ inTransitOf ss then progC ss k else if k ∈ finishedOf ss then prodLenC ss else 0 :=
  stageFactor_eq _ cur _ (finished_and_in_transit_disjoint ss) (finishedOf_nodup ss) k

/-- **A completed stage contributes exactly its weight, once.**  A stage other than the current one
all of whose components the controller observed terminating is weighted with the full scale by one
status check — whatever the final states (FINISHED, SHUTDOWN, FAILED, any mixture) of its components. -/
theorem completed_stage_counts_once (cur : Nat) (ss : List (List Comp)) (k : Nat) (hk : k < ss.length)
    (hc : k ≠ cur) (hdone : hasActive (ss.getD k []) = false) :
    stageFactor (prodLenC ss) cur (inTransitOf ss) (finishedOf ss) (progC ss) k = prodLenC ss := by
  have hf : k ∈ finishedOf ss := (mem_finishedOf ss k).mpr ⟨hk, hdone⟩
  have hnt : k ∉ inTransitOf ss := fun h => finished_and_in_transit_disjoint ss k h hf
  rw [stageFactor_comp, if_neg (fun h => h.elim hc hnt), if_pos hf]

/-- The current stage and every stage that still has an active component contribute
progress × weight, once (they are never added a second time through the finished list). -/
theorem unfinished_stage_counts_its_progress (cur : Nat) (ss : List (List Comp)) (k : Nat)
    (h : k = cur ∨ (k < ss.length ∧ hasActive (ss.getD k []) = true)) :
    stageFactor (prodLenC ss) cur (inTransitOf ss) (finishedOf ss) (progC ss) k = progC ss k := by
  rw [stageFactor_comp, if_pos (h.imp_right (mem_inTransitOf ss k).mpr)]

/-- **Total progress is a proper fraction in every controller state**: with the loaded weights
`0 ≤ total ≤ 1 + 1e-6` (numerator over `prodLenC ss · one`) for every current stage, every population
and every assignment of final states / observed flags to the components. -/
theorem comp_total_in_unit_interval (cur : Nat) (ss : List (List Comp)) (ws : List Int) (hn : 1 ≤ ws.length) :
    0 ≤ compTotal cur ss (normalize ws) ∧ compTotal cur ss (normalize ws) ≤ prodLenC ss * (one + tol) :=
  progress_of_partition_loaded (prodLenC ss) cur (inTransitOf ss) (finishedOf ss) (progC ss) ws hn
    (finished_and_in_transit_disjoint ss) (finishedOf_nodup ss)
    (fun _ => scaledC_bounds _ (prodLenC_nonneg ss) _)

/-- … in particular after every history of terminations (in any final state), observations, DoWhile
growth, stage stops and stage-loop steps. -/
theorem comp_total_in_unit_interval_history (c : CState) (ops : List COp) (ws : List Int) (hn : 1 ≤ ws.length) :
    0 ≤ compTotal (runC c ops).cur (runC c ops).stages (normalize ws) ∧
      compTotal (runC c ops).cur (runC c ops).stages (normalize ws) ≤ prodLenC (runC c ops).stages * (one + tol) :=
  comp_total_in_unit_interval _ _ ws hn

/-- **Equals one once every stage has completed**: every stage other than the current one has no
active component left (its components terminated in ANY final state and were observed) and the
current stage has full progress (all of its components FINISHED) ⇒ the check reports `Σ w`. -/
theorem comp_total_complete (cur : Nat) (ss : List (List Comp)) (ws : List Int) (hl : ss.length = ws.length)
    (hcl : cur < ss.length)
    (hother : ∀ k, k < ss.length → k ≠ cur → hasActive (ss.getD k []) = false)
    (hcur : ∀ c ∈ ss.getD cur [], c.succeeded = true) :
    compTotal cur ss ws = prodLenC ss * sum ws := by
  unfold compTotal checkTotal wsum
  rw [wsumFrom_congr (g := fun _ => prodLenC ss) ?_, wsumFrom_const]
  intro j _ hj
  by_cases hjc : j = cur
  · subst hjc
    have hmem : ss.getD j [] ∈ ss := by
      rw [List.getD_eq_getElem?_getD, List.getElem?_eq_getElem hcl]; exact List.getElem_mem hcl
    rw [unfinished_stage_counts_its_progress j ss j (Or.inl rfl), progC, scaledC, succCount_eq_countP,
      List.countP_eq_length.mpr hcur]
    exact Int.mul_ediv_cancel' (len_dvd_prodLenC hmem)
  · exact completed_stage_counts_once cur ss j (by omega) hjc (hother j (by omega) hjc)

/-- well-formed bookkeeping: the controller observed only components that terminated -/
def ObservedTerminated (ss : List (List Comp)) : Prop :=
  ∀ s ∈ ss, ∀ c ∈ s, c.seen = true → c.st.isSome = true

/-- **History invariant**: along every history the controller's `comp_done` only holds components
that reached a final state (so "no active node" means "every component of the stage terminated"). -/
theorem observed_only_after_termination (c : CState) (ops : List COp) (h : ObservedTerminated c.stages) :
    ObservedTerminated (runC c ops).stages := by
  induction ops generalizing c with
  | nil => exact h
  | cons o r ih =>
    apply ih
    -- every operation rewrites one stage by a function that keeps "observed ⇒ terminated" componentwise
    cases o with
    | term k i f => exact forall_mem_modifyAt (fun s hs => forall_mem_modifyAt (wfc_term f) hs i) h k
    | see k i => exact forall_mem_modifyAt (fun s hs => forall_mem_modifyAt wfc_see hs i) h k
    | grow k m =>
      refine forall_mem_modifyAt (fun s hs c hc => ?_) h k
      rcases List.mem_append.mp hc with h1 | h1
      · exact hs c h1
      · rw [(List.mem_replicate.mp h1).2]; exact fun hseen => nomatch hseen
    | stop k =>
      refine forall_mem_modifyAt (fun s hs c hc => ?_) h k
      obtain ⟨y, hy, rfl⟩ := List.mem_map.mp hc
      exact wfc_stop y
    | next => exact h

-- non-vacuity: hypotheses are met by concrete non-trivial inputs
example : normalize [333300000, 333300000, 333400000] = [333300000, 333300000, 333400000] := by decide
example : normalize [500400000, 500400000] = fallback 2 := by decide
example : normalize [-500000000, 1500000000] = [500 * milli, 500 * milli] := by decide
example : fallback 3 = [333 * milli, 333 * milli, 334 * milli] := by decide
example : progress ([500, 1000].zip (normalize [250000000, 750000000])) = 875 * one := by decide

example : monitorWeights (normalize [100000000, 800000000, 100000000]) = some [100000000, 800000000, 100000000] := by decide
-- a consistent controller state: stage 0 finished, stage 1 in transit and current at 40%, stage 2 unknown
example : Snap.Consistent ⟨1, [1], [0], readOf [1000, 400, 0]⟩ 1000 :=
  ⟨by decide +kernel, by decide +kernel, by intro k; match k with | 0 | 1 | 2 => decide +kernel | k + 3 => simp [readOf],
   by intro k hk; simp at hk; subst hk; decide +kernel,
   by intro k h1 h2; match k with | 0 => simp at h2 | 1 => simp at h1 | k + 2 => cases k <;> simp [readOf]⟩
example : checkTotal 1000 1 [1] [0] (readOf [1000, 400, 0]) [100000000, 800000000, 100000000] = 420 * one := by decide

-- missing stages: [0.4, 0.6, missing] is loaded as [0.4, 0.6, 0.0] and reported with as such
example : load [some 400000000, some 600000000, none] = [400000000, 600000000, 0] := by decide
example : monitorFromReport (loadReport [none, some 250000000, some 750000000]) = some [0, 250000000, 750000000] := by
  decide +kernel
-- a DoWhile stage: 1 of 1 finished, the next iteration adds two components, both finish later
example : queryStage (run ⟨[[false], [false]], [none, none]⟩ [.query 1, .fin 1 0, .grow 1 2, .query 1]) 1 = (1, 3) := by
  decide +kernel
example : totalOfStages [[true], [true, false, false]] [250000000, 750000000] = 3 * 250000000 + 1 * 750000000 := by
  decide +kernel

-- a stage that completed with a SHUTDOWN and a FAILED component: finished, not in transit, weight once
example : finishedOf [[⟨some .finished, true⟩, ⟨some .shutdown, true⟩, ⟨some .failed, true⟩], [Comp.fresh], [Comp.fresh]] = [0]
    ∧ inTransitOf [[⟨some .finished, true⟩, ⟨some .shutdown, true⟩, ⟨some .failed, true⟩], [Comp.fresh], [Comp.fresh]] = [1, 2] := by
  decide +kernel
example : compTotal 1 [[⟨some .finished, true⟩, ⟨some .shutdown, true⟩], [Comp.fresh], [Comp.fresh]]
    [200000000, 300000000, 500000000] = 2 * 200000000 := by decide +kernel
example : compTotal 2 [[⟨some .finished, true⟩, ⟨some .shutdown, true⟩], [⟨some .failed, true⟩], [⟨some .finished, false⟩]]
    [200000000, 300000000, 500000000] = 2 * one := by decide +kernel
example : ObservedTerminated (runC ⟨0, [[Comp.fresh, Comp.fresh], [Comp.fresh]]⟩
    [.term 0 0 .finished, .see 0 0, .stop 0, .next, .term 1 0 .failed, .see 1 0]).stages := by
  intro s hs c hc; revert c; revert s; decide +kernel

end St4sd.C20
