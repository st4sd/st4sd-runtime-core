import St4sd.Model.Interp
/-!
# The interpolation loop of C04 (`interp`), one round at a time

A round that ends well either finds no reference (and the text passes the final checks), or skips `replica` in a
primitive graph, or splices in the resolved value of a string variable, or splices in the text of a scalar one; then
the loop goes on with one unit of fuel less.  `interp_ok_cases` says so once; the theorems about successful
interpolations are inductions over it.  A round that meets an undefined variable (other than the skipped `replica`)
ends the loop with `unknownVariable` (`interp_unknown`).
-/
namespace St4sd.Tree
open St4sd.Str

/-- what a variable that is not a string is spliced in as (`None`, lists and dictionaries are refused) -/
def scalarText : Val → Option S
  | .int n => some (intRepr n)
  | .bool b => some (boolRepr b)
  | .flt r => some r
  | _ => none

theorem finish_ok {s t : S} (h : finish s = .ok t) : t = s ∧ s.contains '[' = false := by
  unfold finish at h
  split at h
  · cases h
  · next hb =>
    split at h <;> cases h
    exact ⟨rfl, by simpa using hb⟩

theorem interp_ok_cases {ctx : Fields} {prim : Bool} {f : Nat} {done s t : S}
    (h : interp (f + 1) ctx prim done s = .ok t) :
    (findRef s = none ∧ finish (done ++ s) = .ok t) ∨
    ∃ pre x post, findRef s = some (pre, x, post) ∧ x.contains '.' = false ∧
      ((get ctx x = none ∧ (prim && x == replicaName) = true ∧
          interp f ctx prim (done ++ pre ++ refText x) post = .ok t) ∨
       (∃ v v', get ctx x = some (.str v) ∧ interp f ctx prim [] v = .ok v' ∧
          interp f ctx prim done (pre ++ v' ++ post) = .ok t) ∨
       (∃ w r, get ctx x = some w ∧ scalarText w = some r ∧ interp f ctx prim done (pre ++ r ++ post) = .ok t)) := by
  rw [interp] at h
  split at h
  · next hf => exact .inl ⟨hf, h⟩
  · next pre x post hf =>
    refine .inr ⟨pre, x, post, hf, ?_⟩
    split at h
    · cases h
    · next hdot =>
      refine ⟨by simpa using hdot, ?_⟩
      split at h
      · next hg =>
        split at h
        · next hp => exact .inl ⟨hg, hp, h⟩
        · cases h
      · next v hg =>
        split at h
        · next v' hin => exact .inr (.inl ⟨v, v', hg, hin, h⟩)
        · cases h
      · next n hg => exact .inr (.inr ⟨_, _, hg, rfl, h⟩)
      · next b hg => exact .inr (.inr ⟨_, _, hg, rfl, h⟩)
      · next r hg => exact .inr (.inr ⟨_, _, hg, rfl, h⟩)
      · cases h

/-! the four rounds, and the round that stops at an undefined variable, as equations -/

theorem interp_none {ctx : Fields} {prim : Bool} {f : Nat} {done s : S} (hf : findRef s = none) :
    interp (f + 1) ctx prim done s = finish (done ++ s) := by
  rw [interp, hf]

theorem interp_replica {ctx : Fields} {prim : Bool} {f : Nat} {done s pre x post : S}
    (hf : findRef s = some (pre, x, post)) (hdot : x.contains '.' = false) (hg : get ctx x = none)
    (hp : (prim && x == replicaName) = true) :
    interp (f + 1) ctx prim done s = interp f ctx prim (done ++ pre ++ refText x) post := by
  rw [interp]
  simp only [hf, hdot, hg, hp, Bool.false_eq_true, if_false, if_true]

theorem interp_str {ctx : Fields} {prim : Bool} {f : Nat} {done s pre x post v v' : S}
    (hf : findRef s = some (pre, x, post)) (hdot : x.contains '.' = false) (hg : get ctx x = some (.str v))
    (hin : interp f ctx prim [] v = .ok v') :
    interp (f + 1) ctx prim done s = interp f ctx prim done (pre ++ v' ++ post) := by
  rw [interp]
  simp only [hf, hdot, hg, hin, Bool.false_eq_true, if_false]

theorem interp_scalar {ctx : Fields} {prim : Bool} {f : Nat} {done s pre x post r : S} {w : Val}
    (hf : findRef s = some (pre, x, post)) (hdot : x.contains '.' = false) (hg : get ctx x = some w)
    (hr : scalarText w = some r) :
    interp (f + 1) ctx prim done s = interp f ctx prim done (pre ++ r ++ post) := by
  rw [interp]
  cases w <;> cases hr <;> simp only [hf, hdot, hg, Bool.false_eq_true, if_false]

theorem interp_unknown {ctx : Fields} {prim : Bool} {f : Nat} {done s pre x post : S}
    (hf : findRef s = some (pre, x, post)) (hdot : x.contains '.' = false) (hg : get ctx x = none)
    (hp : (prim && x == replicaName) = false) :
    interp (f + 1) ctx prim done s = .error (.unknownVariable x) := by
  rw [interp]
  simp only [hf, hdot, hg, hp, Bool.false_eq_true, if_false]

theorem interp_congr (ctx ctx' : Fields) (prim : Bool) (h : ∀ x, get ctx x = get ctx' x) :
    ∀ (f : Nat) (done s : S), interp f ctx prim done s = interp f ctx' prim done s := by
  intro f
  induction f with
  | zero => intro done s; rfl
  | succ f ih =>
    intro done s
    simp only [interp, h, ih]

theorem interp_ok_finished (ctx : Fields) : ∀ (f : Nat) (s v : S),
    interp f ctx false [] s = .ok v → findRef v = none ∧ finish v = .ok v := by
  intro f
  induction f with
  | zero => intro s v h; cases h
  | succ f ih =>
    intro s v h
    rcases interp_ok_cases h with ⟨hf, hfin⟩ | ⟨pre, x, post, _, _, ⟨_, hp, _⟩ | ⟨_, _, _, _, h1⟩ | ⟨_, _, _, _, h1⟩⟩
    · obtain ⟨rfl, _⟩ := finish_ok hfin
      exact ⟨hf, hfin⟩
    · cases hp
    · exact ih _ _ h1
    · exact ih _ _ h1

end St4sd.Tree
