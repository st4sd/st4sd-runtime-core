import St4sd.Model.Hash
/-!
C16: how the memoization info (`Model/Hash.lean`) is put together — what one reference contributes
(`entryOf`), the file entries as the contributions of the references that have one (`fileEntries`), the second
loop (`replaceRefs`), and `mkInfo` taken apart; then: the info is monotone in the hashes of the producers, and
the hashes of a graph position by position (`hashes_at`), which gives the congruence on producer-closed sets.
-/
namespace St4sd.C16
open St4sd.Str St4sd.Hash

/-! ### the order of the references -/

theorem insertLen_perm (x : Ref) (l : List Ref) : (insertLen x l).Perm (x :: l) := by
  induction l with
  | nil => exact .refl _
  | cons y ys ih =>
    simp only [insertLen]
    split
    · exact .refl _
    · exact (ih.cons y).trans (.swap x y ys)

theorem sortRefs_perm (l : List Ref) : (sortRefs l).Perm l := by
  induction l with
  | nil => exact .refl _
  | cons x xs ih => exact (insertLen_perm x (sortRefs xs)).trans (ih.cons x)

theorem mem_sortRefs {r : Ref} {l : List Ref} : r ∈ sortRefs l ↔ r ∈ l := (sortRefs_perm l).mem_iff

/-- the sort looks at the length of the absolute spelling only -/
theorem sortRefs_map (g : Ref → Ref) (hg : ∀ r, (g r).abs = r.abs) (l : List Ref) :
    sortRefs (l.map g) = (sortRefs l).map g := by
  have ins (x : Ref) (l : List Ref) : insertLen (g x) (l.map g) = (insertLen x l).map g := by
    induction l with
    | nil => rfl
    | cons y ys ih => simp only [List.map_cons, insertLen, hg]; split <;> simp [ih]
  induction l with
  | nil => rfl
  | cons x xs ih => simp only [List.map_cons, sortRefs, ih, ins]

/-! ### what one reference contributes -/

/-- the reference points to a file that is there (it is *consumed*: hashed and entered into `files`) -/
def _root_.St4sd.Hash.Ref.isFile (r : Ref) : Bool :=
  match r.target with
  | .file (some _) => true
  | .prodFile _ (some _) => true
  | _ => false

def _root_.St4sd.Hash.EntryRes.entry? : EntryRes → Option FileEntry
  | .entry e => some e
  | _ => none

variable (md5 : S → S) (fuzzy : Bool) (ph ph' : Nat → Option S)

theorem entryOf_cases (r : Ref) :
    entryOf md5 fuzzy ph r = .fail ∨ (entryOf md5 fuzzy ph r = .skip ∧ r.isFile = false) ∨
      ∃ h, entryOf md5 fuzzy ph r = .entry ⟨r.abs, h, r.method⟩ ∧ r.isFile = true := by
  fun_cases entryOf md5 fuzzy ph r <;> simp [Ref.isFile, *]

theorem entry?_isSome {r : Ref} (h : entryOf md5 fuzzy ph r ≠ .fail) :
    (entryOf md5 fuzzy ph r).entry?.isSome = r.isFile := by
  rcases entryOf_cases md5 fuzzy ph r with hf | ⟨hs, hi⟩ | ⟨_, he, hi⟩
  · exact absurd hf h
  · rw [hs, hi]; rfl
  · rw [he, hi]; rfl

theorem entryOf_congr_ph (r : Ref)
    (h : fuzzy = true → ∀ p c, r.target = .prodFile p (some c) → ph p = ph' p) :
    entryOf md5 fuzzy ph r = entryOf md5 fuzzy ph' r := by
  obtain ⟨a, rl, m, f, (_ | c) | _ | ⟨p, _ | c⟩ | p⟩ := r <;> try rfl
  cases fuzzy with
  | false => rfl
  | true => simp [entryOf, h rfl p c rfl]

/-! ### the file entries -/

theorem fileEntries_eq_none {l : List Ref} :
    fileEntries md5 fuzzy ph l = none ↔ ∃ r ∈ l, entryOf md5 fuzzy ph r = .fail := by
  induction l with
  | nil => simp [fileEntries]
  | cons x xs ih => cases he : entryOf md5 fuzzy ph x <;> simp [fileEntries, he, ih]

theorem fileEntries_of_no_fail {l : List Ref} (h : ∀ r ∈ l, entryOf md5 fuzzy ph r ≠ .fail) :
    fileEntries md5 fuzzy ph l = some (l.filterMap fun r => (entryOf md5 fuzzy ph r).entry?) := by
  induction l with
  | nil => rfl
  | cons x xs ih =>
    obtain ⟨hx, hxs⟩ := List.forall_mem_cons.mp h
    simp only [fileEntries, ih hxs, List.filterMap_cons]
    cases he : entryOf md5 fuzzy ph x with
    | fail => exact absurd he hx
    | _ => rfl

theorem fileEntries_eq_some {l : List Ref} {E : List FileEntry} (h : fileEntries md5 fuzzy ph l = some E) :
    (∀ r ∈ l, entryOf md5 fuzzy ph r ≠ .fail) ∧ E = l.filterMap fun r => (entryOf md5 fuzzy ph r).entry? := by
  have hnf : ∀ r ∈ l, entryOf md5 fuzzy ph r ≠ .fail := fun r hr hf => by
    rw [(fileEntries_eq_none md5 fuzzy ph).mpr ⟨r, hr, hf⟩] at h; cases h
  exact ⟨hnf, Option.some.inj (h.symm.trans (fileEntries_of_no_fail md5 fuzzy ph hnf))⟩

theorem filterMap_ne {α β : Type} (f f' : α → Option β) {l : List α} {r : α}
    (hs : ∀ x ∈ l, (f x).isSome = (f' x).isSome) (hr : r ∈ l) (hne : f r ≠ f' r) :
    l.filterMap f ≠ l.filterMap f' := by
  induction l with
  | nil => cases hr
  | cons x xs ih =>
    have hx := hs x (List.mem_cons_self ..)
    have hxs := fun y hy => hs y (List.mem_cons_of_mem _ hy)
    simp only [List.filterMap_cons]
    cases h1 : f x <;> cases h2 : f' x <;> simp only [h1, h2, Option.isSome, reduceCtorEq] at hx ⊢
    · rcases List.mem_cons.mp hr with rfl | hr'
      · exact absurd (h1.trans h2.symm) hne
      · exact ih hxs hr'
    · intro e
      rcases List.mem_cons.mp hr with rfl | hr'
      · exact hne (by rw [h1, h2, (List.cons.inj e).1])
      · exact ih hxs hr' (List.cons.inj e).2

theorem fileEntries_congr (g : Ref → Ref) (l : List Ref)
    (h : ∀ r ∈ l, entryOf md5 fuzzy ph' (g r) = entryOf md5 fuzzy ph r) :
    fileEntries md5 fuzzy ph' (l.map g) = fileEntries md5 fuzzy ph l := by
  induction l with
  | nil => rfl
  | cons x xs ih =>
    simp only [List.map_cons, fileEntries, h x (List.mem_cons_self ..),
      ih fun r hr => h r (List.mem_cons_of_mem _ hr)]

theorem fileEntries_length {l : List Ref} {E : List FileEntry} (h : fileEntries md5 fuzzy ph l = some E) :
    E.length = l.countP Ref.isFile := by
  obtain ⟨hnf, rfl⟩ := fileEntries_eq_some md5 fuzzy ph h
  rw [List.length_filterMap_eq_countP]
  exact List.countP_congr fun r hr => by rw [entry?_isSome md5 fuzzy ph (hnf r hr)]

/-! ### the second loop -/

/-- what the info reads of a reference: its spellings, its method, the producer it points into, its entry -/
structure SameFor (r' r : Ref) : Prop where
  abs : r'.abs = r.abs
  rel : r'.rel = r.rel
  method : r'.method = r.method
  producer : r'.target.producer? = r.target.producer?
  entry : entryOf md5 fuzzy ph r' = entryOf md5 fuzzy ph r

theorem infoCore_map (g : Ref → Ref) (hg : ∀ r, SameFor md5 fuzzy ph (g r) r) (img : Option S) (exe args : S)
    (refs : List Ref) :
    infoCore md5 fuzzy ph img exe args (refs.map g) = infoCore md5 fuzzy ph img exe args refs := by
  have hrep (es : List FileEntry) (l : List Ref) (a : S) :
      replaceRefs fuzzy (tokens args) es ph (l.map g) a = replaceRefs fuzzy (tokens args) es ph l a := by
    induction l generalizing a with
    | nil => rfl
    | cons x xs ih =>
      simp only [List.map_cons, replaceRefs, replacementOf, (hg x).abs, (hg x).rel, (hg x).method, (hg x).producer, ih]
  simp only [infoCore, sortRefs_map g fun r => (hg r).abs, hrep,
    fileEntries_congr md5 fuzzy ph ph g _ fun r _ => (hg r).entry]

theorem replaceRefs_fail (toks : List S) (es : List FileEntry) {l : List Ref} {r : Ref} (hr : r ∈ l)
    (htok : toks.contains r.abs = true ∨ toks.contains r.rel = true) (hrep : replacementOf fuzzy es ph r = none)
    (a : S) : replaceRefs fuzzy toks es ph l a = none := by
  induction l generalizing a with
  | nil => cases hr
  | cons x xs ih =>
    simp only [replaceRefs]
    rcases List.mem_cons.mp hr with rfl | hx
    · by_cases ha : toks.contains r.abs = true
      · simp only [ha, if_true, hrep]
      · simp only [ha, Bool.false_eq_true, if_false, htok.resolve_left ha, if_true, hrep]
    · split
      · exact ih hx a
      · split
        · rfl
        · exact ih hx a
        · exact ih hx _

/-! ### `mkInfo` taken apart -/

/-- the `hash:method` text of an entry (what `infoCore` stores in `files`) -/
def es (e : FileEntry) : S := e.hash ++ ':' :: e.method

variable (bps : Blueprints)

theorem mkInfo_eq_some {c : Comp} {i : Info} :
    mkInfo md5 fuzzy bps ph c = some i ↔ ∃ exe E a, lookupBp bps (c.stage, blueprintName bps c) = some exe ∧
      fileEntries md5 fuzzy ph (sortRefs c.refs) = some E ∧
      replaceRefs fuzzy (tokens c.args) E ph (sortRefs c.refs) c.args = some a ∧
      i = ⟨imageOf c.backend, a, exe, E.map es⟩ := by
  constructor
  · intro h
    unfold mkInfo infoCore at h
    split at h
    · cases h
    split at h
    · cases h
    split at h
    · cases h
    exact ⟨_, _, _, ‹_›, ‹_›, ‹_›, (Option.some.inj h).symm⟩
  · rintro ⟨exe, E, a, hb, hE, ha, rfl⟩
    simp only [mkInfo, infoCore, hb, hE, ha]
    rfl

theorem hashOne_eq_none {hs : List (Option S)} {c : Comp} (h : ∀ i, mkInfo md5 fuzzy bps (getH hs) c ≠ some i) :
    hashOne md5 fuzzy bps hs c = none := by
  simp [hashOne, Option.eq_none_iff_forall_ne_some.mpr h]

/-! ### the info is monotone in the hashes of the producers

Every place where the hash of a producer is looked up fails when there is none.  So an info that exists was
computed from producer hashes that exist, and stays the same when more producers have a hash. -/

/-- `ph'` knows at least the producer hashes `ph` knows, for the producers reference `r` mentions -/
def PhLeAt (r : Ref) (ph ph' : Nat → Option S) : Prop :=
  ∀ p, r.target.producer? = some p → ∀ h, ph p = some h → ph' p = some h

def PhLe (l : List Ref) (ph ph' : Nat → Option S) : Prop := ∀ r ∈ l, PhLeAt r ph ph'

variable {md5 fuzzy ph ph'}

theorem entryOf_mono {r : Ref} (hle : PhLeAt r ph ph') (h : entryOf md5 fuzzy ph r ≠ .fail) :
    entryOf md5 fuzzy ph' r = entryOf md5 fuzzy ph r := by
  refine (entryOf_congr_ph md5 fuzzy ph ph' r fun hf p c ht => ?_).symm
  cases hp : ph p with
  | none => simp [entryOf, ht, hf, hp] at h
  | some v => exact (hle p (by simp [ht, Target.producer?]) v hp).symm

theorem fileEntries_mono {l : List Ref} {E : List FileEntry} (hle : PhLe l ph ph')
    (h : fileEntries md5 fuzzy ph l = some E) : fileEntries md5 fuzzy ph' l = some E := by
  obtain ⟨hnf, _⟩ := fileEntries_eq_some md5 fuzzy ph h
  rw [← h, ← fileEntries_congr md5 fuzzy ph ph' id l fun r hr => entryOf_mono (hle r hr) (hnf r hr),
    List.map_id]

theorem replacementOf_mono {es : List FileEntry} {r : Ref} {x : Option S} (hle : PhLeAt r ph ph')
    (h : replacementOf fuzzy es ph r = some x) : replacementOf fuzzy es ph' r = some x := by
  unfold replacementOf at h ⊢
  cases hf : es.find? (fun e => e.abs == r.abs) with
  | some e => simp only [hf] at h ⊢; exact h
  | none =>
    cases hp : r.target.producer? with
    | none => simp only [hf, hp] at h ⊢; exact h
    | some p =>
      cases hh : ph p with
      | none => simp only [hf, hp, hh] at h; cases h
      | some v => simp only [hf, hp, hh] at h; simp only [hle p hp v hh]; exact h

theorem replaceRefs_mono {toks : List S} {es : List FileEntry} {l : List Ref} {a a' : S} (hle : PhLe l ph ph')
    (h : replaceRefs fuzzy toks es ph l a = some a') : replaceRefs fuzzy toks es ph' l a = some a' := by
  induction l generalizing a with
  | nil => exact h
  | cons x xs ih =>
    have hxs : PhLe xs ph ph' := fun r hr => hle r (List.mem_cons_of_mem _ hr)
    simp only [replaceRefs] at h ⊢
    split at h
    · exact ih hxs h
    · cases hr : replacementOf fuzzy es ph x with
      | none => simp [hr] at h
      | some v =>
        rw [replacementOf_mono (hle x (List.mem_cons_self ..)) hr]
        rw [hr] at h
        cases v <;> exact ih hxs h

variable (md5 fuzzy) in
theorem mkInfo_mono {c : Comp} {i : Info} (hle : PhLe c.refs ph ph') (h : mkInfo md5 fuzzy bps ph c = some i) :
    mkInfo md5 fuzzy bps ph' c = some i := by
  have hs : PhLe (sortRefs c.refs) ph ph' := fun r hr => hle r (mem_sortRefs.mp hr)
  obtain ⟨exe, E, a, hb, hE, ha, rfl⟩ := (mkInfo_eq_some md5 fuzzy ph bps).mp h
  exact (mkInfo_eq_some md5 fuzzy ph' bps).mpr ⟨exe, E, a, hb, fileEntries_mono hs hE, replaceRefs_mono hs ha, rfl⟩

variable (md5 fuzzy)

/-- a hash that exists stays the same when more producers have a hash -/
theorem hashOne_mono (md5 : S → S) (fuzzy : Bool) (bps : Blueprints) (hs hs' : List (Option S)) (c : Comp)
    (x : S) (hle : PhLe c.refs (getH hs) (getH hs')) (h : hashOne md5 fuzzy bps hs c = some x) :
    hashOne md5 fuzzy bps hs' c = some x := by
  unfold hashOne at h ⊢
  cases hi : mkInfo md5 fuzzy bps (getH hs) c with
  | none => simp [hi] at h
  | some i => rw [mkInfo_mono md5 fuzzy bps hle hi, ← hi]; exact h

theorem hashOne_congr (hs hs' : List (Option S)) (c : Comp)
    (heq : ∀ r ∈ c.refs, ∀ p, r.target.producer? = some p → getH hs p = getH hs' p) :
    hashOne md5 fuzzy bps hs c = hashOne md5 fuzzy bps hs' c := by
  have h1 : PhLe c.refs (getH hs) (getH hs') := fun r hr p hp h hh => heq r hr p hp ▸ hh
  have h2 : PhLe c.refs (getH hs') (getH hs) := fun r hr p hp h hh => heq r hr p hp ▸ hh
  cases ha : hashOne md5 fuzzy bps hs c with
  | some x => exact (hashOne_mono md5 fuzzy bps hs hs' c x h1 ha).symm
  | none =>
    cases hb : hashOne md5 fuzzy bps hs' c with
    | none => rfl
    | some y => rw [hashOne_mono md5 fuzzy bps hs' hs c y h2 hb] at ha; cases ha

/-! ### the shape of `hashes` -/

theorem getH_eq (hs : List (Option S)) (p : Nat) : getH hs p = (hs[p]?).join := by
  unfold getH
  cases h : hs[p]? with
  | none => rfl
  | some v => cases v <;> rfl

theorem getH_append_left (a b : List (Option S)) (p : Nat) (h : p < a.length) : getH (a ++ b) p = getH a p := by
  simp [getH_eq, List.getElem?_append_left h]

theorem getH_take (hs : List (Option S)) (k p : Nat) : getH (hs.take k) p = if p < k then getH hs p else none := by
  simp only [getH_eq, List.getElem?_take]
  split <;> rfl

theorem getH_set (l : List (Option S)) (j k : Nat) (v : Option S) (h : S) (hg : getH (l.set j v) k = some h) :
    (k = j ∧ v = some h) ∨ getH l k = some h := by
  rw [getH_eq, List.getElem?_set] at hg
  split at hg
  · split at hg
    · exact .inl ⟨.symm ‹_›, by simpa using hg⟩
    · simp at hg
  · exact .inr (getH_eq l k ▸ hg)

theorem getH_lt (l : List (Option S)) (k : Nat) (h : S) (hg : getH l k = some h) : k < l.length := by
  rcases Nat.lt_or_ge k l.length with hk | hk
  · exact hk
  · simp [getH_eq, List.getElem?_eq_none hk] at hg

theorem hashesAux_spec (cs : List Comp) (acc : List (Option S)) :
    ∃ tail : List (Option S), hashesAux md5 fuzzy bps cs acc = acc ++ tail ∧ tail.length = cs.length ∧
      ∀ k c, cs[k]? = some c → tail[k]? = some (hashOne md5 fuzzy bps (acc ++ tail.take k) c) := by
  induction cs generalizing acc with
  | nil => exact ⟨[], by simp [hashesAux], rfl, by simp⟩
  | cons c cs ih =>
    obtain ⟨tail, h1, h2, h3⟩ := ih (acc ++ [hashOne md5 fuzzy bps acc c])
    refine ⟨hashOne md5 fuzzy bps acc c :: tail, by simp [hashesAux, h1], by simp [h2], fun k c' hk => ?_⟩
    cases k with
    | zero => simp [Option.some.inj hk]
    | succ k => simpa using h3 k c' hk

theorem hashes_length (cs : List Comp) : (hashes md5 fuzzy bps cs).length = cs.length := by
  obtain ⟨tail, h1, h2, _⟩ := hashesAux_spec md5 fuzzy bps cs []
  simp [hashes, h1, h2]

theorem hashes_at (cs : List Comp) (k : Nat) (c : Comp) (hk : cs[k]? = some c) :
    (hashes md5 fuzzy bps cs)[k]? = some (hashOne md5 fuzzy bps ((hashes md5 fuzzy bps cs).take k) c) := by
  obtain ⟨tail, h1, _, h3⟩ := hashesAux_spec md5 fuzzy bps cs []
  simp only [hashes, h1, List.nil_append] at h3 ⊢
  exact h3 k c hk

theorem hashes_congr_on (cs₁ cs₂ : List Comp) (K : Nat → Prop) (hlen : cs₁.length = cs₂.length)
    (hK : ∀ k, K k → cs₁[k]? = cs₂[k]? ∧
      ∀ c, cs₁[k]? = some c → ∀ r ∈ c.refs, ∀ p, r.target.producer? = some p → K p) :
    ∀ k, K k → (hashes md5 fuzzy bps cs₁)[k]? = (hashes md5 fuzzy bps cs₂)[k]? := by
  intro k
  induction k using Nat.strongRecOn with
  | _ k ih =>
    intro hk
    obtain ⟨heq, hclosed⟩ := hK k hk
    cases hc : cs₁[k]? with
    | none =>
      have h1 : cs₁.length ≤ k := List.getElem?_eq_none_iff.mp hc
      rw [List.getElem?_eq_none (by rw [hashes_length]; exact h1),
        List.getElem?_eq_none (by rw [hashes_length, ← hlen]; exact h1)]
    | some c =>
      rw [hashes_at md5 fuzzy bps cs₁ k c hc, hashes_at md5 fuzzy bps cs₂ k c (heq ▸ hc)]
      congr 1
      refine hashOne_congr md5 fuzzy bps _ _ c fun r hr p hp => ?_
      rw [getH_take, getH_take]
      split
      · rename_i hpk
        simp [getH_eq, ih p hpk (hclosed c hc r hr p hp)]
      · rfl

end St4sd.C16
