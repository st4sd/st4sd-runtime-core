import St4sd.Model.C17Scalar
/-!
# C17 — counterexamples: three ways of building the environment for which a theorem of `Props/C17.lean` fails

The instance document as coded before fixes/C17-instance-environment-layering.diff, one interpolation context shared
by all environments, and a conversion of scalars that empties every falsy value.

`instEnvsOld` is `FlowIRConcrete.instance` before the repair (flowir.py 5268-5270:
`environments = default_environments; environments.update(platform_environments)`): an environment that the
selected platform defines *replaces* the same-named environment of the default platform in the document every
replicated (non-primitive) configuration reads, instead of being layered over it.  The package below —
`environments: {default: {myenv: {A: a, B: b}}, hpc: {myenv: {B: b2}}}`, platform `hpc`, a component with
`command.environment: myenv` — is the input the harness rediscovers on the real code
(oracle `declared-variable-missing`, `primitive: false`).
-/
namespace St4sd.C17.Witness
open St4sd.Assoc St4sd.Env

deriving instance DecidableEq for Except

def pkg : Envs := loadEnvs
  [("default".toList, [("myenv".toList, [("A".toList, "a".toList), ("B".toList, "b".toList)])]),
   ("hpc".toList, [("myenv".toList, [("B".toList, "b2".toList)])])]
def sys : Dict := [("INSTANCE_DIR".toList, "/i".toList)]

/-- the package read directly (primitive configuration): `A` from the default platform, `B` from `hpc` -/
theorem primitive_layers :
    envForNode sys pkg "hpc".toList [] (some "myenv".toList) false =
      .ok [("INSTANCE_DIR".toList, "/i".toList), ("A".toList, "a".toList), ("B".toList, "b2".toList)] := by
  simp -index only [sys, pkg, String.toList_ofList]
  decide +kernel

/-- the old instance document: the variable that only the default platform declares is gone -/
theorem old_instance_loses_default_layer :
    envForNode sys (instEnvsOld pkg "hpc".toList) "hpc".toList [] (some "myenv".toList) false =
      .ok [("INSTANCE_DIR".toList, "/i".toList), ("B".toList, "b2".toList)] := by
  simp -index only [sys, pkg, String.toList_ofList]
  decide +kernel

/-- the repaired instance document gives what the package gives -/
theorem repaired_instance_layers :
    envForNode sys (instEnvs pkg "hpc".toList) "hpc".toList [] (some "myenv".toList) false =
      envForNode sys pkg "hpc".toList [] (some "myenv".toList) false := by
  simp -index only [sys, pkg, String.toList_ofList]
  decide +kernel

/-- stated on the lookup the property speaks about: with the old flattening the named environment visible to
`hpc` does not contain the default platform's `A` (so `Props.C17.instance_platform_over_default` is false for
`instEnvsOld`) -/
theorem old_violates_platform_over_default :
    ∃ r, getEnv (instEnvsOld pkg "hpc".toList) "myenv".toList "hpc".toList = .ok r ∧
      dget r "A".toList = none ∧
      (∃ d, platEnv pkg "myenv".toList sDefault = .ok d ∧ dget d "A".toList = some "a".toList) :=
  ⟨[("B".toList, "b2".toList)], by decide +kernel, by decide +kernel, [("A".toList, "a".toList), ("B".toList, "b".toList)], by decide +kernel, by decide +kernel⟩

/-! ### `%(name)s` references: one interpolation context per environment

`fillEnvsAcc` / `instDocAcc` is `FlowIRConcrete.instance` with `env_variables = global_variables.copy()` hoisted out
of the loop over the environments (one context that accumulates the entries of every environment processed so
far).  Package: environment `a_tools` has a variable of its own called `prefix`, environment `b_tools` references
the *global* variable `prefix`; `a_tools` is processed first. -/

def pkgV : Envs := loadEnvs
  [("default".toList, [("a_tools".toList, [("prefix".toList, "/opt/a".toList), ("BIN_A".toList, "%(prefix)s/bin".toList)]),
                       ("b_tools".toList, [("BIN_B".toList, "%(prefix)s/bin".toList)])]),
   ("cluster".toList, [("b_tools".toList, [("LIB_B".toList, "%(prefix)s/lib".toList)])])]
def varsV : Vars :=
  [("default".toList, [("prefix".toList, "/global".toList)]), ("cluster".toList, [("prefix".toList, "/cluster".toList)])]
/-- the same package without the environment nobody selects -/
def pkgV' : Envs := loadEnvs
  [("default".toList, [("b_tools".toList, [("BIN_B".toList, "%(prefix)s/bin".toList)])]),
   ("cluster".toList, [("b_tools".toList, [("LIB_B".toList, "%(prefix)s/lib".toList)])])]

/-- as coded: `b_tools` gets the global variable of the platform -/
theorem own_context_resolves_from_globals :
    envForNodeV sys (instDoc ⟨pkgV, varsV⟩ "cluster".toList (safeOf false)) "cluster".toList []
      (some "b_tools".toList) false false =
      .ok [("INSTANCE_DIR".toList, "/i".toList), ("BIN_B".toList, "/cluster/bin".toList),
           ("LIB_B".toList, "/cluster/lib".toList)] := by
  simp -index only [sys, pkgV, varsV, String.toList_ofList]
  decide +kernel

/-- with the accumulating context the value of the unselected environment `a_tools` leaks into `b_tools` -/
theorem accumulating_context_leaks :
    envForNodeV sys (instDocAcc ⟨pkgV, varsV⟩ "cluster".toList (safeOf false)) "cluster".toList []
      (some "b_tools".toList) false false =
      .ok [("INSTANCE_DIR".toList, "/i".toList), ("BIN_B".toList, "/opt/a/bin".toList),
           ("LIB_B".toList, "/opt/a/lib".toList)] := by
  simp -index only [sys, pkgV, varsV, String.toList_ofList]
  decide +kernel

/-- … so `Props.C17.task_env_independent_of_other_envs` is false for `instDocAcc`: removing the environment nobody
selects changes the answer -/
theorem accumulating_context_depends_on_other_envs :
    platEnv pkgV "b_tools".toList "cluster".toList = platEnv pkgV' "b_tools".toList "cluster".toList ∧
    platEnv pkgV "b_tools".toList sDefault = platEnv pkgV' "b_tools".toList sDefault ∧
    envForNodeV sys (instDocAcc ⟨pkgV, varsV⟩ "cluster".toList (safeOf false)) "cluster".toList []
      (some "b_tools".toList) false false ≠
    envForNodeV sys (instDocAcc ⟨pkgV', varsV⟩ "cluster".toList (safeOf false)) "cluster".toList []
      (some "b_tools".toList) false false := by
  simp -index only [sys, pkgV, pkgV', varsV, String.toList_ofList]
  decide +kernel

/-! ### typed scalars: the conversion must map only null to the empty text

`Scalar.textFalsy` is `str(value) if value else ""` in place of `env_value_to_string` (flowir.py 5557-5560): every
falsy scalar becomes the empty text.  Package: the default platform declares `OMP: 4, USE_GPU: true, SCALE: 1.5`
and `LAUNCH: run --threads=${OMP} --gpu=$USE_GPU`, platform `single` re-declares them as `0 / false / 0.0`; the
launch environment has an `OMP` of its own.  (The harness finds such inputs on the real code: oracle
`declared-variable-missing`.) -/

def pkgT : TEnvs :=
  [("default".toList, [("gpu".toList, [("OMP".toList, .int 4), ("USE_GPU".toList, .bool true),
      ("SCALE".toList, .float "1.5".toList),
      ("LAUNCH".toList, .str "run --threads=${OMP} --gpu=$USE_GPU".toList)])]),
   ("single".toList, [("gpu".toList, [("OMP".toList, .int 0), ("USE_GPU".toList, .bool false),
      ("SCALE".toList, .float "0.0".toList)])])]
def launchT : Dict := [("OMP".toList, "64".toList)]

/-- as coded: the three variables are there with the texts `0`, `False`, `0.0`, and references see them -/
theorem falsy_scalars_are_values :
    envForNodeT sys pkgT "single".toList launchT (some "gpu".toList) false true false =
      .ok [("INSTANCE_DIR".toList, "/i".toList), ("OMP".toList, "0".toList), ("USE_GPU".toList, "False".toList),
           ("SCALE".toList, "0.0".toList), ("LAUNCH".toList, "run --threads=0 --gpu=False".toList)] := by
  simp -index only [sys, pkgT, launchT, String.toList_ofList]
  decide +kernel

/-- with the falsy conversion the platform's values still override the default platform's and are then dropped:
the task runs without `OMP`, `USE_GPU`, `SCALE`, and the references expand to nothing -/
theorem falsy_conversion_drops_declared_variables :
    envForNode sys (loadEnvs (textEnvsWith Scalar.textFalsy pkgT)) "single".toList launchT (some "gpu".toList) false =
      .ok [("INSTANCE_DIR".toList, "/i".toList), ("LAUNCH".toList, "run --threads= --gpu=".toList)] := by
  simp -index only [sys, pkgT, launchT, String.toList_ofList]
  decide +kernel

/-- … so `Props.C17.text_isEmpty` / `typed_declared_kept` are false for that conversion -/
theorem falsy_conversion_empties_nonempty_scalars :
    (Scalar.int 0).declaredEmpty = false ∧ (Scalar.int 0).textFalsy = [] ∧
    (Scalar.bool false).declaredEmpty = false ∧ (Scalar.bool false).textFalsy = [] ∧
    (Scalar.float "0.0".toList).declaredEmpty = false ∧ (Scalar.float "0.0".toList).textFalsy = [] ∧
    (Scalar.int 1).textFalsy = "1".toList ∧ (Scalar.bool true).textFalsy = "True".toList := by decide +kernel

end St4sd.C17.Witness
