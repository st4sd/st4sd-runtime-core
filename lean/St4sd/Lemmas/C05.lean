import St4sd.Model.Loop
import St4sd.Lemmas.Str
/-!
What C05 needs that does not mention a DoWhile document: parsing of instance names `i#name` (on the laws of
`Lemmas/Str.lean`), `firstMaxBy` / `sortBy` by a numeric key, lookups in binding lists, two list facts.
-/
namespace St4sd.C05L
open St4sd.Str St4sd.Loop

/-- `int(str(n)) == n` -/
theorem digitsToNat_natToDigits (n : Nat) : digitsToNat? (natToDigits n) = some n :=
  St4sd.Str.digitsToNat_natToDigits n

/-! ### instance names -/

theorem split_instName (i : Nat) (n : S) : splitFirst '#' (instName i n) = some (natToDigits i, n) :=
  splitFirst_append '#' _ _ fun h => absurd (natToDigits_all i '#' h) (by decide)

@[simp] theorem iterStr_instName (i : Nat) (n : S) : iterStr (instName i n) = natToDigits i := by
  simp [iterStr, split_instName]

@[simp] theorem baseName_instName (i : Nat) (n : S) : baseName (instName i n) = n := by
  simp [baseName, split_instName]

@[simp] theorem iterNum_instName (i : Nat) (n : S) : iterNum (instName i n) = i := by
  simp [iterNum, St4sd.Str.digitsToNat_natToDigits]

@[simp] theorem isLooped_instName (i : Nat) (n : S) : isLooped (instName i n) = true := by
  simp [isLooped, instName]

theorem instName_inj {i j : Nat} {n m : S} (h : instName i n = instName j m) : i = j ∧ n = m :=
  ⟨by simpa using congrArg iterNum h, by simpa using congrArg baseName h⟩

theorem mem_range_inst {s s' i k : Nat} {n n' : S} :
    ((s', instName i n') : CId) ∈ (List.range (k + 1)).map (fun j => ((s, instName j n) : CId)) ↔
      i ≤ k ∧ s' = s ∧ n' = n := by
  simp only [List.mem_map, List.mem_range, Prod.mk.injEq]
  constructor
  · rintro ⟨j, hj, rfl, e⟩
    obtain ⟨rfl, rfl⟩ := instName_inj e
    exact ⟨by omega, rfl, rfl⟩
  · rintro ⟨hi, rfl, rfl⟩
    exact ⟨i, by omega, rfl, rfl⟩

/-! ### selection and sorting by a numeric key -/

theorem iterLt_true : iterLt true = fun a b => decide (iterNum a.2 < iterNum b.2) := by
  funext a b; simp [iterLt]

theorem firstMaxBy_eq_none {α : Type} {lt : α → α → Bool} {l : List α} : firstMaxBy lt l = none ↔ l = [] := by
  cases l with
  | nil => simp [firstMaxBy]
  | cons a l =>
    rw [firstMaxBy]
    split
    · simp
    · split <;> simp

theorem firstMaxBy_key {α : Type} (key : α → Nat) {l : List α} {z : α}
    (h : firstMaxBy (fun a b => decide (key a < key b)) l = some z) : z ∈ l ∧ ∀ y ∈ l, key y ≤ key z := by
  induction l generalizing z with
  | nil => cases h
  | cons a l ih =>
    rw [firstMaxBy] at h
    split at h
    · next hn =>
      cases h
      rw [firstMaxBy_eq_none.mp hn]
      exact ⟨List.mem_cons_self, fun y hy => (List.mem_singleton.mp hy) ▸ Nat.le_refl _⟩
    · next b hb =>
      obtain ⟨hbl, hmax⟩ := ih hb
      split at h <;> cases h
      · next hlt =>
        exact ⟨List.mem_cons_of_mem _ hbl, List.forall_mem_cons.mpr ⟨Nat.le_of_lt (of_decide_eq_true hlt), hmax⟩⟩
      · next hlt =>
        have hba : key b ≤ key a := Nat.le_of_not_lt fun h => hlt (decide_eq_true h)
        exact ⟨List.mem_cons_self, List.forall_mem_cons.mpr ⟨Nat.le_refl _, fun y hy => Nat.le_trans (hmax y hy) hba⟩⟩

theorem firstMaxBy_unique_max {α : Type} (key : α → Nat) {l : List α} {z : α} (hz : z ∈ l)
    (hmax : ∀ y ∈ l, key y ≤ key z) (huniq : ∀ y ∈ l, key y = key z → y = z) :
    firstMaxBy (fun a b => decide (key a < key b)) l = some z := by
  cases h : firstMaxBy (fun a b => decide (key a < key b)) l with
  | none => rw [firstMaxBy_eq_none.mp h] at hz; cases hz
  | some w =>
    obtain ⟨hw, hge⟩ := firstMaxBy_key key h
    rw [huniq w hw (Nat.le_antisymm (hmax w hw) (hge z hz))]

theorem insertBy_perm {α : Type} (lt : α → α → Bool) (a : α) (l : List α) : (insertBy lt a l).Perm (a :: l) := by
  induction l with
  | nil => exact .refl _
  | cons b l ih =>
    rw [insertBy]
    split
    · exact (ih.cons b).trans (.swap a b l)
    · exact .refl _

theorem sortBy_perm_any {α : Type} (lt : α → α → Bool) (l : List α) : (sortBy lt l).Perm l := by
  induction l with
  | nil => exact .refl _
  | cons a l ih => exact (insertBy_perm lt a _).trans (ih.cons a)

theorem sortBy_key_sorted {α : Type} (key : α → Nat) (l : List α) :
    (sortBy (fun a b => decide (key a < key b)) l).Pairwise (fun a b => key a ≤ key b) := by
  induction l with
  | nil => exact .nil
  | cons a l ih =>
    rw [sortBy]
    generalize sortBy _ l = s at ih
    -- inserting `a` into a sorted list `s`
    induction s with
    | nil => exact List.pairwise_singleton _ _
    | cons b s ihs =>
      rw [insertBy]
      rw [List.pairwise_cons] at ih
      split
      · next hlt =>
        refine List.pairwise_cons.mpr ⟨fun x hx => ?_, ihs ih.2⟩
        rcases List.mem_cons.mp ((insertBy_perm _ a s).mem_iff.mp hx) with rfl | hx
        · exact Nat.le_of_lt (of_decide_eq_true hlt)
        · exact ih.1 x hx
      · next hlt =>
        have hab : key a ≤ key b := Nat.le_of_not_lt fun h => hlt (decide_eq_true h)
        exact List.pairwise_cons.mpr
          ⟨fun x hx => (List.mem_cons.mp hx).elim (· ▸ hab) fun hx => Nat.le_trans hab (ih.1 x hx),
           List.pairwise_cons.mpr ih⟩

theorem sortBy_sorted {α : Type} (lt : α → α → Bool) (l : List α) (h : l.Pairwise (fun a b => lt b a = false)) :
    sortBy lt l = l := by
  induction l with
  | nil => rfl
  | cons a l ih =>
    rw [List.pairwise_cons] at h
    rw [sortBy, ih h.2]
    cases l with
    | nil => rfl
    | cons b l' => rw [insertBy, if_neg (by rw [h.1 b List.mem_cons_self]; exact Bool.false_ne_true)]

theorem sortBy_range_inst (s : Nat) (n : S) (k : Nat) :
    sortBy (iterLt true) ((List.range (k + 1)).map fun j => ((s, instName j n) : CId)) =
      (List.range (k + 1)).map fun j => ((s, instName j n) : CId) := by
  apply sortBy_sorted
  rw [List.pairwise_map]
  refine List.Pairwise.imp ?_ (List.pairwise_lt_range (n := k + 1))
  intro a b hab
  simp [iterLt]
  omega

/-! ### lookups -/

theorem lookup_eq_find? (k : S) (l : List (S × Ref)) : lookup k l = (l.find? fun kv => kv.1 == k).map (·.2) := by
  induction l with
  | nil => rfl
  | cons x l ih => rw [lookup, List.find?_cons, ih]; cases x.1 == k <;> rfl

theorem lookup_map (k : S) (f : Ref → Ref) (l : List (S × Ref)) :
    lookup k (l.map fun kv => (kv.1, f kv.2)) = (lookup k l).map f := by
  rw [lookup_eq_find?, lookup_eq_find?, List.find?_map, Option.map_map, Option.map_map]; rfl

theorem lookup_append (k : S) (l1 l2 : List (S × Ref)) : lookup k (l1 ++ l2) = (lookup k l1).or (lookup k l2) := by
  simp only [lookup_eq_find?, List.find?_append, Option.map_or]

theorem lookup_filter_key (k : S) (p : S → Bool) (hp : p k = true) (l : List (S × Ref)) :
    lookup k (l.filter fun kv => p kv.1) = lookup k l := by
  rw [lookup_eq_find?, lookup_eq_find?, List.find?_filter]
  congr 2
  funext kv
  by_cases h : kv.1 = k <;> simp [h, hp]

theorem lookup_none_any (k : S) (l : List (S × Ref)) (h : lookup k l = none) : (l.any fun lb => lb.1 == k) = false := by
  rw [lookup_eq_find?, Option.map_eq_none_iff, List.find?_eq_none] at h
  exact List.any_eq_false.mpr h

theorem lookup_eff_binding (d : Doc) (i : Nat) (key : S)
    (h : i = 0 ∨ lookup key d.loopBindings = none) :
    lookup key (effBindings d i) = (lookup key d.bindings).map (expandRef d.importStage) := by
  have he : lookup key (expandBindings d) = (lookup key d.bindings).map (expandRef d.importStage) := lookup_map key _ _
  unfold effBindings
  split
  · exact he
  · next h0 =>
    have hl : lookup key d.loopBindings = none := h.resolve_left fun e => h0 (by simp [e])
    -- `key` is no loopBinding: it is not found among the projected loopBindings and not filtered from the bindings
    rw [lookup_append, projectedLoopBindings, lookup_map, hl, Option.map_none, Option.none_or,
      lookup_filter_key key (fun k' => !(d.loopBindings.any fun lb => lb.1 == k')) (by rw [lookup_none_any key _ hl]; rfl), he]

theorem lookup_eff_loopBinding (d : Doc) (j : Nat) (key : S) {lb : Ref} (hlb : lookup key d.loopBindings = some lb) :
    lookup key (effBindings d (j + 1)) = some (projectRef d.importStage (j + 1) lb) := by
  have hne : d.loopBindings.isEmpty = false := by
    cases h : d.loopBindings with
    | nil => rw [h] at hlb; cases hlb
    | cons a l => rfl
  rw [effBindings, hne, if_neg (by simp), lookup_append, projectedLoopBindings, lookup_map, hlb]
  rfl

/-! ### lists -/

theorem find?_beq {α : Type} [BEq α] [LawfulBEq α] (p : α) (l : List α) :
    l.find? (fun q => q == p) = if p ∈ l then some p else none := by
  induction l with
  | nil => rfl
  | cons a l ih =>
    by_cases ha : a = p
    · simp [ha]
    · simp [ha, ih, Ne.symm ha]

theorem flatMap_eq_single {α β : Type} {l : List α} {f : α → List β} {i : Nat} {a : α} (hi : l[i]? = some a)
    (h : ∀ j b, l[j]? = some b → j ≠ i → f b = []) : l.flatMap f = f a := by
  induction l generalizing i with
  | nil => cases hi
  | cons x l ih =>
    rw [List.flatMap_cons]
    cases i with
    | zero =>
      cases hi
      rw [List.flatMap_eq_nil_iff.mpr, List.append_nil]
      intro b hb
      obtain ⟨j, hj⟩ := List.getElem?_of_mem hb
      exact h (j + 1) b hj (Nat.succ_ne_zero j)
    | succ i => rw [h 0 x rfl (Nat.succ_ne_zero i).symm, ih hi fun j b hj hne => h (j + 1) b hj (by omega)]; rfl

end St4sd.C05L
