import St4sd.Model.IniNames
import St4sd.Lemmas.Str
/-!
# C19 — lemmas about names packed into the DOSINI syntax (`Model/IniNames.lean`)

Letter case (`upper` is idempotent and disappears under `lower`), `split` of a `join` at a character the parts do not
contain, digits against the delimiters.
-/
namespace St4sd.IniNames
open St4sd.Str

/-! ## letter case -/

def lowerChar (c : Char) : Char := if 'A' ≤ c && c ≤ 'Z' then Char.ofNat (c.toNat + 32) else c

theorem lower_eq_map (s : S) : lower s = s.map lowerChar := rfl

private theorem le_iff (a b : Char) : a ≤ b ↔ a.toNat ≤ b.toNat := Char.le_def.trans UInt32.le_iff_toNat_le

/-- upper-casing a lower-case letter twice, or before lower-casing it, changes nothing: the 26 letters, evaluated -/
private theorem letter_case : ∀ d : Nat, d < 26 →
    lowerChar (upperChar (Char.ofNat (97 + d))) = lowerChar (Char.ofNat (97 + d)) ∧
    upperChar (upperChar (Char.ofNat (97 + d))) = upperChar (Char.ofNat (97 + d)) := by decide +kernel

private theorem upperChar_cases (c : Char) : upperChar c = c ∨ ∃ d, d < 26 ∧ c = Char.ofNat (97 + d) := by
  by_cases h : ('a' ≤ c && c ≤ 'z') = true
  · simp only [Bool.and_eq_true, decide_eq_true_eq, le_iff] at h
    have h1 : 'a'.toNat = 97 := rfl
    have h2 : 'z'.toNat = 122 := rfl
    refine Or.inr ⟨c.toNat - 97, by omega, ?_⟩
    have : 97 + (c.toNat - 97) = c.toNat := by omega
    rw [this, Char.ofNat_toNat]
  · exact Or.inl (if_neg h)

theorem lowerChar_upperChar (c : Char) : lowerChar (upperChar c) = lowerChar c := by
  rcases upperChar_cases c with e | ⟨d, hd, rfl⟩
  · rw [e]
  · exact (letter_case d hd).1

theorem upperChar_idem (c : Char) : upperChar (upperChar c) = upperChar c := by
  rcases upperChar_cases c with e | ⟨d, hd, rfl⟩
  · rw [e, e]
  · exact (letter_case d hd).2

theorem lower_upper (s : S) : lower (upper s) = lower s := by
  rw [lower_eq_map, lower_eq_map, upper, List.map_map]
  apply List.map_congr_left
  intro c _
  exact lowerChar_upperChar c

theorem upper_idem (s : S) : upper (upper s) = upper s := by
  rw [upper, upper, List.map_map]
  apply List.map_congr_left
  intro c _
  exact upperChar_idem c

theorem upper_append (a b : S) : upper (a ++ b) = upper a ++ upper b := by simp [upper]

/-! ## `split` at a character that the first field does not contain -/

theorem splitChar_ne_nil (c : Char) (s : S) : splitChar c s ≠ [] := by
  induction s with
  | nil => simp [splitChar]
  | cons d s ih =>
    unfold splitChar
    split
    · simp
    · split <;> simp

theorem splitChar_cons_ne (c d : Char) (s f : S) (fs : List S) (h : d ≠ c)
    (e : splitChar c s = f :: fs) : splitChar c (d :: s) = (d :: f) :: fs := by
  rw [splitChar]; simp [h, e]

theorem splitChar_none (c : Char) (p : S) (hp : c ∉ p) : splitChar c p = [p] := by
  induction p with
  | nil => rfl
  | cons d p ih =>
    exact splitChar_cons_ne c d p p [] (List.ne_of_not_mem_cons hp).symm (ih (List.not_mem_of_not_mem_cons hp))

theorem splitChar_append (c : Char) (p rest : S) (hp : c ∉ p) :
    splitChar c (p ++ c :: rest) = p :: splitChar c rest := by
  induction p with
  | nil => simp [splitChar]
  | cons d p ih =>
    exact splitChar_cons_ne c d _ p _ (List.ne_of_not_mem_cons hp).symm (ih (List.not_mem_of_not_mem_cons hp))

theorem splitChar_join (c : Char) (ps : List S) (hne : ps ≠ []) (hp : ∀ p ∈ ps, c ∉ p) :
    splitChar c (join [c] ps) = ps := by
  induction ps with
  | nil => exact absurd rfl hne
  | cons p r ih =>
    cases r with
    | nil => simpa [join] using splitChar_none c p (hp p List.mem_cons_self)
    | cons q r =>
      have h1 := hp p List.mem_cons_self
      have h2 := ih (by simp) (fun x hx => hp x (List.mem_cons_of_mem _ hx))
      simp only [join, List.append_assoc, List.singleton_append]
      rw [splitChar_append c p _ h1, h2]

theorem digits_no_char (n : Nat) (d : Char) (hd : isDigit d = false) : d ∉ natToDigits n :=
  fun hm => Bool.false_ne_true (hd.symm.trans (natToDigits_all n d hm))

end St4sd.IniNames
