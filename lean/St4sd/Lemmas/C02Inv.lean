import St4sd.Lemmas.CtrlOps
/-!
# C02 — the state invariant of the stage-controller model

`CI` is the per-component invariant (parametrised by the notification `exc` that is being delivered right
now, so that the intermediate states of `deliverFin` / `deliverPM` satisfy it), `Inv` says that it holds of
every component.  A primitive operation rewrites one component and queues at most one notification about it:
`Inv.upd` / `Inv.upd_push` reduce its preservation to `CI` of that component, which is re-established field by
field (`{ h with … }` lists the fields whose reason changes).  What does not go back (`Mono`) is read off
`C01L.Quiet` (`Lemmas/CtrlOps.lean`).
-/
namespace St4sd.C02L
open St4sd.Ctrl
open St4sd.C01L (launch launch_comp launch_ctrl launch_rest)

@[simp] theorem upd_comp (s : St) (c : Nat) (f : CompS → CompS) (j : Nat) :
    (s.upd c f).comp j = if j = c then f (s.comp j) else s.comp j := rfl
@[simp] theorem upd_done (s : St) (c : Nat) (f : CompS → CompS) : (s.upd c f).done = s.done := rfl
@[simp] theorem upd_pending (s : St) (c : Nat) (f : CompS → CompS) : (s.upd c f).pending = s.pending := rfl
@[simp] theorem upd_stop (s : St) (c : Nat) (f : CompS → CompS) : (s.upd c f).stop = s.stop := rfl
@[simp] theorem upd_cur (s : St) (c : Nat) (f : CompS → CompS) : (s.upd c f).cur = s.cur := rfl
@[simp] theorem push_comp (s : St) (n : Notif) : (s.push n).comp = s.comp := rfl
@[simp] theorem push_done (s : St) (n : Notif) : (s.push n).done = s.done := rfl
@[simp] theorem push_pending (s : St) (n : Notif) : (s.push n).pending = s.pending ++ [n] := rfl
@[simp] theorem push_stop (s : St) (n : Notif) : (s.push n).stop = s.stop := rfl
@[simp] theorem push_cur (s : St) (n : Notif) : (s.push n).cur = s.cur := rfl

/-- the restart decision only reads the two counters -/
theorem restartable_congr (wf : Wf) (d : CompDef) (a b : CompS) (r : Reason)
    (h1 : a.restarts = b.restarts) (h2 : a.resub = b.resub) :
    restartable wf d a r = restartable wf d b r := by
  simp [restartable, h1, h2]

/-- value of the rest of the script after the pending post-mortem of exit reason `r` -/
def afterPM (wf : Wf) (c : Nat) (cs : CompS) (r : Reason) : Fin3 :=
  if restartable wf (wf.cdef c) cs r then
    ownFrom wf (wf.cdef c) ((wf.cdef c).script.drop cs.execs)
      (if r = .submissionFailed then cs.restarts else cs.restarts + 1)
      (if r = .submissionFailed then cs.resub + 1 else cs.resub)
  else finalOf (wf.cdef c) r

structure CI (wf : Wf) (exc : Option Notif) (c : Nat) (cs : CompS) (dn : Bool) (pend : List Notif) : Prop where
  k0 : cs.ctrl.isSome = true → cs.finishCalled = true
  k1 : cs.finishCalled = true → cs.staged = true
  k2 : cs.ran = true → cs.staged = true
  k3 : cs.pendingFinal.isSome = true →
        cs.finishCalled = true ∧ cs.ran = true ∧ cs.exit = none ∧ cs.ctrl = none
  k3' : cs.finishCalled = true → cs.ran = true → cs.exit = none → cs.ctrl = none →
        cs.pendingFinal.isSome = true
  k4 : cs.staged = true → cs.ran = false → cs.ctrl.isSome = true
  k5 : cs.ran = true → cs.exit.isSome = true → cs.ctrl = none →
        (Notif.pm c ∈ pend ∨ exc = some (.pm c)) ∧ cs.finishCalled = false
  k6 : cs.ctrl.isSome = true → dn = true ∨ Notif.fin c ∈ pend ∨ exc = some (.fin c)
  k8 : dn = true → cs.ctrl.isSome = true
  k8' : Notif.fin c ∈ pend → cs.ctrl.isSome = true
  k9 : cs.exit.isSome = true → cs.staged = true
  k9' : cs.exit.isSome = true → cs.ctrl = none → cs.ran = true
  k10 : cs.ctrl.isSome = true → cs.exit.isSome = true
  u : cs.staged = true → c ∈ wf.order
  b1 : ∀ f, cs.ctrl = some f → f = .shutdown ∨ f = own wf c
  b2 : ∀ f, cs.pendingFinal = some f → f = .shutdown ∨ f = own wf c
  s1 : cs.exit = none →
        ownFrom wf (wf.cdef c) ((wf.cdef c).script.drop cs.execs) cs.restarts cs.resub = own wf c
  s2 : ∀ r, cs.exit = some r → cs.ctrl = none → afterPM wf c cs r = own wf c

structure Inv (wf : Wf) (exc : Option Notif) (s : St) : Prop where
  ci : ∀ j, CI wf exc j (s.comp j) (s.done j) s.pending
  /-- the stage loop never runs past the last stage -/
  curLe : s.cur ≤ wf.lastStage

/-- two-state facts: `staged` and a final `ctrl` never go back, `cur` is untouched -/
structure Mono (s s' : St) : Prop where
  staged : ∀ j, (s.comp j).staged = true → (s'.comp j).staged = true
  ctrl : ∀ j f, (s.comp j).ctrl = some f → (s'.comp j).ctrl = some f
  cur : s'.cur = s.cur

/-- the part of `Mono` that also holds across a stage transition -/
structure MonoC (s s' : St) : Prop where
  staged : ∀ j, (s.comp j).staged = true → (s'.comp j).staged = true
  ctrl : ∀ j f, (s.comp j).ctrl = some f → (s'.comp j).ctrl = some f

theorem Mono.toC {s s' : St} (h : Mono s s') : MonoC s s' := ⟨h.staged, h.ctrl⟩

theorem MonoC.refl (s : St) : MonoC s s := ⟨fun _ h => h, fun _ _ h => h⟩

theorem Mono.trans {a b c : St} (h1 : Mono a b) (h2 : Mono b c) : Mono a c :=
  ⟨fun j h => h2.staged j (h1.staged j h), fun j f h => h2.ctrl j f (h1.ctrl j f h), by rw [h2.cur, h1.cur]⟩

theorem _root_.St4sd.C01L.Quiet.mono {s s' : St} (h : C01L.Quiet s s') : Mono s s' :=
  ⟨fun j => (h.comp j).staged, fun j => (h.comp j).ctrl, h.cur⟩

theorem Inv.core {wf exc s} (hI : Inv wf exc s) : C01L.Core s :=
  ⟨fun c => ⟨(hI.ci c).k0, (hI.ci c).k10, fun h => ((hI.ci c).k3 h).1⟩, fun c => (hI.ci c).k8, fun c => (hI.ci c).k8'⟩

theorem inv_init (wf : Wf) : Inv wf none init := by
  refine ⟨fun j => ?_, Nat.zero_le _⟩
  constructor <;> simp [init, own]

/-! ## one component at a time -/

theorem CI.push {wf exc j cs dn pend} (h : CI wf exc j cs dn pend) (n : Notif) (hn : n ≠ .fin j) :
    CI wf exc j cs dn (pend ++ [n]) :=
  { h with
    k5 := fun a b c => ⟨(h.k5 a b c).1.imp_left (List.mem_append_left _), (h.k5 a b c).2⟩
    k6 := fun a => (h.k6 a).imp_right (Or.imp_left (List.mem_append_left _))
    k8' := fun a => by
      rcases List.mem_append.1 a with a | a
      · exact h.k8' a
      · exact absurd (List.mem_singleton.1 a).symm hn }

theorem Inv.upd {wf exc s c} (hI : Inv wf exc s) (f : CompS → CompS)
    (hc : CI wf exc c (f (s.comp c)) (s.done c) s.pending) : Inv wf exc (s.upd c f) := by
  refine ⟨fun j => ?_, hI.curLe⟩
  show CI wf exc j (if j = c then f (s.comp j) else s.comp j) (s.done j) s.pending
  split
  · next e => subst e; exact hc
  · exact hI.ci j

theorem Inv.upd_push {wf exc s c} (hI : Inv wf exc s) (f : CompS → CompS) {n : Notif}
    (hn : n = .fin c ∨ n = .pm c)
    (hc : CI wf exc c (f (s.comp c)) (s.done c) (s.pending ++ [n])) :
    Inv wf exc ((s.upd c f).push n) := by
  refine ⟨fun j => ?_, hI.curLe⟩
  show CI wf exc j (if j = c then f (s.comp j) else s.comp j) (s.done j) (s.pending ++ [n])
  split
  · next e => subst e; exact hc
  · next e => exact (hI.ci j).push n (by rcases hn with rfl | rfl <;> simp [Ne.symm e])

theorem CI.final {wf exc c cs dn pend st} (hct : cs.ctrl = some st) (hfc : cs.finishCalled = true)
    (hst : cs.staged = true) (hex : cs.exit.isSome = true) (hpf : cs.pendingFinal = none)
    (ho : c ∈ wf.order) (hf : st = .shutdown ∨ st = own wf c)
    (hq : dn = true ∨ Notif.fin c ∈ pend ∨ exc = some (.fin c)) : CI wf exc c cs dn pend where
  k0 _ := hfc
  k1 _ := hst
  k2 _ := hst
  k3 hp := by simp [hpf] at hp
  k3' _ _ _ hc := by simp [hct] at hc
  k4 _ _ := by simp [hct]
  k5 _ _ hc := by simp [hct] at hc
  k6 _ := hq
  k8 _ := by simp [hct]
  k8' _ := by simp [hct]
  k9 _ := hst
  k9' _ hc := by simp [hct] at hc
  k10 _ := hex
  u _ := ho
  b1 f e := by rw [hct] at e; cases e; exact hf
  b2 f e := by simp [hpf] at e
  s1 he := by simp [he] at hex
  s2 _ _ hc := by simp [hct] at hc

theorem CI.ran_of_staged {wf exc c cs dn pend} (h : CI wf exc c cs dn pend) (hst : cs.staged = true)
    (hc : cs.ctrl = none) : cs.ran = true := by
  cases hr : cs.ran with
  | true => rfl
  | false => have := h.k4 hst hr; simp [hc] at this

theorem unstaged_facts {wf exc c cs dn pend} (h : CI wf exc c cs dn pend) (hst : cs.staged = false) :
    cs.finishCalled = false ∧ cs.ctrl = none ∧ cs.ran = false ∧ cs.exit = none ∧ cs.pendingFinal = none := by
  have no : ∀ {b : Bool}, (b = true → cs.staged = true) → b = false :=
    fun hb => Bool.eq_false_iff.2 fun hx => by simp [hb hx] at hst
  exact ⟨no h.k1, by simpa using no fun hs => h.k1 (h.k0 hs), no h.k2, by simpa using no h.k9,
    by simpa using no fun hp => h.k1 (h.k3 hp).1⟩

/-! ## `finish`, `fakeFinish` -/

theorem finish_inv {wf exc s c st} (hI : Inv wf exc s) (hst : (s.comp c).staged = true)
    (hc : (s.comp c).ctrl = none) (hf : st = .shutdown ∨ st = own wf c) :
    Inv wf exc (finish s c st) := by
  have h := hI.ci c
  have hran := h.ran_of_staged hst hc
  unfold finish
  simp only [hc, hst, hran, Option.isSome_none, Bool.false_eq_true, if_false, if_true]
  split
  · next hex =>
    have hpf : (s.comp c).pendingFinal = none := by
      cases hp : (s.comp c).pendingFinal with
      | none => rfl
      | some v => have := (h.k3 (by simp [hp])).2.2.1; simp [this] at hex
    exact hI.upd_push _ (.inl rfl) (.final rfl rfl hst hex hpf (h.u hst) hf (.inr (.inl (by simp))))
  · next hex =>
    have hex : (s.comp c).exit = none := by simpa using hex
    exact hI.upd _ { h with
      k0 := fun _ => rfl
      k1 := fun _ => hst
      k3 := fun _ => ⟨rfl, hran, hex, hc⟩
      k3' := fun _ _ _ _ => rfl
      k5 := fun _ he => by simp [hex] at he
      b2 := fun f e => by cases e; exact hf
      s2 := fun r he => by simp [hex] at he }

theorem fakeFinish_inv {wf exc s c st} (hI : Inv wf exc s) (hst : (s.comp c).staged = false)
    (ho : c ∈ wf.order) (hf : st = .shutdown ∨ st = own wf c) :
    Inv wf exc (fakeFinish s c st) := by
  obtain ⟨hfc, hct, hr, he, hp⟩ := unstaged_facts (hI.ci c) hst
  rw [C01L.fakeFinish_eq hct he hr]
  exact hI.upd_push _ (.inl rfl) (.final rfl rfl rfl rfl hp ho hf (.inr (.inl (by simp))))

theorem fakeFinish_staged (s : St) (c : Nat) (st : Fin3) : ((fakeFinish s c st).comp c).staged = true := by
  unfold fakeFinish
  rw [C01L.finish_staged]
  simp

/-! ## launching: `stageIn` fold followed by `runComp` fold (`C01L.launch_comp`) -/

theorem stageIn_comp_other (wf : Wf) (s : St) (a j : Nat) (h : j ≠ a) :
    (stageIn wf s a).comp j = s.comp j := by
  simp [stageIn, h]

theorem CI.launch {wf exc c cs dn pend} (h : CI wf exc c cs dn pend) (ho : c ∈ wf.order) (k : Nat)
    (w : Option (List Nat)) :
    CI wf exc c { cs with staged := true, ran := true, launches := k, watch := w } dn pend :=
  { h with
    k1 := fun _ => rfl
    k2 := fun _ => rfl
    k3 := fun hp => ⟨(h.k3 hp).1, rfl, (h.k3 hp).2.2⟩
    k3' := fun hf _ he hc => h.k3' hf (h.ran_of_staged (h.k1 hf) hc) he hc
    k4 := fun _ hr => nomatch hr
    k5 := fun _ he hc => h.k5 (h.k9' he hc) he hc
    k9 := fun _ => rfl
    k9' := fun _ _ => rfl
    u := fun _ => ho }

theorem launch_inv {wf exc s} (l : List Nat) (hI : Inv wf exc s) (hl : ∀ c ∈ l, c ∈ wf.order) :
    Inv wf exc (launch wf l s) := by
  obtain ⟨hd, hp, hc, _⟩ := launch_rest wf l s
  refine ⟨fun j => ?_, by rw [hc]; exact hI.curLe⟩
  obtain ⟨k, hk⟩ := launch_comp wf l s j
  rw [hk, hd, hp]
  split
  · exact (hI.ci j).launch (hl j ‹_›) k _
  · exact hI.ci j

theorem launch_mono (wf : Wf) (l : List Nat) (s : St) :
    Mono s (launch wf l s) := by
  refine ⟨fun j h => ?_, fun j f h => (launch_ctrl wf l s j).trans h, (launch_rest wf l s).2.2.1⟩
  obtain ⟨k, hk⟩ := launch_comp wf l s j
  rw [hk]; split <;> simp [h]

/-! ## `taskExit` -/

/-- one step of `ownFrom` along the script, told from the state a task exit leaves behind: `cs'` is `cs`
after execution number `cs.execs` ended with reason `r` -/
theorem ownFrom_drop (wf : Wf) (c : Nat) {cs cs' : CompS} {r : Reason}
    (hr : r = (wf.cdef c).script.getD cs.execs .success) (he : cs'.execs = cs.execs + 1)
    (hrs : cs'.restarts = cs.restarts) (hrb : cs'.resub = if r = .success then 0 else cs.resub) :
    ownFrom wf (wf.cdef c) ((wf.cdef c).script.drop cs.execs) cs.restarts cs.resub = afterPM wf c cs' r := by
  rw [afterPM, he, hrs, hrb,
    restartable_congr wf _ cs' { restarts := cs.restarts, resub := if r = .success then 0 else cs.resub } r hrs hrb]
  by_cases h : cs.execs < (wf.cdef c).script.length
  · have : r = (wf.cdef c).script[cs.execs] := by simp [hr, List.getD_eq_getElem?_getD, h]
    rw [List.drop_eq_getElem_cons h, ← this]
    rfl
  · have h' : (wf.cdef c).script.length ≤ cs.execs := Nat.le_of_not_lt h
    have : r = .success := by simp [hr, List.getD_eq_getElem?_getD, h']
    subst this
    rw [List.drop_of_length_le h', List.drop_of_length_le (Nat.le_succ_of_le h')]
    simp [ownFrom, finalOf]

theorem taskExit_inv {wf exc s} (c : Nat) (hI : Inv wf exc s) : Inv wf exc (taskExit wf s c) := by
  have h := hI.ci c
  refine C01L.taskExit_cases (P := Inv wf exc) wf s c hI (fun hran hex st hpf => ?_) (fun hran hex hpf => ?_)
  · have hst := h.k2 hran
    rw [if_pos hst]
    exact hI.upd_push _ (.inl rfl)
      (.final rfl (h.k3 (by simp [hpf])).1 hst rfl rfl (h.u hst) (h.b2 _ hpf) (.inr (.inl (by simp))))
  · have hct := hI.core.ctrl_none_of_exit_none c hex
    have hfc : (s.comp c).finishCalled = false := by
      cases hx : (s.comp c).finishCalled with
      | false => rfl
      | true => have := h.k3' hx hran hex hct; simp [hpf] at this
    rw [if_neg (by simp [hfc])]
    exact hI.upd_push _ (.inr rfl) { h with
      k3 := fun hp => by simp [C01L.exited, hpf] at hp
      k3' := fun _ _ he => nomatch he
      k5 := fun _ _ _ => ⟨.inl (by simp), hfc⟩
      k6 := fun hs => by simp [C01L.exited, hct] at hs
      k8' := fun hm => h.k8' (by simpa using hm)
      k9 := fun _ => h.k2 hran
      k9' := fun _ _ => hran
      k10 := fun _ => rfl
      s1 := fun he => nomatch he
      s2 := fun r he _ => by
        cases he
        refine Eq.trans (ownFrom_drop wf c (cs := s.comp c) ?_ ?_ ?_ ?_).symm (h.s1 hex) <;> rfl }

/-! ## delivering a notification: the in-flight notification is the exception `exc` -/

theorem erase_inv {wf s} (hI : Inv wf none s) (n : Notif) :
    Inv wf (some n) { s with pending := s.pending.erase n } := by
  refine ⟨fun j => ?_, hI.curLe⟩
  have h := hI.ci j
  show CI wf (some n) j (s.comp j) (s.done j) (s.pending.erase n)
  refine { h with k5 := ?_, k6 := ?_, k8' := ?_ }
  · intro a b c
    obtain ⟨h1, h2⟩ := h.k5 a b c
    refine ⟨?_, h2⟩
    rcases h1 with h1 | h1
    · by_cases e : n = .pm j
      · right; rw [e]
      · left; exact (List.mem_erase_of_ne (Ne.symm e)).2 h1
    · simp at h1
  · intro a
    rcases h.k6 a with h1 | h1 | h1
    · left; exact h1
    · by_cases e : n = .fin j
      · right; right; rw [e]
      · right; left; exact (List.mem_erase_of_ne (Ne.symm e)).2 h1
    · simp at h1
  · intro a; exact h.k8' (List.mem_of_mem_erase a)

theorem Inv.drop_pm {wf s c} (hI : Inv wf (some (.pm c)) s)
    (hc : (s.comp c).ran = true → (s.comp c).exit.isSome = true → (s.comp c).ctrl = none → False) :
    Inv wf none s := by
  refine ⟨fun j => ?_, hI.curLe⟩
  have h := hI.ci j
  refine { h with k5 := ?_, k6 := ?_ }
  · intro a b d
    obtain ⟨h1, h2⟩ := h.k5 a b d
    refine ⟨?_, h2⟩
    rcases h1 with h1 | h1
    · left; exact h1
    · simp only [Option.some.injEq, Notif.pm.injEq] at h1
      subst h1; exact (hc a b d).elim
  · intro a
    rcases h.k6 a with h1 | h1 | h1
    · left; exact h1
    · right; left; exact h1
    · simp at h1

theorem restart_inv {wf exc s c r} (hI : Inv wf exc s) (hex : (s.comp c).exit = some r)
    (hfc : (s.comp c).finishCalled = false) (hr : restartable wf (wf.cdef c) (s.comp c) r = true) :
    Inv wf exc (s.upd c fun x => { x with exit := none, launches := x.launches + 1, restarts := (if r = .submissionFailed then x.restarts else x.restarts + 1), resub := (if r = .submissionFailed then x.resub + 1 else x.resub) }) := by
  have h := hI.ci c
  have hct := hI.core.ctrl_none_of_not_fc c hfc
  exact hI.upd _ { h with
    k3 := fun hp => by have := (h.k3 hp).1; simp [hfc] at this
    k3' := fun hf => by simp [hfc] at hf
    k5 := fun _ he => nomatch he
    k9 := fun he => nomatch he
    k9' := fun he => nomatch he
    k10 := fun hs => by simp [hct] at hs
    s1 := fun _ => by have := h.s2 r hex hct; rwa [afterPM, if_pos hr] at this
    s2 := fun _ he => nomatch he }

theorem deliverPM_inv {wf s} (c : Nat) (hI : Inv wf none s) : Inv wf none (deliverPM wf s c) := by
  have I0 := erase_inv hI (.pm c)
  have h : CI wf (some (.pm c)) c (s.comp c) (s.done c) (s.pending.erase (.pm c)) := I0.ci c
  refine C01L.deliverPM_cases (P := Inv wf none) wf s c hI (fun hd => ?_) (fun r hfc hex hr => ?_)
    (fun r hfc hex hr => ?_)
  · refine I0.drop_pm fun a b d => ?_
    rcases hd with hfc | hex
    · have := (h.k5 a b d).2; simp [hfc] at this
    · simp [hex] at b
  · exact (restart_inv I0 hex hfc hr).drop_pm (fun a b d => by simp at b)
  · have hct := hI.core.ctrl_none_of_not_fc c hfc
    have hexs : (s.comp c).exit.isSome = true := by simp [hex]
    have hs2 := h.s2 r hex hct
    rw [afterPM, hr] at hs2
    refine (finish_inv (st := finalOf (wf.cdef c) r) I0 (h.k9 hexs) hct (Or.inr hs2)).drop_pm
      (fun a b d => ?_)
    rw [C01L.finish_comp, if_pos rfl, C01L.finishC_pm _ hexs] at d
    simp at d

/-! ## the compound operations -/

theorem foldl_inv_all {α σ : Type} (P : σ → Prop) (Q : α → σ → Prop) (f : σ → α → σ) (l : List α)
    (hP : ∀ s a, a ∈ l → P s → P (f s a)) (hself : ∀ s a, P s → Q a (f s a))
    (hst : ∀ s a b, P s → Q b s → Q b (f s a)) :
    ∀ s, P s → P (l.foldl f s) ∧ ∀ a ∈ l, Q a (l.foldl f s) := by
  induction l with
  | nil => intro s h; exact ⟨h, by simp⟩
  | cons a l ih =>
    intro s h
    have hP' : ∀ s b, b ∈ l → P s → P (f s b) := fun s b hb => hP s b (List.mem_cons_of_mem _ hb)
    have h1 := hP s a (List.mem_cons_self ..) h
    obtain ⟨h2, h3⟩ := ih hP' _ h1
    refine ⟨h2, fun b hb => ?_⟩
    rcases List.mem_cons.1 hb with e | hb
    · subst e
      exact (List.foldlRecOn (motive := fun t => P t ∧ Q b t) l f ⟨h1, hself s b h⟩
        fun t ht x hx => ⟨hP' t x hx ht.1, hst t x b ht.1 ht.2⟩).2
    · exact h3 b hb

/-- the first fold of `stopStage` stages every component of the stage in (it was staged in, or was asked to
finish and hence staged in, or is fake-finished now), so that `finish` in the second fold notifies the controller -/
theorem stopStage_inv {wf exc s} (k : Nat) (hI : Inv wf exc s) : Inv wf exc (stopStage wf s k) := by
  unfold stopStage
  dsimp only
  have h1 := foldl_inv_all (Inv wf exc) (fun c t => (t.comp c).staged = true)
    (fun s c => if !(s.comp c).staged && !(s.comp c).finishCalled then fakeFinish s c .shutdown else s)
    (inStage wf k) ?_ ?_ ?_ s hI
  · refine (List.foldlRecOn (motive := fun t => Inv wf exc t ∧ ∀ c ∈ inStage wf k, (t.comp c).staged = true)
      (inStage wf k) _ h1 ?_).1
    intro t ⟨hIt, hall⟩ c hc
    split
    · next hcond =>
      simp only [Bool.and_eq_true, Bool.not_eq_true', Option.isNone_iff_eq_none] at hcond
      have hct := hcond.1
      exact ⟨finish_inv hIt (hall c hc) hct (.inl rfl),
        fun d hd => ((C01L.finish_spec hIt.core c .shutdown hct).2.comp d).staged (hall d hd)⟩
    · exact ⟨hIt, hall⟩
  · intro t c hc hIt
    split
    · next hcond =>
      simp only [Bool.and_eq_true, Bool.not_eq_true'] at hcond
      exact fakeFinish_inv hIt hcond.1 (List.mem_filter.1 hc).1 (.inl rfl)
    · exact hIt
  · intro t c hIt
    split
    · exact fakeFinish_staged ..
    · next hcond =>
      simp only [Bool.and_eq_true, Bool.not_eq_true', not_and, Bool.not_eq_false] at hcond
      cases hs : (t.comp c).staged with
      | true => rfl
      | false => rw [← hs]; exact (hIt.ci c).k1 (hcond hs)
  · intro t c b hIt hb
    split
    · next hcond =>
      simp only [Bool.and_eq_true, Bool.not_eq_true'] at hcond
      exact ((C01L.fakeFinish_spec hIt.core c .shutdown (hIt.core.ctrl_none_of_not_fc c hcond.2)).2.comp b).staged hb
    · exact hb

theorem killAll_inv {wf exc s} (hI : Inv wf exc s) : Inv wf exc (killAll wf s) := by
  unfold killAll
  refine List.foldlRecOn (motive := Inv wf exc) wf.order _ ⟨hI.ci, hI.curLe⟩ ?_
  intro t hIt c hc
  split
  · next hcond =>
    simp only [Bool.and_eq_true, Bool.not_eq_true', Option.isNone_iff_eq_none] at hcond
    have hct := hcond.2
    split
    · next hs => exact finish_inv hIt hs hct (.inl rfl)
    · next hs => exact fakeFinish_inv hIt (by simpa using hs) hc (.inl rfl)
  · exact hIt

theorem finCritical_inv {wf exc s} (c : Nat) (hI : Inv wf exc s) : Inv wf exc (finCritical wf s c) := by
  unfold finCritical
  split
  · split
    · exact killAll_inv hI
    · exact stopStage_inv _ hI
  · exact hI

/-- `comp_done.add` ends the delivery of `fin c` -/
theorem finRecord_inv {wf s c} (hI : Inv wf (some (.fin c)) s) (hs : (s.comp c).ctrl.isSome = true) :
    Inv wf none (finRecord s c) := by
  refine ⟨fun j => ?_, hI.curLe⟩
  have h := hI.ci j
  show CI wf none j (s.comp j) (decide (j = c) || s.done j) s.pending
  refine { h with k5 := ?_, k6 := ?_, k8 := ?_ }
  · intro a b d
    obtain ⟨h1, h2⟩ := h.k5 a b d
    exact ⟨h1.imp_right fun e => by simp at e, h2⟩
  · intro a
    rcases h.k6 a with h1 | h1 | h1
    · left; simp [h1]
    · right; left; exact h1
    · simp only [Option.some.injEq, Notif.fin.injEq] at h1
      left; simp [h1]
  · intro a
    simp only [Bool.or_eq_true, decide_eq_true_eq] at a
    rcases a with a | a
    · subst a; exact hs
    · exact h.k8 a

theorem deliverFin_inv {wf s} (c : Nat) (hI : Inv wf none s) : Inv wf none (deliverFin wf s c) := by
  rw [deliverFin_eq]
  split
  · next hp =>
    have I0 := erase_inv hI (.fin c)
    exact finRecord_inv (finCritical_inv c I0)
      ((C01L.finCritical_spec wf I0.core c).2.ext.isSome c ((hI.ci c).k8' hp))
  · exact hI

theorem visit_fold_inv {wf exc s} (hI : Inv wf exc s) (l : List Nat) (hl : ∀ c ∈ l, c ∈ wf.order) :
    Inv wf exc (l.foldl (visit wf) (s, [])).1 ∧ C01L.Quiet s (l.foldl (visit wf) (s, [])).1 ∧
      ∀ c ∈ (l.foldl (visit wf) (s, [])).2, c ∈ wf.order :=
  C01L.visit_fold_rec (P := fun a => Inv wf exc a.1 ∧ C01L.Quiet s a.1 ∧ ∀ c ∈ a.2, c ∈ wf.order) l
    ⟨hI, .refl s, nofun⟩
    (fun a c hc ⟨hIa, hQa, hla⟩ _ hct hst _ _ =>
      ⟨fakeFinish_inv hIa hst (hl c hc) (.inl rfl), hQa.trans (C01L.fakeFinish_spec hIa.core c .shutdown hct).2, hla⟩)
    (fun a c hc ⟨hIa, hQa, hla⟩ _ _ => ⟨hIa, hQa, fun d hd => by
      rcases List.mem_append.1 hd with hd | hd
      · exact hla d hd
      · cases List.mem_singleton.1 hd; exact hl _ hc⟩)

theorem schedPass_inv {wf exc s} (hI : Inv wf exc s) :
    Inv wf exc (schedPass wf s) ∧ Mono s (schedPass wf s) := by
  unfold schedPass
  obtain ⟨h1, h2, h3⟩ := visit_fold_inv hI wf.order (fun _ h => h)
  dsimp only
  split
  · exact ⟨h1, h2.mono⟩
  · exact ⟨launch_inv _ h1 h3, h2.mono.trans (launch_mono ..)⟩

/-! ## every operation -/

theorem step_inv' {wf s} (op : Op) (hop : op ≠ .next) (hI : Inv wf none s) :
    Inv wf none (step wf s op) ∧ Mono s (step wf s op) := by
  have hm := fun hs => (C01L.step_quiet wf hI.core hs hop).2.mono
  cases op with
  | sched => exact schedPass_inv hI
  | exit c => exact ⟨taskExit_inv c hI, hm nofun⟩
  | fin c => exact ⟨deliverFin_inv c hI, hm nofun⟩
  | pm c => exact ⟨deliverPM_inv c hI, hm nofun⟩
  | kill => exact ⟨killAll_inv hI, hm nofun⟩
  | tick c => exact ⟨hI, hm nofun⟩
  | next => exact absurd rfl hop

theorem advance_comp (wf : Wf) (s : St) :
    (advance wf s).comp = s.comp ∧ (advance wf s).done = s.done ∧ (advance wf s).pending = s.pending := by
  unfold advance; split <;> exact ⟨rfl, rfl, rfl⟩

theorem advance_inv {wf exc s} (hI : Inv wf exc s) : Inv wf exc (advance wf s) ∧ MonoC s (advance wf s) := by
  unfold advance
  split
  · next hca =>
    simp only [canAdvance, Bool.and_eq_true, decide_eq_true_eq] at hca
    exact ⟨⟨hI.ci, Nat.succ_le_of_lt hca.1.2⟩, ⟨fun _ h => h, fun _ _ h => h⟩⟩
  · exact ⟨hI, MonoC.refl s⟩

theorem step_inv {wf s} (op : Op) (hI : Inv wf none s) :
    Inv wf none (step wf s op) ∧ MonoC s (step wf s op) := by
  by_cases hop : op = .next
  · subst hop; exact advance_inv hI
  · exact ⟨(step_inv' op hop hI).1, (step_inv' op hop hI).2.toC⟩

end St4sd.C02L
