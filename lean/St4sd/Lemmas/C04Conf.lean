import St4sd.Model.TreeConf
import St4sd.Lemmas.C04User
import St4sd.Lemmas.Str
/-!
# Variable files in the INI flavour (C04, `Model/TreeConf.lean`)

`int()` reads the digits of a stage index back (`confInt_digits`), and the stage scopes `confUser` builds are, stage by
stage, the last section that names the stage (`confStagesAux_spec`).
-/
namespace St4sd.Tree
open St4sd.Str

theorem confInt_digits (n : Nat) : confInt? (natToDigits n) = some n := by
  rw [confInt?, strip_digits _ (natToDigits_all n), digitsToNat_natToDigits]

theorem lower_append (a b : S) : lower (a ++ b) = lower a ++ lower b := by
  simp [lower]

theorem confStagesAux_spec : ∀ (l : ConfFile) (acc : List (Nat × Fields)),
    (∀ e ∈ l, (stageSectionIndex e.1).isSome = true) →
    ∃ st, confStagesAux l acc = some st ∧ ∀ i, lookupN st i = (sectionFor l i).or (lookupN acc i) := by
  intro l
  induction l with
  | nil => intro acc _; exact ⟨acc, rfl, fun i => rfl⟩
  | cons e r ih =>
    obtain ⟨n, f⟩ := e
    intro acc h
    cases hidx : stageSectionIndex n with
    | none => have := h (n, f) (.head _); simp [hidx] at this
    | some i0 =>
      obtain ⟨st, hst, hlook⟩ := ih (setN acc i0 f) fun e he => h e (.tail _ he)
      refine ⟨st, by simpa only [confStagesAux, hidx] using hst, fun i => ?_⟩
      simp only [hlook i, lookupN_setN, sectionFor, hidx, Option.some.injEq]
      cases sectionFor r i with
      | some g => rfl
      | none => split <;> rfl

theorem sectionFor_none (l : ConfFile) (i : Nat) (h : ∀ e ∈ l, stageSectionIndex e.1 ≠ some i) :
    sectionFor l i = none := by
  induction l with
  | nil => rfl
  | cons e r ih =>
    obtain ⟨n, f⟩ := e
    simp only [sectionFor]
    rw [ih (fun e he => h e (by simp [he]))]
    have := h (n, f) (by simp)
    simp [this]

theorem sectionFor_of_mem (l : ConfFile) (hnd : (l.map (fun e => stageSectionIndex e.1)).Nodup)
    (name : S) (f : Fields) (i : Nat) (hmem : (name, f) ∈ l) (hidx : stageSectionIndex name = some i) :
    sectionFor l i = some f := by
  induction l with
  | nil => simp at hmem
  | cons e r ih =>
    obtain ⟨n0, f0⟩ := e
    simp only [List.map_cons, List.nodup_cons] at hnd
    simp only [sectionFor]
    rcases List.mem_cons.mp hmem with h | h
    · have h1 : name = n0 := congrArg Prod.fst h
      have h2 : f = f0 := congrArg Prod.snd h
      subst h1; subst h2
      have hnone : sectionFor r i = none := by
        apply sectionFor_none
        intro e he heq
        apply hnd.1
        rw [hidx, ← heq]
        exact List.mem_map.mpr ⟨e, he, rfl⟩
      simp [hnone, hidx]
    · rw [ih hnd.2 h]

theorem confUser_global {cf : ConfFile} {u : UserVars} (h : confUser cf = some u) : u.global = confGlobal cf := by
  unfold confUser at h
  split at h <;> cases h
  rfl

end St4sd.Tree
