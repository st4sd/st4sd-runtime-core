import St4sd.Model.Instance
/-!
Lemmas for C07 about `St4sd.Instance`: association-list dictionaries (`get?`, `hasKey`, `update`, `mapVals`); the
interpolation function `interp` (closed templates are fixed points; more fuel changes nothing once the result is
closed; a context whose values were partly replaced by their closed interpolation resolves the same); what a
description with the `default` layer only gives for any platform; `flatComp` and `resolveComp` field by field.
-/
namespace St4sd.Instance

/-! ### dictionaries

Lookups are primary: `hasKey` is `isSome` of the lookup, and a lookup in `update a b` is the lookup in `b` or else the
one in `a`. -/

@[simp] theorem hasKey_nil (k : Name) : hasKey [] k = false := rfl
@[simp] theorem hasKey_cons (e : Name × Tmpl) (r : Dict) (k : Name) :
    hasKey (e :: r) k = (e.1 == k || hasKey r k) := rfl
@[simp] theorem mapVals_nil (f : Tmpl → Tmpl) : mapVals f [] = [] := rfl
@[simp] theorem mapVals_cons (f : Tmpl → Tmpl) (e : Name × Tmpl) (r : Dict) :
    mapVals f (e :: r) = (e.1, f e.2) :: mapVals f r := rfl
@[simp] theorem get?_nil (k : Name) : get? [] k = none := rfl
theorem get?_cons (e : Name × Tmpl) (r : Dict) (k : Name) :
    get? (e :: r) k = if e.1 == k then some e.2 else get? r k := by
  cases e; rfl

theorem hasKey_eq_isSome (d : Dict) (k : Name) : hasKey d k = (get? d k).isSome := by
  induction d with
  | nil => rfl
  | cons e r ih => rw [hasKey_cons, get?_cons, ih]; cases e.1 == k <;> rfl

theorem get?_eq_none_iff (d : Dict) (k : Name) : get? d k = none ↔ hasKey d k = false := by
  rw [hasKey_eq_isSome]; cases get? d k <;> simp

theorem get?_append (a b : Dict) (k : Name) : get? (a ++ b) k = (get? a k).or (get? b k) := by
  induction a with
  | nil => rfl
  | cons e r ih => rw [List.cons_append, get?_cons, get?_cons, ih]; cases e.1 == k <;> rfl

theorem get?_mapVals (f : Tmpl → Tmpl) (d : Dict) (k : Name) : get? (mapVals f d) k = (get? d k).map f := by
  induction d with
  | nil => rfl
  | cons e r ih => rw [mapVals_cons, get?_cons, get?_cons, ih]; cases e.1 == k <;> rfl

theorem get?_filter_keys (p : Name → Bool) (d : Dict) (k : Name) :
    get? (d.filter fun e => p e.1) k = if p k then get? d k else none := by
  induction d with
  | nil => simp
  | cons e r ih =>
    rw [List.filter_cons, get?_cons]
    by_cases hek : e.1 = k
    · subst hek; cases hp : p e.1 <;> simp [ih, hp, get?_cons]
    · cases p e.1 <;> simp [ih, get?_cons, hek]

theorem get?_update (a b : Dict) (k : Name) : get? (update a b) k = (get? b k).or (get? a k) := by
  unfold update
  rw [get?_append, get?_filter_keys (fun k => !hasKey b k), hasKey_eq_isSome]
  cases get? b k <;> simp

theorem mapVals_append (f : Tmpl → Tmpl) (a b : Dict) : mapVals f (a ++ b) = mapVals f a ++ mapVals f b :=
  List.map_append

@[simp] theorem hasKey_mapVals (f : Tmpl → Tmpl) (d : Dict) (k : Name) : hasKey (mapVals f d) k = hasKey d k := by
  simp [hasKey_eq_isSome, get?_mapVals]

theorem hasKey_append (a b : Dict) (k : Name) : hasKey (a ++ b) k = (hasKey a k || hasKey b k) :=
  List.any_append

theorem hasKey_update (a b : Dict) (k : Name) : hasKey (update a b) k = (hasKey a k || hasKey b k) := by
  simp [hasKey_eq_isSome, get?_update, Bool.or_comm]

theorem mem_hasKey {d : Dict} {e : Name × Tmpl} (h : e ∈ d) : hasKey d e.1 = true :=
  List.any_eq_true.mpr ⟨e, h, beq_self_eq_true _⟩

theorem get?_some_mem {d : Dict} {k : Name} {v : Tmpl} (h : get? d k = some v) : (k, v) ∈ d := by
  induction d with
  | nil => cases h
  | cons e r ih =>
    rw [get?_cons] at h
    split at h
    · rename_i hk
      cases h
      rw [← beq_iff_eq.mp hk]
      exact List.mem_cons_self
    · exact List.mem_cons_of_mem _ (ih h)

@[simp] theorem update_nil_left (b : Dict) : update [] b = b := by simp [update]
@[simp] theorem update_nil_right (a : Dict) : update a [] = a := by simp [update]

def keysSub (a b : Dict) : Prop := ∀ k, hasKey a k = true → hasKey b k = true

theorem keysSub_refl (a : Dict) : keysSub a a := fun _ h => h
theorem keysSub_update {a b c : Dict} (h1 : keysSub a c) (h2 : keysSub b c) : keysSub (update a b) c := by
  intro k h
  rw [hasKey_update, Bool.or_eq_true] at h
  exact h.elim (h1 k) (h2 k)
theorem keysSub_nil (c : Dict) : keysSub [] c := by intro k h; simp at h

theorem update_absorb {a b : Dict} (h : keysSub a b) : update a b = b := by
  unfold update
  rw [List.filter_eq_nil_iff.mpr fun e he => by simp [h e.1 (mem_hasKey he)]]
  rfl

theorem update_self (a : Dict) : update a a = a := update_absorb (keysSub_refl a)

theorem filter_not_mapVals (f : Tmpl → Tmpl) (d b : Dict) :
    (mapVals f d).filter (fun e => !hasKey b e.1) = mapVals f (d.filter (fun e => !hasKey b e.1)) := by
  simp only [mapVals, List.filter_map]
  rfl

theorem filter_not_self (d : Dict) : d.filter (fun e => !hasKey d e.1) = [] :=
  List.filter_eq_nil_iff.mpr fun e he => by simp [mem_hasKey he]

theorem update_update_same (x o : Dict) : update (update x o) o = update x o := by
  unfold update
  rw [List.filter_append, List.filter_filter, filter_not_self]
  simp

theorem update_mapVals_update (f : Tmpl → Tmpl) (a o : Dict) :
    update (mapVals f (update a o)) o = mapVals f (a.filter (fun e => !hasKey o e.1)) ++ o := by
  unfold update
  rw [mapVals_append, List.filter_append, filter_not_mapVals, filter_not_mapVals, List.filter_filter,
    filter_not_self]
  simp

/-! ### templates

`interp (n + 1)` maps every segment of a template on its own (`stepSeg`), so a fact about interpolation is a fact
about one segment, with the induction on the fuel for the segments that are references. -/

@[simp] theorem closedIn_nil (ctx : Dict) : closedIn ctx [] = true := rfl

theorem closedIn_iff (ctx : Dict) (t : Tmpl) : closedIn ctx t = true ↔ ∀ v, .ref v ∈ t → hasKey ctx v = false := by
  rw [closedIn, List.all_eq_true]
  constructor
  · intro h v hv
    simpa using h _ hv
  · intro h s hs
    cases s with
    | ch c => rfl
    | ref v => simpa using h v hs

theorem closedIn_congr {c1 c2 : Dict} (h : ∀ k, hasKey c1 k = hasKey c2 k) (t : Tmpl) :
    closedIn c1 t = closedIn c2 t :=
  Bool.eq_iff_iff.mpr (by simp only [closedIn_iff, h])

def stepSeg (n : Nat) (ctx : Dict) : Seg → Tmpl
  | .ch c => [.ch c]
  | .ref v =>
    match get? ctx v with
    | some r => interp n ctx r
    | none => [.ref v]

@[simp] theorem interp_zero (ctx : Dict) (t : Tmpl) : interp 0 ctx t = t := by
  cases t <;> rfl

theorem interp_succ (n : Nat) (ctx : Dict) (t : Tmpl) : interp (n + 1) ctx t = t.flatMap (stepSeg n ctx) := by
  rfl

theorem interp_succ_congr {n m : Nat} {ctx ctx' : Dict} {t : Tmpl}
    (h : ∀ s ∈ t, stepSeg n ctx s = stepSeg m ctx' s) : interp (n + 1) ctx t = interp (m + 1) ctx' t := by
  rw [interp_succ, interp_succ, List.flatMap_def, List.flatMap_def, List.map_congr_left h]

theorem closedIn_interp_succ (c ctx : Dict) (n : Nat) (t : Tmpl) :
    closedIn c (interp (n + 1) ctx t) = true ↔ ∀ s ∈ t, closedIn c (stepSeg n ctx s) = true := by
  rw [interp_succ, closedIn, List.all_flatMap, List.all_eq_true]
  rfl

theorem interp_closed (n : Nat) (ctx : Dict) (t : Tmpl) (h : closedIn ctx t = true) : interp n ctx t = t := by
  cases n with
  | zero => exact interp_zero ctx t
  | succ n =>
    rw [closedIn_iff] at h
    have hseg : ∀ s ∈ t, stepSeg n ctx s = [s] := by
      intro s hs
      cases s with
      | ch c => rfl
      | ref v => simp [stepSeg, (get?_eq_none_iff ctx v).mpr (h v hs)]
    rw [interp_succ, List.flatMap_def, List.map_congr_left hseg, ← List.flatMap_def, List.flatMap_singleton']

theorem interp_succ_of_closed (ctx : Dict) : ∀ (n : Nat) (t : Tmpl),
    closedIn ctx (interp n ctx t) = true → interp (n + 1) ctx t = interp n ctx t := by
  intro n
  induction n with
  | zero =>
    intro t h
    rw [interp_zero] at h ⊢
    exact interp_closed 1 ctx t h
  | succ n ihn =>
    intro t h
    rw [closedIn_interp_succ] at h
    refine interp_succ_congr fun s hs => ?_
    cases s with
    | ch c => rfl
    | ref v =>
      have h1 := h _ hs
      cases hg : get? ctx v with
      | none => simp [stepSeg, hg]
      | some r =>
        simp only [stepSeg, hg] at h1 ⊢
        exact ihn r h1

theorem interp_add_of_closed (ctx : Dict) (a : Nat) (t : Tmpl) (h : closedIn ctx (interp a ctx t) = true) :
    ∀ k, interp (a + k) ctx t = interp a ctx t := by
  intro k
  induction k with
  | zero => rfl
  | succ k ih =>
    rw [← Nat.add_assoc, interp_succ_of_closed ctx (a + k) t (by rw [ih]; exact h), ih]

theorem interp_fuel_eq (ctx : Dict) (a b : Nat) (t : Tmpl) (ha : closedIn ctx (interp a ctx t) = true)
    (hb : closedIn ctx (interp b ctx t) = true) : interp a ctx t = interp b ctx t := by
  rcases Nat.le_total a b with h | h
  · obtain ⟨k, rfl⟩ := Nat.exists_eq_add_of_le h
    exact (interp_add_of_closed ctx a t ha k).symm
  · obtain ⟨k, rfl⟩ := Nat.exists_eq_add_of_le h
    exact interp_add_of_closed ctx b t hb k

/-- `ctx'` is `ctx` with some values replaced by their closed interpolation in `ctx` -/
def Refines (N : Nat) (ctx ctx' : Dict) : Prop :=
  (∀ k, hasKey ctx' k = hasKey ctx k) ∧
  ∀ v r, get? ctx v = some r →
    get? ctx' v = some r ∨ (get? ctx' v = some (interp N ctx r) ∧ closedIn ctx (interp N ctx r) = true)

theorem interp_refine {N : Nat} {ctx ctx' : Dict} (h : Refines N ctx ctx') :
    ∀ (n : Nat) (t : Tmpl), closedIn ctx (interp n ctx t) = true → interp n ctx' t = interp n ctx t := by
  obtain ⟨hk, hr⟩ := h
  intro n
  induction n with
  | zero => intro t _; simp
  | succ n ihn =>
    intro t h
    rw [closedIn_interp_succ] at h
    refine interp_succ_congr fun s hs => ?_
    cases s with
    | ch c => rfl
    | ref v =>
      have h1 := h _ hs
      cases hg : get? ctx v with
      | none =>
        have : get? ctx' v = none := by rwa [get?_eq_none_iff, hk, ← get?_eq_none_iff]
        simp [stepSeg, hg, this]
      | some r =>
        simp only [stepSeg, hg] at h1 ⊢
        rcases hr v r hg with h2 | ⟨h2, h3⟩
        · simp only [h2]
          exact ihn r h1
        · simp only [h2]
          rw [interp_closed n ctx' _ (by rw [closedIn_congr hk]; exact h3)]
          exact interp_fuel_eq ctx N n r h3 h1

/-! ### dictionaries of templates -/

theorem dictClosed_iff (ctx d : Dict) : dictClosed ctx d = true ↔ ∀ e ∈ d, closedIn ctx e.2 = true :=
  List.all_eq_true

theorem dictClosed_mapVals (ctx : Dict) (f : Tmpl → Tmpl) (d : Dict) :
    dictClosed ctx (mapVals f d) = true ↔ ∀ e ∈ d, closedIn ctx (f e.2) = true := by
  rw [dictClosed, mapVals, List.all_map]
  exact List.all_eq_true

theorem dictClosed_append (ctx a b : Dict) : dictClosed ctx (a ++ b) = (dictClosed ctx a && dictClosed ctx b) :=
  List.all_append

theorem dictClosed_congr {c1 c2 : Dict} (h : ∀ k, hasKey c1 k = hasKey c2 k) (d : Dict) :
    dictClosed c1 d = dictClosed c2 d := by
  simp only [dictClosed, closedIn_congr h]

theorem mapVals_interp_closed (n : Nat) (ctx ctx' d : Dict) (hk : ∀ k, hasKey ctx' k = hasKey ctx k)
    (h : dictClosed ctx d = true) : mapVals (interp n ctx') d = d := by
  rw [dictClosed_iff] at h
  induction d with
  | nil => rfl
  | cons e r ih =>
    rw [mapVals_cons, ih (fun x hx => h x (List.mem_cons_of_mem _ hx)),
      interp_closed n ctx' e.2 (by rw [closedIn_congr hk]; exact h e List.mem_cons_self)]

theorem mapVals_congr {f g : Tmpl → Tmpl} {d : Dict} (h : ∀ e ∈ d, f e.2 = g e.2) : mapVals f d = mapVals g d := by
  induction d with
  | nil => rfl
  | cons e r ih =>
    rw [mapVals_cons, mapVals_cons, h e List.mem_cons_self, ih (fun x hx => h x (List.mem_cons_of_mem _ hx))]

theorem mapVals_refine {N : Nat} {ctx ctx' d : Dict} (h : Refines N ctx ctx')
    (hd : ∀ e ∈ d, closedIn ctx (interp N ctx e.2) = true) :
    mapVals (interp N ctx') d = mapVals (interp N ctx) d :=
  mapVals_congr fun e he => interp_refine h N e.2 (hd e he)

/-! ### the variables of a stored component, read back

A component is stored with its variables `A ++ O` (`O`: the override block of the platform) interpolated in
`C = update base (A ++ O)`.  Read back, the override block is applied again in its raw form: the variables are
`mapVals (interp N C) A ++ O`, and `O = []` when the description is read for another platform. -/

section storedContext
variable (N : Nat) (base A O : Dict)

theorem refines_stored
    (hcl : dictClosed (update base (A ++ O)) (mapVals (interp N (update base (A ++ O))) (A ++ O)) = true) :
    Refines N (update base (A ++ O)) (update base (mapVals (interp N (update base (A ++ O))) A ++ O)) := by
  refine ⟨fun k => by simp [hasKey_update, hasKey_append], fun v r hv => ?_⟩
  rw [get?_update, get?_append] at hv
  rw [get?_update, get?_append, get?_mapVals]
  cases hA : get? A v with
  | none => rw [hA] at hv; exact Or.inl hv
  | some a =>
    rw [hA] at hv
    cases hv
    exact Or.inr ⟨rfl, (dictClosed_mapVals _ _ _).mp hcl _ (List.mem_append_left O (get?_some_mem hA))⟩

/-- the interpolated variables are closed and stay; the raw ones resolve as they did -/
theorem mapVals_stored_vars
    (hcl : dictClosed (update base (A ++ O)) (mapVals (interp N (update base (A ++ O))) (A ++ O)) = true) :
    mapVals (interp N (update base (mapVals (interp N (update base (A ++ O))) A ++ O)))
        (mapVals (interp N (update base (A ++ O))) A ++ O)
      = mapVals (interp N (update base (A ++ O))) (A ++ O) := by
  have hr := refines_stored N base A O hcl
  rw [mapVals_append, dictClosed_append, Bool.and_eq_true] at hcl
  rw [mapVals_append, mapVals_append, mapVals_interp_closed N _ _ _ hr.1 hcl.1,
    mapVals_refine hr ((dictClosed_mapVals _ _ _).mp hcl.2)]

theorem mapVals_stored_ctx
    (hcl : dictClosed (update base (A ++ O)) (mapVals (interp N (update base (A ++ O))) (A ++ O)) = true)
    (hbase : dictClosed (update base (A ++ O)) (mapVals (interp N (update base (A ++ O))) base) = true) :
    mapVals (interp N (update base (mapVals (interp N (update base (A ++ O))) A ++ O)))
        (update base (mapVals (interp N (update base (A ++ O))) A ++ O))
      = mapVals (interp N (update base (A ++ O))) (update base (A ++ O)) := by
  -- both contexts keep the same entries of `base`
  have hB : update base (mapVals (interp N (update base (A ++ O))) A ++ O)
      = base.filter (fun e => !hasKey (A ++ O) e.1) ++ (mapVals (interp N (update base (A ++ O))) A ++ O) :=
    congrArg (· ++ _) (List.filter_congr fun e _ => by simp [hasKey_append])
  rw [hB, mapVals_append, ← hB, mapVals_stored_vars N base A O hcl]
  show _ = mapVals _ (base.filter (fun e => !hasKey (A ++ O) e.1) ++ (A ++ O))
  rw [mapVals_append _ (base.filter _) (A ++ O)]
  congr 1
  exact mapVals_refine (refines_stored N base A O hcl) fun e he =>
    (dictClosed_mapVals _ _ _).mp hbase e (List.mem_filter.mp he).1

end storedContext

/-! ### a description that has the `default` layer only reads the same for every platform -/

theorem layerOf_default_zero (ly : Layer) : layerOf [(0, ly)] 0 = ly := rfl

theorem layerOf_default_ne (ly : Layer) {Q : Name} (h : Q ≠ 0) : layerOf [(0, ly)] Q = Layer.empty := by
  simp [layerOf, Ne.symm h]

theorem stage_map (g : Dict) (f : Nat → Dict) {ss : List Nat} {s : Nat} (h : s ∈ ss) :
    Layer.stage ⟨g, ss.map fun s => (s, f s)⟩ s = f s := by
  unfold Layer.stage
  induction ss with
  | nil => cases h
  | cons a r ih =>
    by_cases ha : a = s
    · simp [ha]
    · simpa [ha] using ih ((List.mem_cons.mp h).resolve_left (Ne.symm ha))

section defaultOnly
variable {M : Doc} {g : Dict} {st : List (Nat × Dict)}

theorem gv0_default (hv : M.vars = [(0, ⟨g, st⟩)]) (Q : Name) : gv0 M Q = g := by
  unfold gv0
  by_cases h : Q = 0
  · simp [hv, h, layerOf_default_zero]
  · simp [hv, h, layerOf_default_zero, layerOf_default_ne _ h, Layer.empty]

theorem sv0_default (hv : M.vars = [(0, ⟨g, st⟩)]) (Q : Name) (s : Nat) : sv0 M Q s = Layer.stage ⟨g, st⟩ s := by
  unfold sv0
  by_cases h : Q = 0
  · simp [hv, h, layerOf_default_zero, update_self]
  · simp [hv, h, layerOf_default_zero, layerOf_default_ne _ h, Layer.empty, Layer.stage]

theorem allVars_default (hv : M.vars = [(0, ⟨g, st⟩)]) (Q : Name) (c : Comp) :
    allVars M Q c = update (update g (Layer.stage ⟨g, st⟩ c.stage)) (cv0 c Q) := by
  unfold allVars
  by_cases h : Q = 0
  · simp [hv, h, layerOf_default_zero]
  · simp [hv, h, layerOf_default_zero, layerOf_default_ne _ h, Layer.empty, Layer.stage]

theorem bpg0_default (hb : M.bps = [(0, ⟨g, st⟩)]) (Q : Name) : bpg0 M Q = g := by
  unfold bpg0
  by_cases h : Q = 0
  · simp [hb, h, layerOf_default_zero, update_self]
  · simp [hb, layerOf_default_zero, layerOf_default_ne _ h, Layer.empty]

theorem bps0_default (hb : M.bps = [(0, ⟨g, st⟩)]) (Q : Name) (s : Nat) : bps0 M Q s = Layer.stage ⟨g, st⟩ s := by
  unfold bps0 bpsBase
  by_cases h : Q = 0
  · simp [hb, h, layerOf_default_zero, update_self]
  · simp [hb, h, layerOf_default_zero, layerOf_default_ne _ h, Layer.empty, Layer.stage]

end defaultOnly

/-! ### the override block of one platform -/

theorem find?_filter_self {α : Type} (p : α → Bool) (l : List α) : (l.filter p).find? p = l.find? p := by
  rw [List.find?_filter]
  simp

theorem find?_plat_filter (l : List Ovr) (P Q : Name) :
    (l.filter (fun o => o.plat == P)).find? (fun o => o.plat == Q)
      = if Q = P then l.find? (fun o => o.plat == P) else none := by
  split
  · next h => rw [h, find?_filter_self]
  · next h =>
    refine List.find?_eq_none.mpr fun o ho => ?_
    have : o.plat = P := by simpa using (List.mem_filter.mp ho).2
    simpa [this] using Ne.symm h

/-! ### `flatComp`, field by field -/

section flatComp
variable (N : Nat) (L : Doc) (P : Name) (c : Comp)

theorem flatComp_nondoc (hd : c.isDoc = false) :
    flatComp N L P c = { c with opts := layeredOpts L P c, vars := mapVals (interp N (cctx N L P c)) (cv0 c P),
                                ovr := c.ovr.filter (fun o => o.plat == P) } := by
  unfold flatComp
  rw [if_neg (by simp [hd])]

@[simp] theorem flatComp_stage : (flatComp N L P c).stage = c.stage := by unfold flatComp; split <;> rfl
@[simp] theorem flatComp_name : (flatComp N L P c).name = c.name := by unfold flatComp; split <;> rfl
@[simp] theorem flatComp_isDoc : (flatComp N L P c).isDoc = c.isDoc := by unfold flatComp; split <;> rfl

theorem flatComp_opts (hd : c.isDoc = false) : (flatComp N L P c).opts = layeredOpts L P c := by
  rw [flatComp_nondoc N L P c hd]
theorem flatComp_vars (hd : c.isDoc = false) :
    (flatComp N L P c).vars = mapVals (interp N (cctx N L P c)) (cv0 c P) := by
  rw [flatComp_nondoc N L P c hd]
theorem flatComp_ovr (hd : c.isDoc = false) : (flatComp N L P c).ovr = c.ovr.filter (fun o => o.plat == P) := by
  rw [flatComp_nondoc N L P c hd]

theorem flatComp_congr {L1 L2 : Doc} (hv : L1.vars = L2.vars) (hb : L1.bps = L2.bps) :
    flatComp N L1 P c = flatComp N L2 P c := by
  unfold flatComp layeredOpts cctx gvars gv0 svars sctx sv0 gvars gv0
  rw [hv, hb]

end flatComp

theorem ovrOpts_flatComp (N : Nat) (L : Doc) (P Q : Name) (c : Comp) (hd : c.isDoc = false) :
    ovrOpts (flatComp N L P c) Q = if Q = P then ovrOpts c P else [] := by
  unfold ovrOpts
  rw [flatComp_ovr N L P c hd, find?_plat_filter]
  by_cases h : Q = P <;> simp only [h, if_true, if_false]

theorem ovrVars_flatComp (N : Nat) (L : Doc) (P Q : Name) (c : Comp) (hd : c.isDoc = false) :
    ovrVars (flatComp N L P c) Q = if Q = P then ovrVars c P else [] := by
  unfold ovrVars
  rw [flatComp_ovr N L P c hd, find?_plat_filter]
  by_cases h : Q = P <;> simp only [h, if_true, if_false]

theorem resolveComp_eq (N : Nat) (L : Doc) (P : Name) (c : Comp) :
    resolveComp N L P c = ⟨c.stage, c.name, mapVals (interp N (allVars L P c)) (layeredOpts L P c),
      mapVals (interp N (allVars L P c)) (allVars L P c)⟩ := rfl

theorem resolveComp_ovr_filter (N : Nat) (M : Doc) (Q : Name) (c : Comp) :
    resolveComp N M Q { c with ovr := c.ovr.filter (fun o => o.plat == Q) } = resolveComp N M Q c := by
  simp only [resolveComp, allVars, layeredOpts, cv0, ovrOpts, ovrVars, find?_filter_self]

theorem resolveAll_map (N : Nat) (M : Doc) (Q : Name) (f : Comp → Comp) (hf : ∀ c, (f c).isDoc = c.isDoc)
    (cs : List Comp) :
    ((cs.map f).filter (fun c => !c.isDoc)).map (resolveComp N M Q)
      = (cs.filter (fun c => !c.isDoc)).map (fun c => resolveComp N M Q (f c)) := by
  simp [List.filter_map, Function.comp_def, hf]

theorem resolveAll_ovr_filter (N : Nat) (M : Doc) (Q : Name) :
    resolveAll N { M with comps := M.comps.map fun c =>
      if c.isDoc then c else { c with ovr := c.ovr.filter (fun o => o.plat == Q) } } Q = resolveAll N M Q := by
  show ((M.comps.map _).filter _).map (resolveComp N _ Q) = (M.comps.filter _).map _
  rw [resolveAll_map N _ Q _ (fun c => by split <;> rfl)]
  refine List.map_congr_left fun c hc => ?_
  have hd : c.isDoc = false := by simpa using (List.mem_filter.mp hc).2
  rw [if_neg (by simp [hd]), resolveComp_ovr_filter]
  rfl

end St4sd.Instance
