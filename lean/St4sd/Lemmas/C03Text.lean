import St4sd.Model.Repl
/-!
# C03, text level: the repaired substitution rewrites whole reference tokens only

Helper lemmas about `Repl.scan` (the single-pass regular-expression substitution of the repaired
`compile_component_replica`), used by `text_refines_graph_partial` in `Props/C03.lean`.
-/
namespace St4sd.C03
open St4sd.Repl St4sd.Str

theorem scan_skip (keys : List (S × S)) (s : S) (n : Nat) (prev : Option Char) (h : s.length ≤ n) :
    scan keys n prev s = [] := by
  induction s generalizing n prev with
  | nil => cases n <;> simp [scan]
  | cons c s ih =>
    cases n with
    | zero => simp at h
    | succ k =>
      simp only [scan]
      exact ih k (some c) (by simpa using h)

/-- no key matches (with its boundaries) at any position of `s`; `prev` = character before `s` -/
def noMatch (keys : List (S × S)) : Option Char → S → Bool
  | _, [] => true
  | prev, c :: s => (!leftOk prev || (firstMatch keys (c :: s)).isNone) && noMatch keys (some c) s

theorem scan_noMatch (keys : List (S × S)) (s : S) (prev : Option Char) (h : noMatch keys prev s = true) :
    scan keys 0 prev s = s := by
  induction s generalizing prev with
  | nil => simp [scan]
  | cons c s ih =>
    simp only [noMatch, Bool.and_eq_true, Bool.or_eq_true, Bool.not_eq_true', Option.isNone_iff_eq_none] at h
    obtain ⟨h1, h2⟩ := h
    have hm : (if leftOk prev = true then firstMatch keys (c :: s) else none) = none := by
      rcases h1 with h1 | h1 <;> simp [h1]
    simp only [scan, hm]
    rw [ih (some c) h2]

theorem scan_whole (keys : List (S × S)) (s v : S) (hne : s ≠ [])
    (h : firstMatch keys s = some (s, v)) : scan keys 0 none s = v := by
  cases s with
  | nil => exact absurd rfl hne
  | cons c t =>
    simp only [scan, leftOk, if_true, h]
    rw [scan_skip keys t _ (some c) (by simp)]
    simp

end St4sd.C03
