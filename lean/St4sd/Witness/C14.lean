import St4sd.Model.FsConc
import St4sd.Lemmas.C14Typed
import St4sd.Model.C14Listing
/-!
Witnesses for C14: the code *before* the repairs violates the full statement.  The harness
replays the same inputs on the real code (`harness/c14.py`, `CORPUS_HISTORIES` and the traced writers).

In the evaluations below the string literals are first rewritten to character lists (`String.toList_ofList`; a
literal unfolds to `String.ofList [..]`, which simp's index does not see, hence `-index`): left to itself the kernel
computes `"…".toList` by encoding to UTF-8 and decoding again, in time quadratic in the length of the literal.
-/
namespace St4sd.C14.Witness
open St4sd.FsAtomic St4sd.StatusFile

def fsOld : Fs := fun q => if q = ['t'] then some ['o', 'l', 'd'] else none

/-- C14a — `Status.writeToStream` before the repair: error description `\` (one backslash), two
updates: the file decodes to `\\` (two backslashes), not to the value that was set. -/
theorem old_writer_unfaithful_after_two_updates :
    (runHistory writeOld [(errKey, ['\\'])] [[], []]).1.bind decode = some [(errKey, ['\\', '\\'])] ∧
    (runHistory writeOld [(errKey, ['\\'])] [[], []]).1.bind decode ≠ some [(errKey, ['\\'])] := by decide +kernel

/-- … same with a newline: after three updates the description reads `a\\nb` (5 characters). -/
theorem old_writer_unfaithful_newline :
    (runHistory writeOld [(errKey, ['a', '\n', 'b'])] [[], [], []]).1.bind decode
      = some [(errKey, ['a', '\\', '\\', 'n', 'b'])] := by decide +kernel

/-- … while one update is still faithful (why the single write/read test of the repository passes). -/
theorem old_writer_faithful_after_one_update :
    (runHistory writeOld [(errKey, ['a', '\n', 'b'])] [[]]).1.bind decode = some [(errKey, ['a', '\n', 'b'])] := by decide +kernel

/-- the repaired writer on the same histories -/
theorem new_writer_faithful_on_witness :
    (runHistory writeNew [(errKey, ['\\'])] [[], []]).1.bind decode = some [(errKey, ['\\'])] ∧
    (runHistory writeNew [(errKey, ['a', '\n', 'b'])] [[], [], []]).1.bind decode = some [(errKey, ['a', '\n', 'b'])] := by
  decide +kernel

/-- C14b — in-place update (`open(target,'w')`, `store_unreplicated_flowir_to_disk` and the manifest
writer before the repair): a crash right after the `open` leaves an empty file. -/
theorem truncate_exposes_empty_file :
    run ((truncTrace ['t'] [['n', 'e'], ['w']]).take 1) fsOld ['t'] = some [] ∧
    run ((truncTrace ['t'] [['n', 'e'], ['w']]).take 2) fsOld ['t'] = some ['n', 'e'] ∧
    isAtomicProtocol (truncTrace ['t'] [['n', 'e'], ['w']]) ['t'] = false ∧
    firstUnsafe (truncTrace ['t'] [['n', 'e'], ['w']]) fsOld ['t'] = some 1 := by decide +kernel

/-- C14c — the reader strips: a leading blank or a trailing newline of the error description is lost
(the hypothesis of `status_roundtrip_partial` on the ends of values cannot be dropped). -/
theorem strip_loses_edge_whitespace :
    decode (encode [(errKey, [' ', 'x'])]) = some [(errKey, ['x'])] ∧
    decode (encode [(errKey, ['b', 'o', 'o', 'm', '\n'])]) = some [(errKey, ['b', 'o', 'o', 'm'])] := by decide +kernel

/-- C14d — `StatusMonitor.try_generate_status_details` before the repair: an I/O error during the second
write is logged, then the partially written temporary file is renamed over the target. -/
theorem rename_after_failed_write_installs_partial_file :
    run (writerTraceErrRenameAnyway ['x'] ['t'] [['{'], ['}']] 2) fsOld ['t'] = some ['{'] ∧
    run (writerTraceErrGiveUp ['x'] ['t'] [['{'], ['}']] 2) fsOld ['t'] = some ['o', 'l', 'd'] := by decide +kernel

/-! ### two concurrent updates that share one staging path -/
section Shared
open St4sd.FsConc

/-- both updates stage their text in `x` (a fixed name such as `status.txt.tmp`): update 0 opens `x`,
then update 1 runs completely (`open x` truncates the same file, writes `123`, closes, renames `x` over `t`),
then update 0 resumes: its handle now refers to the file named `t`. -/
def sharedTmpTrace : List Ev :=
  [.openW 0 ['x'], .openW 1 ['x'], .write 1 ['1', '2', '3'], .close 1, .rename ['x'] ['t'],
   .write 0 ['a'], .close 0, .rename ['x'] ['t']]

def fsOldC : St := mkSt [(['t'], ['o', 'l', 'd'])]

/-- C14e — **shared staging path ⇒ mixed file**: after update 1 the target holds `123`; the resumed update 0
writes `a` at its own position 0 *into the live target* (in place, no rename; its own rename finds no `x`):
the target ends as `a23` — neither the old version, nor the text of update 0 (`a`), nor that of update 1
(`123`).  The protocol checker rejects the trace; with two different staging paths the same schedule is safe
(`Props.C14.interleaved_writers_safe`). -/
theorem shared_tmp_path_mixes_versions :
    content (crun (sharedTmpTrace.take 5) fsOldC) ['t'] = some ['1', '2', '3'] ∧
    content (crun (sharedTmpTrace.take 6) fsOldC) ['t'] = some ['a', '2', '3'] ∧
    content (crun sharedTmpTrace fsOldC) ['t'] = some ['a', '2', '3'] ∧
    concSafe ['t'] sharedTmpTrace = false ∧
    firstMixed sharedTmpTrace fsOldC ['t'] [['a'], ['1', '2', '3']] = some 6 := by decide +kernel

/-- the same schedule with the staging paths `x` and `y`: every crash point shows a complete version -/
theorem distinct_tmp_paths_same_schedule_safe :
    concSafe ['t'] (interleave ['t'] [⟨['x'], [['a']]⟩, ⟨['y'], [['1', '2', '3']]⟩] (fun _ => 0) [0, 1, 1, 1, 1, 0, 0, 0]) = true ∧
    firstMixed (interleave ['t'] [⟨['x'], [['a']]⟩, ⟨['y'], [['1', '2', '3']]⟩] (fun _ => 0) [0, 1, 1, 1, 1, 0, 0, 0])
      fsOldC ['t'] [['a'], ['1', '2', '3']] = none := by decide +kernel

/-- a longer text written through a handle whose file another update truncated leaves a hole:
update 0 has written `ab` (position 2) when update 1 truncates the shared staging file -/
theorem shared_tmp_truncation_leaves_hole :
    content (crun [.openW 0 ['x'], .write 0 ['a', 'b'], .openW 1 ['x'], .write 0 ['c'], .close 0,
      .rename ['x'] ['t']] fsOldC) ['t'] = some ['\x00', '\x00', 'c'] := by decide +kernel

end Shared

section Typed
open St4sd.TypedStore

/-- an update that skips the write when the loaded file `==` the new document drops an update that changes only the
type of a value: written 3 then 3.0, read back 3 -/
theorem pyEq_skip_drops_retyped_update :
    runStore (writeSkip pyEq) none [.int 3, .float 3 0] = some (.int 3) ∧
    runStore writeAlways none [.int 3, .float 3 0] = some (.float 3 0) := by decide

/-- the same inside a mapping holding a sequence (`{d: [1, 0]}` then `{d: [true, 0.0]}`), and through a chain
`0 → False → 0.0 → -0.0`: the file still holds the first value -/
theorem pyEq_skip_drops_nested_and_chained :
    runStore (writeSkip pyEq) none
      [.map (.cons (.str [100]) (.cons (.seq (.cons (.int 1) (.cons (.int 0) .nil))) .nil)),
       .map (.cons (.str [100]) (.cons (.seq (.cons (.bool true) (.cons (.float 0 0) .nil))) .nil))]
      = some (.map (.cons (.str [100]) (.cons (.seq (.cons (.int 1) (.cons (.int 0) .nil))) .nil))) ∧
    runStore (writeSkip pyEq) none [.int 0, .bool false, .float 0 0, .fspec 0] = some (.int 0) := by decide +kernel

/-- a really different value is still stored by the skipping writer, and an identical rewrite is harmless -/
theorem pyEq_skip_stores_different_values :
    runStore (writeSkip pyEq) none [.int 3, .float 7 1, .float 7 1] = some (.float 7 1) := by decide

end Typed

/-! key-output listing: a dosini reader with inline comment prefixes `#` / `;` truncates file names -/
section Listing
open St4sd.Listing

/-- `filepath=stages/stage0/hello/summary #1.csv` read with `inline_comment_prefixes=('#', ';')`: the listing names a
file that was never written; without prefixes (the code) the value is exact. -/
theorem inline_comment_reader_truncates_path :
    readLine ['#', ';'] (writeLine "filepath".toList "stages/stage0/hello/summary #1.csv".toList)
      = some ("filepath".toList, "stages/stage0/hello/summary".toList) ∧
    readLine ['#', ';'] (writeLine "filename".toList "notes ;draft.txt".toList) = some ("filename".toList, "notes".toList) ∧
    readLine [] (writeLine "filename".toList "notes ;draft.txt".toList) = some ("filename".toList, "notes ;draft.txt".toList) := by
  simp -index only [String.toList_ofList]
  decide +kernel

end Listing

end St4sd.C14.Witness
