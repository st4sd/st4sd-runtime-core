import St4sd.Model.Assoc
/-!
Laws of the association-list dictionaries of `Model/Assoc.lean` (C15 and C17): what `dget` / `dgetLast` answer after
`dset`, `derase`, `dupdate` and after mapping or filtering the entries; the keys of a dictionary, and dictionaries
without repeated keys.
-/
namespace St4sd.Assoc

variable {α β γ : Type} [BEq α]

theorem dgetLast_isSome_iff_dget (n : List (α × β)) (k : α) :
    (dgetLast n k).isSome = (dget n k).isSome := by
  induction n with
  | nil => simp [dgetLast, dget]
  | cons e r ih =>
    obtain ⟨a, b⟩ := e
    simp only [dgetLast, dget]
    by_cases h2 : (a == k) = true
    · simp only [h2, if_true]
      cases dgetLast r k <;> simp
    · simp only [h2]
      cases h : dgetLast r k <;> rw [h] at ih <;> simp [← ih]

theorem dgetLast_eq_none {d : List (α × β)} {k : α} (h : dget d k = none) : dgetLast d k = none :=
  Option.not_isSome_iff_eq_none.mp (by rw [dgetLast_isSome_iff_dget, h]; exact Bool.false_ne_true)

theorem dget_map_snd (f : β → γ) (l : List (α × β)) (k : α) :
    dget (l.map fun kv => (kv.1, f kv.2)) k = (dget l k).map f := by
  induction l with
  | nil => rfl
  | cons e r ih => simp only [List.map_cons, dget, ih]; split <;> rfl

theorem dgetLast_map_snd (f : β → γ) (l : List (α × β)) (k : α) :
    dgetLast (l.map fun kv => (kv.1, f kv.2)) k = (dgetLast l k).map f := by
  induction l with
  | nil => rfl
  | cons e r ih =>
    simp only [List.map_cons, dgetLast, ih]
    cases dgetLast r k with
    | some w => rfl
    | none => simp only [Option.map_none]; split <;> rfl

variable [LawfulBEq α]

theorem dget_dset (d : List (α × β)) (k : α) (v : β) (k' : α) :
    dget (dset d k v) k' = if k == k' then some v else dget d k' := by
  induction d with
  | nil => rfl
  | cons e r ih =>
    by_cases h : e.1 = k
    · subst h
      simp only [dset, dget, BEq.rfl, if_true]
      split <;> rfl
    · simp only [dset, dget, beq_false_of_ne h, Bool.false_eq_true, if_false, ih]
      by_cases h2 : e.1 = k'
      · subst h2
        simp [Ne.symm h]
      · simp [h2]

theorem dget_derase (d : List (α × β)) (k k' : α) :
    dget (derase d k) k' = if k == k' then none else dget d k' := by
  induction d with
  | nil => simp [derase, dget]
  | cons e r ih =>
    unfold derase at ih ⊢
    by_cases h : e.1 = k
    · subst h
      simp only [List.filter_cons, BEq.rfl, Bool.not_true, Bool.false_eq_true, if_false, ih, dget]
      split <;> rfl
    · simp only [List.filter_cons, beq_false_of_ne h, Bool.not_false, if_true, dget, ih]
      by_cases h2 : e.1 = k'
      · subst h2
        simp [Ne.symm h]
      · simp [h2]

/-- `d.update(n)`: the last occurrence in `n` wins, otherwise the old value stays -/
theorem dget_dupdate (d n : List (α × β)) (k : α) :
    dget (dupdate d n) k = match dgetLast n k with
      | some v => some v
      | none => dget d k := by
  unfold dupdate
  induction n generalizing d with
  | nil => simp [dgetLast]
  | cons e r ih =>
    obtain ⟨a, b⟩ := e
    simp only [List.foldl_cons, ih, dgetLast]
    cases h : dgetLast r k with
    | some w => simp
    | none =>
      simp only [dget_dset]
      by_cases h2 : (a == k) = true <;> simp [h2]

/-- a copy `dict(d)` of a literal keeps, for every key, the last value -/
theorem dget_copy (d : List (α × β)) (k : α) : dget (dupdate [] d) k = dgetLast d k := by
  rw [dget_dupdate]; cases dgetLast d k <;> rfl

theorem isSome_dget_dset {d : List (α × β)} {k x : α} {v : β} (h : (dget (dset d k v) x).isSome = true) :
    (dget d x).isSome = true ∨ x = k := by
  rw [dget_dset] at h
  by_cases hk : k = x
  · exact Or.inr hk.symm
  · rw [if_neg (by simpa using hk)] at h
    exact Or.inl h

theorem isSome_dget_dupdate {d n : List (α × β)} {k : α} (h : (dget (dupdate d n) k).isSome = true) :
    (dget d k).isSome = true ∨ (dget n k).isSome = true := by
  rw [dget_dupdate] at h
  cases hl : dgetLast n k with
  | none => rw [hl] at h; exact Or.inl h
  | some v => right; rw [← dgetLast_isSome_iff_dget, hl]; rfl

/-- a comprehension that keeps the keys and recomputes each value from its key -/
theorem dget_filterMap_key (f : α → Option γ) (l : List (α × β)) (k : α) :
    dget (l.filterMap fun kv => (f kv.1).map fun v => (kv.1, v)) k = match dget l k with
      | some _ => f k
      | none => none := by
  induction l with
  | nil => rfl
  | cons e r ih =>
    rw [List.filterMap_cons]
    by_cases hk : (e.1 == k) = true
    · obtain rfl : e.1 = k := by simpa using hk
      cases hf : f e.1 with
      | none => simp only [Option.map_none, ih, dget, BEq.rfl, if_true]; cases dget r e.1 <;> simp [hf]
      | some v => simp only [Option.map_some, dget, BEq.rfl, if_true]
    · cases f e.1 <;> simp only [Option.map_none, Option.map_some, dget, hk, Bool.false_eq_true, if_false, ih]

theorem dget_isSome_iff_mem_keys (d : List (α × β)) (k : α) :
    (dget d k).isSome = true ↔ k ∈ keys d := by
  induction d with
  | nil => simp [dget, keys]
  | cons e r ih =>
    rw [keys, List.map_cons, List.mem_cons, ← keys, ← ih, dget]
    by_cases h : e.1 == k
    · rw [if_pos h]
      exact ⟨fun _ => .inl (eq_of_beq h).symm, fun _ => rfl⟩
    · rw [if_neg h]
      exact ⟨.inr, fun h' => h'.resolve_left fun e' => h (e' ▸ BEq.rfl)⟩

theorem dget_eq_none_iff (d : List (α × β)) (k : α) : dget d k = none ↔ k ∉ keys d := by
  rw [← dget_isSome_iff_mem_keys, Option.not_isSome_iff_eq_none]

theorem dgetLast_eq_dget_of_nodup (n : List (α × β)) (hn : (keys n).Nodup) (k : α) :
    dgetLast n k = dget n k := by
  induction n with
  | nil => simp [dgetLast, dget]
  | cons e r ih =>
    obtain ⟨a, b⟩ := e
    simp only [keys, List.map_cons, List.nodup_cons] at hn
    simp only [dgetLast, dget, ih hn.2]
    by_cases h2 : (a == k) = true
    · obtain rfl : a = k := by simpa using h2
      simp [(dget_eq_none_iff r a).mpr hn.1]
    · simp only [h2]
      cases dget r k <;> simp

theorem mem_keys_dset {d : List (α × β)} {k x : α} {v : β} (h : x ∈ keys (dset d k v)) : x ∈ keys d ∨ x = k := by
  rw [← dget_isSome_iff_mem_keys] at h ⊢
  exact isSome_dget_dset h

theorem keys_dset_nodup (d : List (α × β)) (k : α) (v : β) (h : (keys d).Nodup) : (keys (dset d k v)).Nodup := by
  induction d with
  | nil => simp [dset, keys]
  | cons e r ih =>
    have ⟨h1, h2⟩ := List.nodup_cons.mp h
    unfold dset
    split
    · exact h
    · next hne =>
      refine List.nodup_cons.mpr ⟨fun hm => ?_, ih h2⟩
      rcases mem_keys_dset hm with hm | rfl
      · exact h1 hm
      · exact hne BEq.rfl

theorem keys_dupdate_nodup (d n : List (α × β)) (h : (keys d).Nodup) : (keys (dupdate d n)).Nodup := by
  unfold dupdate
  induction n generalizing d with
  | nil => exact h
  | cons e r ih => exact ih _ (keys_dset_nodup d e.1 e.2 h)

theorem dget_copy_dupdate (d n : List (α × β)) (k : α) :
    dget (dupdate [] (dupdate (dupdate [] d) n)) k = dget (dupdate (dupdate [] d) n) k := by
  rw [dget_copy]
  exact dgetLast_eq_dget_of_nodup _ (keys_dupdate_nodup _ _ (keys_dupdate_nodup [] d List.nodup_nil)) k

end St4sd.Assoc
