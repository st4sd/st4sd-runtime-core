import St4sd.Model.Repl
/-!
# C03, text level, aggregator: where the path after a matched reference ends

Lemmas about `Repl.aggScan` / `Repl.aggExpand` / `Repl.pathLen` (the single-pass substitution of the repaired
`compile_component_aggregate`): the path suffix `(?:/[\w.*+~@-]+)+` that follows a matched reference stops at the
first character that is neither `[\w.*+~@-]` nor `/`, and the text after it is scanned on its own.
-/
namespace St4sd.Repl
open St4sd.Str

/-- a file path as the aggregator's pattern `(?:/[\w.*+~@-]+)+` reads it: `/seg/seg…` -/
def pathOf (segs : List S) : S := segs.flatMap fun seg => '/' :: seg
/-- every segment is a non-empty run of `[\w.*+~@-]` -/
def goodSegs (segs : List S) : Prop := ∀ seg ∈ segs, seg ≠ [] ∧ seg.all isPathChar = true
/-- a character that ends a path: neither `[\w.*+~@-]` nor `/` -/
def endsPath (c : Char) : Bool := !isPathChar c && c != '/'
/-- the text that follows: nothing, or it starts with a character that ends a path and is not a comma -/
def plainTail (tail : S) : Prop := tail = [] ∨ ∃ c r, tail = c :: r ∧ endsPath c = true ∧ c ≠ ','

theorem pathOf_nil : pathOf [] = [] := rfl

theorem pathOf_cons (seg : S) (segs : List S) : pathOf (seg :: segs) = '/' :: (seg ++ pathOf segs) := by
  simp [pathOf]

theorem slash_not_pathChar : isPathChar '/' = false := by decide

theorem pathLen_nil (f : Nat) : pathLen f [] = 0 := by
  cases f <;> simp [pathLen]

theorem pathLen_slash (f : Nat) (rest : S) :
    pathLen (f + 1) ('/' :: rest) =
      if (rest.takeWhile isPathChar).isEmpty then 0
      else 1 + (rest.takeWhile isPathChar).length +
        pathLen f (rest.drop (rest.takeWhile isPathChar).length) := by
  simp [pathLen]

theorem pathLen_ne (f : Nat) (c : Char) (r : S) (hc : c ≠ '/') : pathLen f (c :: r) = 0 := by
  cases f with
  | zero => simp [pathLen]
  | succ f =>
    unfold pathLen
    split
    · rfl
    · rename_i h; simp_all
    · rfl

theorem pathLen_stops (segs : List S) (hs : goodSegs segs) (tail : S)
    (ht : tail = [] ∨ ∃ c r, tail = c :: r ∧ endsPath c = true) (f : Nat) (hf : segs.length ≤ f) :
    pathLen f (pathOf segs ++ tail) = (pathOf segs).length := by
  induction segs generalizing f with
  | nil =>
    rcases ht with rfl | ⟨c, r, rfl, hc⟩
    · exact pathLen_nil f
    · exact pathLen_ne f c r fun e => by simp [e, endsPath] at hc
  | cons seg segs ih =>
    obtain ⟨hne, hseg⟩ := hs seg (List.mem_cons_self ..)
    obtain ⟨f, rfl⟩ : ∃ f', f = f' + 1 := ⟨f - 1, by simp at hf; omega⟩
    -- the segment ends where it should: at the next `/`, or at the character that ends the path
    have hst : (pathOf segs ++ tail).takeWhile isPathChar = [] := by
      cases segs with
      | nil =>
        rcases ht with rfl | ⟨c, r, rfl, hc⟩
        · rfl
        · simp only [endsPath, Bool.and_eq_true, Bool.not_eq_true'] at hc
          simp [pathOf_nil, hc.1]
      | cons s ss => simp [pathOf_cons, slash_not_pathChar]
    rw [pathOf_cons, List.cons_append, List.append_assoc, pathLen_slash,
      List.takeWhile_append_of_pos (List.all_eq_true.mp hseg), hst, List.append_nil, List.drop_left,
      if_neg (by simpa using hne), ih (fun s h => hs s (List.mem_cons_of_mem _ h)) f (by simpa using hf)]
    simp only [List.length_cons, List.length_append]
    omega

theorem pathOf_length_ge (segs : List S) : segs.length ≤ (pathOf segs).length := by
  induction segs with
  | nil => simp [pathOf_nil]
  | cons s ss ih => simp [pathOf_cons]; omega

/-- the fuel `aggExpand` gives `pathLen` (the length of the text) is enough: a segment takes at least one character -/
theorem pathLen_full (segs : List S) (hs : goodSegs segs) (tail : S)
    (ht : tail = [] ∨ ∃ c r, tail = c :: r ∧ endsPath c = true) :
    pathLen (pathOf segs ++ tail).length (pathOf segs ++ tail) = (pathOf segs).length :=
  pathLen_stops segs hs tail ht _ (by
    have := pathOf_length_ge segs
    simp only [List.length_append]; omega)

theorem map_append_nil (reps : List S) : reps.map (· ++ ([] : S)) = reps := by simp

theorem aggExpand_stops (reps : List S) (segs : List S) (hs : goodSegs segs) (tail : S) (ht : plainTail tail) :
    aggExpand reps (pathOf segs ++ tail) = (join [' '] (reps.map (· ++ pathOf segs)), (pathOf segs).length) := by
  have hpl := pathLen_full segs hs tail (ht.imp id fun ⟨c, r, h1, h2, _⟩ => ⟨c, r, h1, h2⟩)
  have hcom : (tail.takeWhile (· == ',')).isEmpty = true := by
    rcases ht with rfl | ⟨c, r, rfl, _, hc⟩
    · rfl
    · simp [hc]
  unfold aggExpand
  simp only [hpl]
  cases segs with
  | nil => simp [pathOf_nil]
  | cons s ss =>
    have hpos : ((pathOf (s :: ss)).length == 0) = false := by simp [pathOf_cons]
    simp only [hpos, Bool.false_eq_true, if_false, List.take_left, List.drop_left, hcom, if_true]

theorem getLast?_cons_match (c : Char) (l : S) :
    (c :: l).getLast? = (match l.getLast? with | some d => some d | none => some c) := by
  rw [List.getLast?_cons]
  cases l.getLast? <;> rfl

theorem aggScan_skip (keys : List (S × List S)) (xs ys : S) (prev : Option Char) :
    aggScan keys xs.length prev (xs ++ ys) =
      aggScan keys 0 (match xs.getLast? with | some c => some c | none => prev) ys := by
  induction xs generalizing prev with
  | nil => simp
  | cons x xs ih =>
    simp only [List.length_cons, List.cons_append, aggScan]
    rw [ih (some x), getLast?_cons_match]
    cases xs.getLast? <;> rfl

/-- HEADLINE: a matched reference followed by a path and then by other text (shell punctuation such as `)` `;`
`|` `>`): the replacement is the copies with exactly that path, and the text after the path is scanned on its
own: it is neither swallowed into the path nor repeated after every copy. -/
theorem aggScan_reference_then_text (keys : List (S × List S)) (prev : Option Char) (k : S) (reps : List S)
    (segs : List S) (tail : S) (hk : k ≠ []) (hl : leftOk prev = true)
    (hm : firstMatchAgg keys (k ++ pathOf segs ++ tail) = some (k, reps))
    (hs : goodSegs segs) (ht : plainTail tail) :
    aggScan keys 0 prev (k ++ pathOf segs ++ tail) =
      join [' '] (reps.map (· ++ pathOf segs)) ++ aggScan keys 0 ((k ++ pathOf segs).getLast?) tail := by
  cases k with
  | nil => exact absurd rfl hk
  | cons c k' =>
    simp only [List.cons_append] at hm ⊢
    simp only [aggScan, hl, if_true, hm]
    have hd : (c :: (k' ++ pathOf segs ++ tail)).drop (c :: k').length = pathOf segs ++ tail := by
      simp [List.append_assoc]
    rw [hd, aggExpand_stops reps segs hs tail ht]
    have hlen : (c :: k').length + (pathOf segs).length - 1 = (k' ++ pathOf segs).length := by
      simp only [List.length_cons, List.length_append]; omega
    simp only [hlen]
    rw [aggScan_skip keys (k' ++ pathOf segs) tail (some c), getLast?_cons_match]

/-- non-vacuity: `$(cat A:ref/out/e.csv); sort` -/
example :
    aggScan [("A:ref".toList, ["stage0.A0:ref".toList, "stage0.A1:ref".toList])] 0 none
      "$(cat A:ref/out/e.csv); sort".toList =
      "$(cat stage0.A0:ref/out/e.csv stage0.A1:ref/out/e.csv); sort".toList := by
  simp -index only [String.toList_ofList]
  decide +kernel

end St4sd.Repl
