import St4sd.Model.ArgSubstHistory
/-!
Lemmas for C10 about histories of one live component (`St4sd.ArgSubst.resolveRounds`): what a file holds after a
batch of operations is decided by the LAST operation naming it - whatever modification times and lengths were
involved -, and resolving the arguments looks at nothing but the contents the files hold at that moment.
-/
namespace St4sd.C10History
open St4sd.Str St4sd.ArgSubst

theorem stat_filter (fs : FS) (q p : S) :
    FS.stat (fs.filter fun e => !(e.1 = q)) p = if q = p then none else FS.stat fs p := by
  induction fs with
  | nil => simp [FS.stat]
  | cons e fs ih =>
    obtain ⟨k, r⟩ := e
    by_cases hk : k = q
    · subst hk
      by_cases hp : k = p
      · subst hp
        simpa [List.filter] using ih
      · simpa [List.filter, FS.stat, hp] using ih
    · by_cases hq : q = p
      · subst hq
        simp [List.filter, hk, FS.stat, ih]
      · simp [List.filter, hk, FS.stat, ih, hq]

theorem read_write_same (fs : FS) (p : S) (t : Nat) (c : S) :
    FS.read (FS.apply fs (.write p t c)) p = some c := by
  simp [FS.read, FS.apply, FS.stat]

theorem read_write_other (fs : FS) (q p : S) (t : Nat) (c : S) (h : q ≠ p) :
    FS.read (FS.apply fs (.write q t c)) p = FS.read fs p := by
  simp [FS.read, FS.apply, FS.stat, h]

theorem read_remove_same (fs : FS) (p : S) : FS.read (FS.apply fs (.remove p)) p = none := by
  simp [FS.read, FS.apply, stat_filter]

theorem read_remove_other (fs : FS) (q p : S) (h : q ≠ p) :
    FS.read (FS.apply fs (.remove q)) p = FS.read fs p := by
  simp [FS.read, FS.apply, stat_filter, h]

theorem psource_at_congr (fs fs' : FS) (h : ∀ p, FS.read fs p = FS.read fs' p) (s : PSource) :
    s.at fs = s.at fs' := by
  cases s with
  | fixed s => rfl
  | fileAt p => simp [PSource.at, h]
  | filesAt ps =>
    simp only [PSource.at]
    congr 1
    exact List.map_congr_left fun p _ => h p
  | instFilesAt l =>
    simp only [PSource.at]
    congr 1
    exact List.map_congr_left fun x _ => by rw [h]

/-- give every file another modification time -/
def retime (f : S → Nat → Nat) : FS → FS
  | [] => []
  | (p, r) :: fs => (p, { r with mtime := f p r.mtime }) :: retime f fs

theorem read_retime (f : S → Nat → Nat) (fs : FS) (p : S) : FS.read (retime f fs) p = FS.read fs p := by
  induction fs with
  | nil => rfl
  | cons e fs ih =>
    obtain ⟨k, r⟩ := e
    by_cases hk : k = p
    · simp [retime, FS.read, FS.stat, hk]
    · simp only [FS.read] at ih
      simp [retime, FS.read, FS.stat, hk, ih]

/-- the file systems a history goes through -/
def states (fs : FS) : List (List FsOp) → List FS
  | [] => [fs]
  | ops :: rounds => fs :: states (FS.applyAll fs ops) rounds

end St4sd.C10History
