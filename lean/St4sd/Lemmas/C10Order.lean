import St4sd.Lemmas.C10Spell
/-!
# C10 — lemmas about the order of the loop instances of a placeholder (`looped_reference_to_paths`)

`iterOfId` reads the iteration number back from an instance id; `insertInst`, the step of the stable sort
`orderInstances` on it, keeps the elements and keeps a sorted list sorted.
-/
namespace St4sd.C10.Order
open St4sd.Str St4sd.ArgSubst St4sd.C10.Spell

/-- `int(id.split('.', 1)[1].split('#', 1)[0])` of the id of instance `i` is `i` (for every `i`: `int(str(i)) = i`) -/
theorem iterOfId_instId (s i : Nat) (name : S) : iterOfId (instId s i name) = i := by
  have h1 : splitFirst '.' (instId s i name) = some ("stage".toList ++ natToDigits s, natToDigits i ++ '#' :: name) := by
    have : instId s i name = ("stage".toList ++ natToDigits s) ++ '.' :: (natToDigits i ++ '#' :: name) := by
      simp [instId, stageText]
    rw [this]
    exact splitFirst_append '.' _ _ (dot_not_mem_stage s)
  have h2 : splitFirst '#' (natToDigits i ++ '#' :: name) = some (natToDigits i, name) :=
    splitFirst_append '#' _ _ (not_mem_digits (by decide) i)
  simp [iterOfId, h1, h2, Str.digitsToNat_natToDigits]

abbrev LeIter {α : Type} (a b : S × α) : Prop := iterOfId a.1 ≤ iterOfId b.1

theorem insertInst_perm {α : Type} (a : S × α) : ∀ l : List (S × α), (insertInst a l).Perm (a :: l) := by
  intro l
  induction l with
  | nil => simp [insertInst]
  | cons b l ih =>
    simp only [insertInst]
    by_cases h : iterOfId b.1 < iterOfId a.1
    · simp only [h, if_true]
      exact (List.Perm.cons b ih).trans (List.Perm.swap a b l)
    · simp only [h, if_false]
      exact List.Perm.refl _

theorem insertInst_sorted {α : Type} (a : S × α) : ∀ l : List (S × α), l.Pairwise LeIter →
    (insertInst a l).Pairwise LeIter := by
  intro l
  induction l with
  | nil => intro _; simp [insertInst]
  | cons b l ih =>
    intro h
    rw [List.pairwise_cons] at h
    simp only [insertInst]
    by_cases hlt : iterOfId b.1 < iterOfId a.1
    · simp only [hlt, if_true]
      refine List.pairwise_cons.mpr ⟨?_, ih h.2⟩
      intro x hx
      rcases List.mem_cons.mp ((insertInst_perm a l).subset hx) with e | e
      · subst e; exact Nat.le_of_lt hlt
      · exact h.1 x e
    · simp only [hlt, if_false]
      have hge : iterOfId a.1 ≤ iterOfId b.1 := Nat.le_of_not_lt hlt
      refine List.pairwise_cons.mpr ⟨?_, List.pairwise_cons.mpr h⟩
      intro x hx
      rcases List.mem_cons.mp hx with e | e
      · subst e; exact hge
      · exact Nat.le_trans hge (h.1 x e)

end St4sd.C10.Order
