import St4sd.Model.RepeatSub
import St4sd.Lemmas.C13
/-! The producers-finished subscription (`Model/RepeatSub.lean`): its state is a function of the references, of who
finished and of who is staged in (`SubInv`); composed with the poll protocol, the engine's `prodDone` is the
subscription's `notified` (`crun_prodDone`). -/
namespace St4sd.RepeatSub
open St4sd.Repeat

/-- the subscription state is determined by the references, the finished set and `stagedIn` -/
def SubInv (refs : List Pid) (s : Sub) : Prop :=
  s.refs = refs ∧ s.waiting = (if s.stagedIn then refs.filter (fun p => !s.finished.contains p) else []) ∧
  s.notified = (s.stagedIn && s.waiting.isEmpty) ∧ s.count = b2n s.notified

private theorem filter_step (refs fin : List Pid) (p : Pid) :
    (refs.filter (fun q => !fin.contains q)).filter (fun q => q != p) =
      refs.filter (fun q => !(p :: fin).contains q) := by
  rw [List.filter_filter]
  apply List.filter_congr
  intro q _
  simp only [List.contains_cons]
  cases h1 : (q == p) <;> cases h2 : fin.contains q <;> simp_all [bne]

private theorem b2n_false : b2n false = 0 := rfl

theorem subInv_step (refs : List Pid) (s : Sub) (o : SubOp) (h : SubInv refs s) :
    SubInv refs (subStep s o) := by
  obtain ⟨srefs, fin, staged, waiting, notified, count⟩ := s
  simp only [SubInv] at h
  obtain ⟨rfl, rfl, rfl, rfl⟩ := h
  cases o with
  | pexit p => simp [SubInv, subStep, fires, b2n]
  | stageIn => cases staged <;> simp [SubInv, subStep, fires, b2n]
  | pfin p =>
    by_cases hm : p ∈ fin
    · cases staged <;> simp [SubInv, subStep, fires, hm, b2n]
    · cases staged
      · simp [SubInv, subStep, fires, hm, b2n]
      · -- the one case in which something happens: `p` leaves the waiting list; the notification is due iff that
        -- empties a list that was not empty
        have hc : fin.contains p = false := by simpa using hm
        simp only [SubInv, subStep, fires, hc, Bool.false_eq_true, ↓reduceIte, Bool.not_false, Bool.true_and]
        refine ⟨trivial, filter_step .., ?_⟩
        generalize srefs.filter _ = W
        cases W <;> simp [b2n]

theorem subInv_all (refs : List Pid) (h : List SubOp) : SubInv refs (subExec refs h) := by
  suffices ∀ s, SubInv refs s → SubInv refs (subRun s h) from this _ (by simp [SubInv, Sub.init, b2n])
  induction h with
  | nil => exact fun s hs => hs
  | cons o os ih => exact fun s hs => ih _ (subInv_step refs s o hs)

theorem finished_iff (p : Pid) : ∀ (h : List SubOp) (s : Sub),
    p ∈ (subRun s h).finished ↔ p ∈ s.finished ∨ SubOp.pfin p ∈ h
  | [], s => by simp [subRun]
  | o :: os, s => by
    rw [subRun, finished_iff p os]
    cases o <;> grind [subStep]

theorem stagedIn_iff : ∀ (h : List SubOp) (s : Sub),
    (subRun s h).stagedIn = true ↔ s.stagedIn = true ∨ SubOp.stageIn ∈ h
  | [], s => by simp [subRun]
  | o :: os, s => by
    rw [subRun, stagedIn_iff os]
    cases o <;> grind [subStep]

/-! composition -/

theorem crun_sub (cfg : Cfg) : ∀ (h : List COp) (c : CSt), (crun cfg c h).sub = subRun c.sub (subOps h)
  | [], _ => rfl
  | op :: ops, c => by
    rw [crun, crun_sub cfg ops]
    rcases op with (o | e) | o <;> rfl

theorem crun_eng (cfg : Cfg) : ∀ (h : List COp) (c : CSt), (crun cfg c h).eng = run cfg c.eng (project c.sub h)
  | [], _ => rfl
  | op :: ops, c => by
    rw [crun, crun_eng cfg ops]
    rcases op with (o | e) | o
    · simp only [cstep, project]
      split <;> rfl
    · rfl
    · rfl

theorem subStep_notified (s : Sub) (o : SubOp) : (subStep s o).notified = (s.notified || fires s o) := by
  cases o <;> simp only [subStep] <;> split <;> rfl

/-- nobody but the subscription calls `notify_all_producers_finished`: the engine's producers-finished flag is the
subscription's `notified` -/
theorem crun_prodDone (cfg : Cfg) : ∀ (h : List COp) (c : CSt), c.eng.prodDone = c.sub.notified →
    (crun cfg c h).eng.prodDone = (crun cfg c h).sub.notified
  | [], _, hc => hc
  | op :: ops, c, hc => by
    refine crun_prodDone cfg ops _ ?_
    rcases op with (o | e) | o
    · simp only [cstep, subStep_notified]
      split <;> simp [(step_trans ..).prodDone, *]
    · cases e <;> simpa [cstep, (step_trans ..).prodDone, XEv.toEv] using hc
    · simpa [cstep, (step_trans ..).prodDone] using hc

end St4sd.RepeatSub
