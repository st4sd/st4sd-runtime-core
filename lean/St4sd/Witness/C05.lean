import St4sd.Props.C05
/-!
Witnesses for C05: the code before the repairs (`num = false`: `_discover_dowhile_placeholders`, `looped_reference_to_paths`
and `map_placeholder_id_to_iteration` sort the iteration numbers as *strings*; `rewrite_all_references` substitutes
each distinct reference once, one after the other; `compute_dowhile_state` matches the condition instances on the
name only) violates the property.  Same inputs as the harness corpus
(`MINIMAL` in `harness/c05.py`, k = 10).
-/
namespace St4sd.C05.Witness
open St4sd.Str St4sd.Loop St4sd.C05

/-- Python: `'10' < '9'` -/
theorem ten_before_nine : lexLt "10".toList "9".toList = true := by decide

/-- After 10 further iterations the string-keyed `latest` of placeholder `stage1.x` is still instance 9 … -/
theorem old_latest_is_nine_at_k10 :
    resolveProducer false exDoc (run exDoc exOut 10).comps (1, "x".toList) = some (1, instName 9 "x".toList) ∧
    resolveProducer false exDoc (run exDoc exOut 10).comps (1, "x".toList) ≠ some (1, instName 10 "x".toList) := by
  decide +kernel

/-- … while the loop's current condition is produced by iteration 10 (this one is sorted with `int`) … -/
theorem condition_is_ten_at_k10 :
    currentCondition exDoc (run exDoc exOut 10).comps = some ((1, instName 10 "stop".toList), []) := by
  decide +kernel

/-- … and an aggregate reference lists the instances in the order 0, 1, 10, 2, …, 9. -/
theorem old_loopref_order_at_k10 :
    (loopRefOrder false exDoc (run exDoc exOut 10).comps (1, "x".toList)).map (fun x => iterNum x.2) =
      [0, 1, 10, 2, 3, 4, 5, 6, 7, 8, 9] := by
  decide +kernel

/-- `map_placeholder_id_to_iteration` has the same string key -/
theorem old_map_placeholder_at_k10 :
    mapPlaceholderLatest false (run exDoc exOut 10).comps (1, "x".toList) = some (1, instName 9 "x".toList) := by
  decide +kernel

/-- up to `k = 9` the string order and the numeric order agree on this input -/
theorem old_agrees_up_to_nine :
    resolveProducer false exDoc (run exDoc exOut 9).comps (1, "x".toList) = some (1, instName 9 "x".toList) ∧
    (loopRefOrder false exDoc (run exDoc exOut 9).comps (1, "x".toList)).map (fun x => iterNum x.2) =
      [0, 1, 2, 3, 4, 5, 6, 7, 8, 9] := by
  decide +kernel

/-- Sequential first-occurrence substitution: a command line that uses the loop-carried input `in0` twice keeps the
second occurrence unrewritten in iteration 1 (the single-pass rewriting gives instance 0 of `x` twice). -/
theorem old_args_second_occurrence_not_rewritten :
    let in0 : Ref := ⟨false, none, "in0".toList, [], "output".toList⟩
    let known := ids (run exDoc exOut 0).comps
    rewriteArgsOld exDoc known 1 0 [in0, in0] = [⟨false, some 1, instName 0 "x".toList, [], "output".toList⟩, in0] ∧
    [in0, in0].map (rewriteRef exDoc known 1 0) =
      [⟨false, some 1, instName 0 "x".toList, [], "output".toList⟩, ⟨false, some 1, instName 0 "x".toList, [], "output".toList⟩] := by
  decide +kernel

/-- a loop whose condition `stage1.stop` has a namesake `stage0.stop` (template stages), imported at stage 1 -/
def twoStops : Doc :=
  { comps := [{ stage := 0, name := "stop".toList, refs := [⟨false, none, "in0".toList, [], "output".toList⟩] },
              { stage := 1, name := "stop".toList, refs := [⟨false, some 0, "stop".toList, [], "output".toList⟩] }],
    bindings := [("in0".toList, ⟨false, some 0, "src0".toList, [], "output".toList⟩)],
    loopBindings := [], condStage := 1, condName := "stop".toList, condFile := [], importStage := 1 }

/-- Matching the condition instances on the name only lets the namesake of stage 1 (template stage 0) be taken for
the condition of stage 2 (which of the two Python picks depends on the iteration order of a set; in list order it is
the namesake); matching the stage as well gives the condition. -/
theorem old_condition_takes_namesake :
    latestCondOld twoStops (run twoStops [{ stage := 0, name := "src0".toList, refs := [] }] 2).comps
      = some (1, instName 2 "stop".toList) ∧
    latestCond twoStops (run twoStops [{ stage := 0, name := "src0".toList, refs := [] }] 2).comps
      = some (2, instName 2 "stop".toList) := by
  decide +kernel

end St4sd.C05.Witness
