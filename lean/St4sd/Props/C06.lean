import St4sd.Lemmas.C06
/-!
# C06 — DSL 2.0 compilation preserves the dataflow and parameter bindings

Theorems about the model `St4sd.Dsl`: the operational flattener `visit`/`flattenOp` against the denotational
`specVisit`/`flattenSpec`, what `digest` leaves of parameter and output references, the repaired naming
`assignNames` and producer lookup `split`, the located errors of invalid namespaces, non-string parameter values,
replication with and without the memo dictionaries, user variables, and the `environments` table.
-/
namespace St4sd.C06
open St4sd.Dsl St4sd.Str

/-- The walk never runs out of fuel when the fuel exceeds the number of templates that are not yet on the
scope stack: every nesting step removes one template name from `avail` (cyclic template use is reported as an
error by `checkExec` instead of being followed) — for every namespace, location, template and environment. -/
theorem visit_terminates (ns : Namespace) : ∀ (fuel : Nat) (avail : List Name) (loc : Loc) (t : Template) (env : Env)
    (dsl : ErrLoc), avail.length < fuel → (visit ns fuel avail loc t env dsl).fuelOut = false := by
  intro fuel
  induction fuel with
  | zero => intro avail loc t env dsl h; exact absurd h (Nat.not_lt_zero _)
  | succ f ih =>
    intro avail loc t env dsl h
    cases hb : t.body with
    | component a e r g => rw [visit, hb]
    | workflow steps execute =>
      rw [visit_workflow ns f avail loc env dsl hb]
      refine concat_fuelOut _ fun a ha => ?_
      obtain ⟨c, hc, rfl⟩ := List.mem_map.mp ha
      have hmem := childrenOf_avail ns avail t steps execute 0 c ((visitOrder_perm _).mem_iff.mp hc)
      refine ih _ _ _ _ _ ?_
      rw [List.length_erase_of_mem hmem]
      exact Nat.sub_one_lt_of_le (List.length_pos_of_mem hmem) (Nat.lt_succ_iff.mp h)

/-- `flatten_terminates`: with fuel = number of templates the compilation of *every* namespace terminates
without exhausting the fuel (the entry template is found, hence its name is removed from `avail`). -/
theorem flatten_terminates (ns : Namespace) (t : Template) (h : ns.find ns.entry = some t) :
    (rootVisit ns t).fuelOut = false := by
  unfold rootVisit
  apply visit_terminates
  have hm : t ∈ ns.templates := List.mem_of_find?_eq_some h
  have hn : t.name ∈ ns.templates.map (·.name) := List.mem_map.mpr ⟨t, hm, rfl⟩
  rw [List.length_erase_of_mem hn, List.length_map]
  exact Nat.sub_one_lt (Nat.ne_of_gt (List.length_pos_of_mem hm))

/-! ### parameter propagation: eager substitution level by level = lazy lookup along the call chain -/

/-- One level of nesting composes: looking a parameter up in the materialised environment of a child scope is
the same as resolving the argument written by the caller (or the default) against the caller's environment. -/
theorem childEnv_lookup (loc : Loc) (env : Env) (c : Child) (p : Name) :
    (childEnv loc env c).lookup p = (c.raw.lookup p).map (resolve loc (fun q => env.lookup q)) := by
  unfold childEnv
  exact lookup_map_snd c.raw _ p

/-- Looking a parameter up in the materialised parameters of the innermost frame is the lazy lookup along the call
chain — for every chain and parameter. -/
theorem chainEnv_lookup (chain : List Frame) (p : Name) : (chainEnv chain).lookup p = valueOf chain p := by
  cases chain with
  | nil => rfl
  | cons f up =>
    simp only [chainEnv, valueOf]
    exact lookup_map_snd f.raw _ p

/-- `flattenOp_eq_flattenSpec` at the level of the walk: for every fuel, scope stack, location, template and
every environment that is the one of the call chain, the component instances produced by the code's walk
(components first in reverse order, then workflows; parameters substituted level by level) are a permutation
of the instances of the denotational specification (paths in `execute` order; parameter values looked up
along the call chain), with identical locations, identical resolved arguments, identical environment value and
identical values of ALL parameters (also of those that the component never interpolates into its arguments). -/
theorem visit_perm_specVisit (ns : Namespace) : ∀ (fuel : Nat) (avail : List Name) (loc : Loc) (t : Template)
    (env : Env) (chain : List Frame) (dsl : ErrLoc), env = chainEnv chain →
    ((visit ns fuel avail loc t env dsl).insts.map Inst.toSpec).Perm (specVisit ns fuel avail loc t chain) := by
  intro fuel
  induction fuel with
  | zero => intro avail loc t env chain dsl h; exact List.Perm.refl _
  | succ f ih =>
    intro avail loc t env chain dsl h
    subst h
    have hf : (fun p => (chainEnv chain).lookup p) = valueOf chain := funext (chainEnv_lookup chain)
    cases hb : t.body with
    | component a e r g =>
      rw [visit, specVisit, hb]
      simp only [List.map_cons, List.map_nil, Inst.toSpec, hf]
      exact List.Perm.refl _
    | workflow steps execute =>
      rw [visit_workflow ns f avail loc _ dsl hb, specVisit, hb]
      show (([] ++ (Acc.concat _).insts).map Inst.toSpec).Perm _
      rw [List.nil_append, concat_insts, List.flatMap_map, List.map_flatMap]
      refine (List.Perm.flatMap_right _ (visitOrder_perm _)).trans
        (flatMap_perm_pointwise _ _ _ fun c _ => ih _ _ _ _ _ _ ?_)
      show c.raw.map (fun a => (a.1, resolve loc (fun p => (chainEnv chain).lookup p) a.2)) = _
      rw [hf]
      rfl

/-- `flattenOp_eq_flattenSpec`: for every namespace whose entry template exists, the instances (location and
fully substituted arguments) computed by the operational flattener are a permutation of the denotational ones. -/
theorem flattenOp_eq_flattenSpec (ns : Namespace) (t : Template) (h : ns.find ns.entry = some t) :
    ((rootVisit ns t).insts.map Inst.toSpec).Perm (flattenSpec ns) := by
  unfold rootVisit flattenSpec
  rw [h]
  apply visit_perm_specVisit
  have hv : (valueOf []) = fun _ => none := funext fun _ => rfl
  simp only [chainEnv, hv]

/-! ### no parameter reference is left -/

/-- what is embedded for a value has the parameter references of the value (a number becomes literal text) -/
theorem embed_paramRefs (w x : Val) (h : embed w = some x) : paramRefs x = paramRefs w := by
  unfold embed at h
  split at h
  · cases h
  · cases h; rfl
  · cases h; rfl

/-- Substitution inside a string removes every parameter reference when each referenced parameter has a value
that can be embedded (text or a number, not a dictionary) and the values themselves are free of parameter
references (which is what the resolved parent scope provides). -/
theorem substT_no_parameter_left (look : Name → Option Val) (v : Val)
    (hcov : ∀ p ∈ paramRefs v, ∃ w x, look p = some w ∧ embed w = some x ∧ paramRefs w = []) :
    paramRefs (substT look v) = [] := by
  rw [paramRefs_substT]
  refine List.flatMap_eq_nil_iff.mpr fun p hp => ?_
  obtain ⟨w, x, hw, hx, hfree⟩ := hcov p hp
  rw [keptRefs, hw, Option.bind_some, hx]
  exact (embed_paramRefs w x hx).trans hfree

/-- `%(p)s` as the whole value forwards the value of `p` unchanged, with its type (dictionary, number, text). -/
theorem substV_whole_forwards_value (look : Name → Option Val) (p : Name) (w : Val) (h : look p = some w) :
    substV look [.par p] = w := by
  rw [substV, h]
  rfl

/-- `substV` (whole-value forwarding, or embedding into a string) leaves no parameter reference when every
referenced parameter has a reference-free value which — unless it is forwarded as the whole value — can be
embedded (is not a dictionary). -/
theorem substV_no_parameter_left (look : Name → Option Val) (v : Val)
    (hcov : ∀ p ∈ paramRefs v, ∃ w, look p = some w ∧ paramRefs w = [] ∧
      (isWholePar v = true ∨ ∃ x, embed w = some x)) : paramRefs (substV look v) = [] := by
  cases hw : isWholePar v with
  | true =>
    obtain ⟨p, rfl⟩ := isWholePar_eq_true hw
    obtain ⟨w, hl, hfree, _⟩ := hcov p List.mem_cons_self
    rw [substV_whole_forwards_value look p w hl]
    exact hfree
  | false =>
    rw [substV_of_not_whole look v hw]
    refine substT_no_parameter_left look v fun p hp => ?_
    obtain ⟨w, hl, hfree, hor⟩ := hcov p hp
    rcases hor with h | ⟨x, hx⟩
    · rw [hw] at h; cases h
    · exact ⟨w, x, hl, hx, hfree⟩

theorem strayPar_false (v : Val) : strayPar false v = hasPar v := by
  unfold strayPar hasPar
  cases paramRefs v <;> rfl

/-- what `strayPar` not flagging means: every parameter reference that is left is `%(replica)s` of a replica -/
theorem strayPar_eq_false (rep : Bool) (v : Val) (h : strayPar rep v = false) :
    ∀ p ∈ paramRefs v, rep = true ∧ p = replicaName := by
  intro p hp
  have := List.any_eq_false.mp h p hp
  simpa using this

/-- all complete references of a component instance: of the parameter values, then of the resolved arguments -/
def allRefs (rep : Bool) (i : Inst) : List (Loc × S) :=
  ((i.params.flatMap fun a => fullRefs a.2) ++
    fullRefs (merge (substV (maskReplica rep fun p => i.params.lookup p) i.arguments))).eraseDups

theorem digest_ok {names : List (Loc × FName)} {rep : Bool} {i : Inst} {c : Comp} (h : digest names rep i = .ok c) :
    strayPar rep (merge (substV (maskReplica rep fun p => i.params.lookup p) i.arguments)) = false ∧
    (allRefs rep i).all (fun r => (split (names.map (·.1)) r.1).isSome) = true ∧
    c = { loc := i.loc, stage := ((names.lookup i.loc).getD (0, [])).1, name := ((names.lookup i.loc).getD (0, [])).2,
          args := (merge (substV (maskReplica rep fun p => i.params.lookup p) i.arguments)).flatMap (convTok names),
          refs := (allRefs rep i).flatMap (fun r => convTok names (.ref r.1 (some r.2))),
          producers := ((allRefs rep i).filterMap (fun r => (split (names.map (·.1)) r.1).map (·.1))).eraseDups,
          env := (envOf i.params i.envParam).getD .unset, replica := rep } := by
  cases hp : strayPar rep (merge (substV (maskReplica rep fun p => i.params.lookup p) i.arguments)) with
  | true =>
    obtain ⟨es, he, _⟩ := digest_stray names rep i hp
    rw [h] at he
    cases he
  | false =>
    unfold digest at h
    simp only [hp, Bool.false_eq_true, if_false, List.nil_append] at h
    obtain ⟨he, hc⟩ := of_ite_eq_pos (of_ite_eq_neg h nofun).2 nofun
    split at he
    · next hall => exact ⟨rfl, (Bool.and_eq_true_iff.mp hall).2, (Except.ok.inj hc).symm⟩
    · cases he

/-- `no_parameter_left`: a component that `digest` accepts has arguments in which the only parameter references
left are `%(replica)s` of a replica (none at all for a component that is not a replica), and they are the template's
arguments with the instance's parameter values substituted. -/
theorem no_parameter_left (names : List (Loc × FName)) (rep : Bool) (i : Inst) (c : Comp) (h : digest names rep i = .ok c) :
    (∀ p ∈ paramRefs (merge (substV (maskReplica rep fun p => i.params.lookup p) i.arguments)),
      rep = true ∧ p = replicaName) ∧
    c.args = (merge (substV (maskReplica rep fun p => i.params.lookup p) i.arguments)).flatMap (convTok names) ∧
    c.loc = i.loc ∧ c.replica = rep := by
  obtain ⟨hp, _, rfl⟩ := digest_ok h
  exact ⟨strayPar_eq_false rep _ hp, rfl, rfl, rfl⟩

/-- … in particular a component that is not a replica keeps no parameter reference at all -/
theorem no_parameter_left_not_replica (names : List (Loc × FName)) (i : Inst) (c : Comp)
    (h : digest names false i = .ok c) :
    hasPar (merge (substV (fun p => i.params.lookup p) i.arguments)) = false := by
  rw [← strayPar_false]
  exact (digest_ok h).1

/-! ### references that reach a component only through its parameters -/

theorem digest_ok_shape (names : List (Loc × FName)) (rep : Bool) (i : Inst) (c : Comp)
    (h : digest names rep i = .ok c) :
    (allRefs rep i).all (fun r => (split (names.map (·.1)) r.1).isSome) = true ∧
    c.refs = (allRefs rep i).flatMap (fun r => convTok names (.ref r.1 (some r.2))) ∧
    c.producers = ((allRefs rep i).filterMap (fun r => (split (names.map (·.1)) r.1).map (·.1))).eraseDups := by
  obtain ⟨_, hall, rfl⟩ := digest_ok h
  exact ⟨hall, rfl, rfl⟩

/-- A complete output reference that reaches a component as (part of) the value of one of its parameters is a
reference of the compiled component and its producer is one of the component's producers — whether or not the
parameter is interpolated into `command.arguments` (the idiom `param: <producer>/file:copy` for staging a file) —
for every naming table, instance and accepted component. -/
theorem parameter_reference_kept (names : List (Loc × FName)) (rep : Bool) (i : Inst) (c : Comp)
    (h : digest names rep i = .ok c) (a : Name × Val) (ha : a ∈ i.params) (l : Loc) (m : S)
    (hr : (l, m) ∈ fullRefs a.2) :
    ∃ pr f, split (names.map (·.1)) l = some (pr, f) ∧ pr ∈ c.producers ∧
      OTok.dref ((names.lookup pr).getD (0, [])).1 ((names.lookup pr).getD (0, [])).2 f m ∈ c.refs := by
  obtain ⟨hall, hrefs, hprod⟩ := digest_ok_shape names rep i c h
  have hmem : (l, m) ∈ allRefs rep i := by
    unfold allRefs
    rw [List.mem_eraseDups]
    exact List.mem_append_left _ (List.mem_flatMap.mpr ⟨a, ha, hr⟩)
  have hs := (List.all_eq_true.mp hall) (l, m) hmem
  cases hsp : split (names.map (·.1)) l with
  | none => rw [hsp] at hs; cases hs
  | some pf =>
    obtain ⟨pr, f⟩ := pf
    refine ⟨pr, f, rfl, ?_, ?_⟩
    · rw [hprod, List.mem_eraseDups]
      exact List.mem_filterMap.mpr ⟨(l, m), hmem, by rw [hsp]; rfl⟩
    · rw [hrefs]
      exact List.mem_flatMap.mpr ⟨(l, m), hmem, by simp only [convTok, hsp, List.mem_singleton]⟩

/-- … and likewise for the complete references of the resolved arguments: nothing else is a reference -/
theorem references_are_parameter_or_argument_references (names : List (Loc × FName)) (rep : Bool) (i : Inst) (c : Comp)
    (h : digest names rep i = .ok c) (x : OTok) (hx : x ∈ c.refs) :
    ∃ l m, ((∃ a ∈ i.params, (l, m) ∈ fullRefs a.2) ∨
        (l, m) ∈ fullRefs (merge (substV (maskReplica rep fun p => i.params.lookup p) i.arguments))) ∧
      x ∈ convTok names (.ref l (some m)) := by
  obtain ⟨_, hrefs, _⟩ := digest_ok_shape names rep i c h
  rw [hrefs] at hx
  obtain ⟨r, hr, hxr⟩ := List.mem_flatMap.mp hx
  unfold allRefs at hr
  rw [List.mem_eraseDups, List.mem_append] at hr
  refine ⟨r.1, r.2, ?_, hxr⟩
  cases hr with
  | inl hl =>
    obtain ⟨a, ha, hra⟩ := List.mem_flatMap.mp hl
    exact Or.inl ⟨a, ha, hra⟩
  | inr hr' => exact Or.inr hr'

/-! ### naming -/

private theorem pickName_fresh (used : List FName) (s : Name) : ∀ (fuel k : Nat) (n : FName),
    pickName used s fuel k = some n → n ∉ used ∧ ∃ j, parseName (cand s j) = some n := by
  intro fuel
  induction fuel with
  | zero => intro k n h; simp [pickName] at h
  | succ f ih =>
    intro k n h
    unfold pickName at h
    split at h
    · cases h
    · rename_i fn hfn
      split at h
      · exact ih _ _ h
      · rename_i hc
        cases h
        exact ⟨by simpa using hc, k, hfn⟩

/-- `names_unique` (repaired naming): whenever names are assigned, the `(stage, name)` pairs are pairwise distinct,
none of them is already in use, there is one per component instance, and each is what the name pattern reads out of
a candidate derived from the step name (`s`, `s-I`, `s-II` …) — for every list of step names, including steps
literally called `foo-I` and steps that spell the same pair differently (`foo`, `stage0.foo`, `stage00.foo`). -/
theorem names_unique : ∀ (steps : List Name) (used names : List FName), assignNames used steps = some names →
    names.Nodup ∧ (∀ n ∈ names, n ∉ used) ∧ names.length = steps.length ∧
    ∀ i (h1 : i < names.length) (h2 : i < steps.length), ∃ j, parseName (cand steps[i] j) = some names[i] := by
  intro steps
  induction steps with
  | nil =>
    intro used names h
    cases h
    exact ⟨List.nodup_nil, fun _ => nofun, rfl, fun i h1 => absurd h1 (Nat.not_lt_zero i)⟩
  | cons s r ih =>
    intro used names h
    unfold assignNames at h
    cases hn : pickName used s (used.length + 1) 0 with
    | none => rw [hn] at h; cases h
    | some n =>
      cases hns : assignNames (n :: used) r with
      | none => simp only [hn, hns] at h; cases h
      | some ns' =>
        simp only [hn, hns] at h
        cases h
        obtain ⟨hnd, hfresh, hlen, hcand⟩ := ih (n :: used) ns' hns
        obtain ⟨hnu, j, hj⟩ := pickName_fresh used s _ _ n hn
        refine ⟨List.nodup_cons.mpr ⟨fun hm => hfresh n hm List.mem_cons_self, hnd⟩, ?_,
          congrArg (· + 1) hlen, ?_⟩
        · intro m hm
          rcases List.mem_cons.mp hm with rfl | hm
          · exact hnu
          · exact fun hu => hfresh m hm (List.mem_cons_of_mem _ hu)
        · intro i h1 h2
          cases i with
          | zero => exact ⟨j, hj⟩
          | succ i => exact hcand i (Nat.lt_of_succ_lt_succ h1) (Nat.lt_of_succ_lt_succ h2)

/-- `parseName_explicit_stage`: `stage<digits>.<name>` reads as the pair (value of the digits, name) — for every
non-empty run of digits and every valid component name; in particular `stage0.x`, `stage00.x` … read as `(0, x)` -/
theorem parseName_explicit_stage (ds nm : S) (hne : ds ≠ []) (hd : ds.all isDigit = true) (hv : validName nm = true) :
    parseName ("stage".toList ++ ds ++ '.' :: nm) = some (digitsVal ds, nm) := by
  have hdot : ¬ isDigit '.' = true := by decide
  have h1 : (ds ++ '.' :: nm).takeWhile isDigit = ds := by
    rw [List.takeWhile_append_of_pos (List.all_eq_true.mp hd), List.takeWhile_cons_of_neg hdot, List.append_nil]
  have h2 : (ds ++ '.' :: nm).dropWhile isDigit = '.' :: nm := by
    rw [List.dropWhile_append_of_pos (List.all_eq_true.mp hd), List.dropWhile_cons_of_neg hdot]
  have he : (!ds.isEmpty && validName nm) = true := by
    rw [hv, List.isEmpty_eq_false_iff.mpr hne]; rfl
  rw [String.toList_ofList, List.append_assoc]
  simp only [parseName, List.cons_append, List.nil_append, stagePrefix, h1, h2, he, if_true]

/-- a valid name that does not begin with `stage` reads as stage 0 -/
theorem parseName_plain (nm : S) (hv : validName nm = true) (hs : stagePrefix nm = none) :
    parseName nm = some (0, nm) := by
  simp [parseName, hs, hv]

/-- `spellings_of_one_name_kept_apart`: two steps that spell the same `(stage, name)` pair differently — the plain
`nm` and `stage<zeros>.nm` — are never given the same FlowIR name, in whatever order and among whatever other steps
they are named (consequence of `names_unique`; both *would* read as `(0, nm)`, by `parseName_plain` and
`parseName_explicit_stage`). -/
theorem spellings_of_one_name_kept_apart (steps : List Name) (names : List FName)
    (h : assignNames [] steps = some names) (a b : Nat) (ha : a < names.length) (hb : b < names.length)
    (hab : a ≠ b) : names[a] ≠ names[b] :=
  fun he => hab ((List.getElem_inj (names_unique steps [] names h).1).mp he)

/-! ### producers of output references -/

private theorem longer_pos {best : Option (Loc × Loc)} {sc : Loc} (h : longer best sc = true) : 0 < sc.length := by
  unfold longer at h
  cases best with
  | none => simpa using h
  | some b => simp at h; omega

/-- `edges preserved` (repaired `OutputReference.split`): the producer found for a reference is one of the
component instances and its whole location is a prefix of the reference location (the rest is the file path). -/
theorem split_sound (scopes : List Loc) (l p f : Loc) (h : split scopes l = some (p, f)) :
    p ∈ scopes ∧ p ++ f = l ∧ p ≠ [] := by
  -- invariant of the fold: whatever is the best so far has these three properties
  refine foldl_inv (P := fun best => ∀ p f, best = some (p, f) → p ∈ scopes ∧ p ++ f = l ∧ p ≠ [])
    scopes none (fun _ _ h => nomatch h) (fun best sc hsc hb p f hs => ?_) p f h
  unfold splitStep at hs
  split at hs
  · next hc =>
    cases hs
    have ⟨h1, h2⟩ := Bool.and_eq_true_iff.mp hc
    exact ⟨hsc, (List.prefix_iff_eq_append.mp (List.isPrefixOf_iff_prefix.mp h1)),
      fun he => by have := longer_pos h2; rw [he] at this; cases this⟩
  · exact hb p f hs

/-! ### invalid namespaces are rejected with the offending location -/

/-- error kinds of one `execute` entry: unknown step, unknown template, cyclic template use, unknown argument
name, reference to an unknown parameter of the enclosing workflow, missing argument — each makes `checkExec`
refuse the entry. -/
theorem invalid_exec_refused (ns : Namespace) (avail : List Name) (w : Template) (steps : List (Name × Name)) (e : Exec)
    (h : steps.lookup e.target = none ∨
         (∃ tn, steps.lookup e.target = some tn ∧ (ns.find tn = none ∨ avail.contains tn = false ∨
           ∃ callee, ns.find tn = some callee ∧
             ((∃ a ∈ e.args, callee.hasParam a.1 = false) ∨
              (∃ a ∈ e.args, ∃ p ∈ paramRefs a.2, w.hasParam p = false) ∨
              (∃ p ∈ callee.params, e.args.lookup p.name = none ∧ p.default = none))))) :
    checkExec ns avail w steps e = none := by
  cases hc : checkExec ns avail w steps e with
  | none => rfl
  | some callee =>
    exfalso
    obtain ⟨tn, h1, h2, h3, h4, h5⟩ := checkExec_some hc
    rcases h with h | ⟨tn', htn, h⟩
    · rw [h] at h1; cases h1
    · rw [htn] at h1
      cases h1
      rcases h with h | h | ⟨c, hc', h⟩
      · rw [h] at h2; cases h2
      · rw [h] at h3; cases h3
      · rw [hc'] at h2
        cases h2
        rcases h with ⟨a, ha, hp⟩ | ⟨a, ha, p, hp, hw⟩ | ⟨p, hp, hl, hd⟩
        · exact List.any_eq_false.mp h4 a ha (by rw [hp]; exact Bool.or_true _)
        · refine List.any_eq_false.mp h4 a ha (Bool.or_eq_true_iff.mpr (Or.inl ?_))
          exact List.any_eq_true.mpr ⟨p, hp, by rw [hw]; rfl⟩
        · exact List.any_eq_false.mp h5 p hp (by rw [hl, hd]; rfl)

/-- `invalid_rejected_with_locations`: when the walk visits a workflow instance whose `execute[j]` is refused,
the location `workflows/<idx>/execute/<j>` is among the reported errors — for every scope of every namespace. -/
theorem invalid_rejected_with_locations (ns : Namespace) (fuel : Nat) (avail : List Name) (loc : Loc) (t : Template)
    (env : Env) (dsl : ErrLoc) (steps : List (Name × Name)) (execute : List Exec) (hb : t.body = .workflow steps execute)
    (j : Nat) (e : Exec) (he : execute[j]? = some e) (hc : checkExec ns avail t steps e = none) :
    ErrLoc.tmpl true t.idx (some j) ∈ (visit ns (fuel + 1) avail loc t env dsl).errsA := by
  rw [visit_workflow ns fuel avail loc env dsl hb]
  refine List.mem_append_left _ (List.mem_append_left _ (List.mem_map.mpr ⟨j, ?_, rfl⟩))
  have := badExecs_mem ns avail t steps execute 0 j e he hc
  rwa [Nat.zero_add] at this

/-- errors found inside nested scopes are not lost: `errsA` of the visit contains the errors of every child visit -/
theorem child_errors_propagate (ns : Namespace) (fuel : Nat) (avail : List Name) (loc : Loc) (t : Template)
    (env : Env) (dsl : ErrLoc) (steps : List (Name × Name)) (execute : List Exec) (hb : t.body = .workflow steps execute)
    (c : Child) (hc : c ∈ childrenOf ns avail t steps 0 execute) (x : ErrLoc)
    (hx : x ∈ (visit ns fuel (avail.erase c.callee.name) (loc ++ [c.target]) c.callee (childEnv loc env c)
      (.tmpl true t.idx (some c.j))).errsA) :
    x ∈ (visit ns (fuel + 1) avail loc t env dsl).errsA := by
  rw [visit_workflow ns fuel avail loc env dsl hb]
  exact List.mem_append_right _ (mem_concat (f := Acc.errsA) (fun _ _ => rfl)
    (List.mem_map.mpr ⟨c, (visitOrder_perm _).mem_iff.mpr hc, rfl⟩) hx)

/-- a namespace is only accepted when no error was recorded in any phase -/
theorem accepted_only_without_errors (ns : Namespace) (cs : List Comp) (h : flattenOp ns = .ok cs) :
    ∃ t, ns.find ns.entry = some t ∧ (rootVisit ns t).errsA = [] ∧ (rootVisit ns t).errsB = [] ∧
      entryMissing t ns.effArgs = false ∧ entryUnknown t ns.effArgs = false ∧
      finish (rootVisit ns t).insts = .ok cs := by
  unfold flattenOp at h
  cases ht : ns.find ns.entry with
  | none => rw [ht] at h; cases h
  | some t =>
    rw [ht] at h
    obtain ⟨h1, h⟩ := of_ite_eq_neg h nofun
    obtain ⟨h2, h⟩ := of_ite_eq_neg h nofun
    obtain ⟨_, h⟩ := of_ite_eq_neg h nofun
    obtain ⟨h4, h⟩ := of_ite_eq_neg h nofun
    obtain ⟨h5, h⟩ := of_ite_eq_neg h nofun
    exact ⟨t, rfl, (List.append_eq_nil_iff.mp (nil_of_not_nonempty h4)).2,
      (List.append_eq_nil_iff.mp (nil_of_not_nonempty h5)).2, Bool.eq_false_iff.mpr h1, Bool.eq_false_iff.mpr h2, h⟩

/-! ### non-string parameter values: dictionaries and numbers -/

/-- a parameter whose value cannot be embedded (unknown, or a dictionary) keeps its reference when it occurs
inside a string: that is what the callers report as an error -/
theorem embedded_dictionary_keeps_reference (look : Name → Option Val) (p : Name) (v : Val)
    (hbad : (look p).bind embed = none) (hp : p ∈ paramRefs v) : p ∈ paramRefs (substT look v) := by
  rw [paramRefs_substT]
  exact List.mem_flatMap.mpr ⟨p, hp, by rw [keptRefs, hbad]; exact List.mem_singleton_self p⟩

/-- `%(p)s` as the whole argument: the value of `p` goes through one nesting level with its type; what happens to it
afterwards is the second absolutising and re-lexing pass, which only touch references -/
theorem resolve_whole (parent : Loc) (look : Name → Option Val) (p : Name) (w : Val) (h : look p = some w) :
    resolve parent look [.par p] = merge (absolutise parent w) := by
  show merge (absolutise parent (substV look [.par p])) = _
  rw [substV_whole_forwards_value look p w h]

/-- forwarding a dictionary (or a number) as the whole value through one nesting level keeps it intact -/
theorem resolve_whole_forwards_dictionary (parent : Loc) (look : Name → Option Val) (p : Name) (d : S)
    (h : look p = some [.dict d]) : resolve parent look [.par p] = [.dict d] :=
  resolve_whole parent look p _ h

theorem resolve_whole_forwards_number (parent : Loc) (look : Name → Option Val) (p : Name) (n : S)
    (h : look p = some [.num n]) : resolve parent look [.par p] = [.num n] :=
  resolve_whole parent look p _ h

/-- a number inside a longer string is embedded as its text -/
theorem number_embedded_as_text (look : Name → Option Val) (p : Name) (n : S) (r : Val)
    (h : look p = some [.num n]) : substT look (.par p :: r) = .lit n :: substT look r := by
  rw [substT, h]
  rfl

/-- `resolve` of an argument that embeds a dictionary-valued parameter of the parent in a longer string leaves a
parameter reference — for every parent location, environment and value. -/
theorem resolve_embedded_dictionary_flagged (parent : Loc) (look : Name → Option Val) (p : Name) (d : S) (v : Val)
    (hd : look p = some [.dict d]) (hp : p ∈ paramRefs v) (hw : isWholePar v = false) :
    hasPar (resolve parent look v) = true := by
  have h1 : isWholePar (absolutise parent (merge v)) = false := by
    rw [isWholePar_absolutise, isWholePar_merge]; exact hw
  have h2 : p ∈ paramRefs (absolutise parent (merge v)) := by
    rw [paramRefs_absolutise, paramRefs_merge]; exact hp
  have h3 : p ∈ paramRefs (resolve parent look v) := by
    unfold resolve
    rw [paramRefs_merge, paramRefs_absolutise, substV_of_not_whole _ _ h1]
    exact embedded_dictionary_keeps_reference look p _ (by simp [hd, embed]) h2
  rw [← strayPar_false]
  exact strayPar_of_mem false _ p h3 rfl

/-- `dict_embedded_rejected_with_location`: when the walk visits a workflow instance in which the argument `a`
of the (otherwise fine) `execute[j]` embeds a dictionary-valued parameter of the workflow in a longer string, the
location `workflows/<idx>/execute/<j>` is among the errors of the resolution phase — for every scope of every
namespace (the code: `ValueError` of `_replace_many_parameter_references` turned into a `DSLInvalidFieldError` by
`Scope.resolve_parameter_references_of_instance`). -/
theorem dict_embedded_rejected_with_location (ns : Namespace) (fuel : Nat) (avail : List Name) (loc : Loc)
    (t : Template) (env : Env) (dsl : ErrLoc) (steps : List (Name × Name)) (execute : List Exec)
    (hb : t.body = .workflow steps execute) (c : Child) (hc : c ∈ childrenOf ns avail t steps 0 execute)
    (a : Name × Val) (ha : a ∈ c.raw) (p : Name) (d : S) (hd : env.lookup p = some [.dict d])
    (hp : p ∈ paramRefs a.2) (hw : isWholePar a.2 = false) :
    ErrLoc.tmpl true t.idx (some c.j) ∈ (visit ns (fuel + 1) avail loc t env dsl).errsB := by
  rw [visit_workflow ns fuel avail loc env dsl hb]
  refine List.mem_append_left _ (List.mem_flatMap.mpr ⟨c, hc, ?_⟩)
  have hbad : (childEnv loc env c).all (fun a => !hasPar a.2) = false := by
    refine List.all_eq_false.mpr ⟨(a.1, resolve loc (fun q => env.lookup q) a.2), List.mem_map.mpr ⟨a, ha, rfl⟩, ?_⟩
    rw [resolve_embedded_dictionary_flagged loc (fun q => env.lookup q) p d a.2 hd hp hw]
    exact Bool.false_ne_true
  rw [childErrsB, hbad, Bool.and_false]
  exact List.mem_singleton_self _

/-- errors of the resolution phase found inside nested scopes are not lost either -/
theorem child_errorsB_propagate (ns : Namespace) (fuel : Nat) (avail : List Name) (loc : Loc) (t : Template)
    (env : Env) (dsl : ErrLoc) (steps : List (Name × Name)) (execute : List Exec) (hb : t.body = .workflow steps execute)
    (c : Child) (hc : c ∈ childrenOf ns avail t steps 0 execute) (x : ErrLoc)
    (hx : x ∈ (visit ns fuel (avail.erase c.callee.name) (loc ++ [c.target]) c.callee (childEnv loc env c)
      (.tmpl true t.idx (some c.j))).errsB) :
    x ∈ (visit ns (fuel + 1) avail loc t env dsl).errsB := by
  rw [visit_workflow ns fuel avail loc env dsl hb]
  exact List.mem_append_right _ (mem_concat (f := Acc.errsB) (fun _ _ => rfl)
    (List.mem_map.mpr ⟨c, (visitOrder_perm _).mem_iff.mpr hc, rfl⟩) hx)

/-- an error of the resolution phase at the root makes the compilation end with the error list (never `.ok`) -/
theorem resolution_error_not_accepted (ns : Namespace) (t : Template) (h : ns.find ns.entry = some t) (x : ErrLoc)
    (hx : x ∈ (rootVisit ns t).errsB) : ∀ cs, flattenOp ns ≠ .ok cs := by
  intro cs hok
  obtain ⟨t', ht', _, hB, _⟩ := accepted_only_without_errors ns cs hok
  rw [h] at ht'
  cases ht'
  rw [hB] at hx
  cases hx

/-- `dict_embedded_in_component_rejected`: a component instance whose `command.arguments` embeds a
dictionary-valued parameter in a longer string is refused with the location of the component template
(`components/<idx>`) among the errors. -/
theorem dict_embedded_in_component_rejected (names : List (Loc × FName)) (rep : Bool) (i : Inst) (p : Name) (d : S)
    (hd : i.params.lookup p = some [.dict d]) (hp : p ∈ paramRefs i.arguments) (hw : isWholePar i.arguments = false)
    (hr : (rep && p == replicaName) = false) :
    ∃ es, digest names rep i = .error es ∧ ErrLoc.tmpl false i.tidx none ∈ es := by
  apply digest_stray
  apply strayPar_of_mem rep _ p _ hr
  rw [paramRefs_merge, substV_of_not_whole _ _ hw]
  exact embedded_dictionary_keeps_reference _ p _ (by rw [maskReplica_off _ _ _ hr]; simp [hd, embed]) hp

/-- `replica_reference_outside_replica_rejected`: `%(replica)s` in the `command.arguments` of a component instance
that is not a replica and has no parameter called `replica` is an unknown parameter: the instance is refused with
`components/<idx>` among the errors — for every instance and naming table. -/
theorem replica_reference_outside_replica_rejected (names : List (Loc × FName)) (i : Inst)
    (hp : replicaName ∈ paramRefs i.arguments) (hn : i.params.lookup replicaName = none) :
    ∃ es, digest names false i = .error es ∧ ErrLoc.tmpl false i.tidx none ∈ es := by
  apply digest_stray
  apply strayPar_of_mem false _ replicaName _ (by rfl)
  rw [paramRefs_merge]
  exact substV_keeps_unknown _ _ _ ((maskReplica_off _ _ _ (by rfl)).trans hn) hp

/-- `replica_reference_kept_for_replica`: for a replica, `%(replica)s` is left in place (it is a variable of the
runtime) and is not what makes `digest` flag the arguments: a value whose only parameter reference is `replica`
is not flagged. -/
theorem replica_reference_kept_for_replica (look : Name → Option Val) (v : Val)
    (h : ∀ p ∈ paramRefs v, p = replicaName) :
    replicaName ∈ paramRefs v → (replicaName ∈ paramRefs (merge (substV (maskReplica true look) v)) ∧
      strayPar true (merge (substV (maskReplica true look) v)) = false) := by
  intro hin
  have hmask : maskReplica true look replicaName = none := if_pos (by rw [Bool.true_and]; exact BEq.rfl)
  -- the only reference of `v` is masked, so substitution leaves `v` as it is
  rw [substV_unknown _ v fun p hp => h p hp ▸ hmask, strayPar, paramRefs_merge]
  exact ⟨hin, List.any_eq_false.mpr fun q hq => by rw [h q hq, BEq.rfl]; exact Bool.false_ne_true⟩

/-! ### the environment of a component -/

/-- a dictionary is accepted as environment when the parameter named by `command.environment` has it as its
(whole) value -/
theorem envOf_dict (params : Env) (p : Name) (d : S) (h : params.lookup p = some [.dict d]) :
    envOf params (some p) = some (.dict d) := by
  simp only [envOf, h]

/-- a parameter that does not exist, a number, or text other than `none` is refused as environment -/
theorem envOf_refuses (params : Env) (p : Name) :
    (params.lookup p = none → envOf params (some p) = none) ∧
    (∀ n, params.lookup p = some [.num n] → envOf params (some p) = none) ∧
    (∀ s, s ≠ "none".toList → params.lookup p = some [.lit s] → envOf params (some p) = none) :=
  ⟨fun h => by simp only [envOf, h], fun n h => by simp only [envOf, h],
    fun s hs h => by simp only [envOf, h, if_neg hs]⟩

/-- `env_error_rejected_with_location`: if the environment of some component instance is not acceptable, the
result of `finish` is the error list of phase 5 (never `.ok`), and the `execute` entry that instantiates the component
is in it. -/
theorem env_error_rejected_with_location (insts : List Inst) (i : Inst) (hi : i ∈ insts)
    (he : envOf i.params i.envParam = none) :
    finish insts = .invalid 5 (envErrs insts ++ replicaErrs insts) ∧ i.dsl ∈ envErrs insts := by
  have hm : i.dsl ∈ envErrs insts := List.mem_filterMap.mpr ⟨i, hi, by rw [he]⟩
  exact ⟨finish_invalid (List.mem_append_left _ hm), hm⟩

/-- an accepted compilation gave every component an acceptable environment -/
theorem accepted_env_ok (insts : List Inst) (cs : List Comp) (h : finish insts = .ok cs) :
    ∀ i ∈ insts, ∃ e, envOf i.params i.envParam = some e := by
  intro i hi
  cases he : envOf i.params i.envParam with
  | some e => exact ⟨e, rfl⟩
  | none =>
    have := (env_error_rejected_with_location insts i hi he).1
    rw [this] at h
    cases h

/-! ### replication: the memo dictionaries of `can_template_replicate` do not change its answers

`RepTrue insts l`: the memo-free walk finds, with some fuel, a replicating ancestor of the component at `l`.
`Memo.Sound`: every memoised fact is true *of this namespace* (what a fresh `ScopeStack` guarantees: it starts with
empty dictionaries and only records what its own walks found).  `Witness.stale_memo_changes_the_answer` shows that
the hypothesis is needed: entries left over from another compilation flip the answer both ways. -/

def RepTrue (insts : List Inst) (l : Loc) : Prop := ∃ f, repWalk insts f l = true

/-- the specification of `is_replica` for a component instance -/
def IsReplicaSpec (insts : List Inst) (i : Inst) : Prop :=
  i.replicate = true ∨ (i.aggregate = false ∧ RepTrue insts i.loc)

def Memo.Sound (insts : List Inst) (m : Memo) : Prop :=
  (∀ l ∈ m.rep, ∃ i, findInst insts l = some i ∧ (i.replicate = true ∨ (i.aggregate = false ∧ RepTrue insts l))) ∧
  (∀ l ∈ m.agg, ∃ i, findInst insts l = some i ∧ i.aggregate = true)

theorem memo_empty_sound (insts : List Inst) : Memo.Sound insts {} :=
  ⟨fun _ => nofun, fun _ => nofun⟩

theorem Memo.Sound.consRep {insts : List Inst} {m : Memo} {l : Loc} {i : Inst} (hm : Memo.Sound insts m)
    (hi : findInst insts l = some i) (h : i.replicate = true ∨ (i.aggregate = false ∧ RepTrue insts l)) :
    Memo.Sound insts { m with rep := l :: m.rep } :=
  ⟨List.forall_mem_cons.mpr ⟨⟨i, hi, h⟩, hm.1⟩, hm.2⟩

theorem Memo.Sound.consAgg {insts : List Inst} {m : Memo} {l : Loc} {i : Inst} (hm : Memo.Sound insts m)
    (hi : findInst insts l = some i) (h : i.aggregate = true) : Memo.Sound insts { m with agg := l :: m.agg } :=
  ⟨hm.1, List.forall_mem_cons.mpr ⟨⟨i, hi, h⟩, hm.2⟩⟩

/-- one edge: a producer that replicates, or does not aggregate and has a replicating ancestor, makes the consumer's
walk succeed -/
theorem repTrue_of_producer (insts : List Inst) (l p : Loc) (i q : Inst) (hi : findInst insts l = some i)
    (hp : p ∈ producersOf insts i) (hq : findInst insts p = some q)
    (h : q.replicate = true ∨ (q.aggregate = false ∧ RepTrue insts p)) : RepTrue insts l := by
  rcases h with h | ⟨ha, f, hf⟩
  · refine ⟨1, ?_⟩
    simp only [repWalk, hi, Bool.or_eq_true, List.any_eq_true]
    exact Or.inr ⟨p, hp, by simp [hq, h]⟩
  · refine ⟨f + 1, ?_⟩
    simp only [repWalk, hi, Bool.or_eq_true, List.any_eq_true]
    exact Or.inr ⟨p, hp, by simp [hq, ha, hf]⟩

theorem repTrue_of_replicate (insts : List Inst) (l : Loc) (i : Inst) (hi : findInst insts l = some i)
    (h : i.replicate = true) : RepTrue insts l :=
  ⟨1, by simp [repWalk, hi, h]⟩

/-- the scan of one popped node `s` (not aggregating), over any part `r` of its producers -/
theorem scan_sound (insts : List Inst) (s : Loc) (i : Inst) (hi : findInst insts s = some i)
    (hagg : i.aggregate = false) : ∀ (r : List Loc) (m : Memo) (push : List Loc),
    (∀ p ∈ r, p ∈ producersOf insts i) → Memo.Sound insts m →
    (∀ p ∈ push, p ∈ producersOf insts i ∧ ∃ q, findInst insts p = some q ∧ q.aggregate = false) →
    match scan insts s m r push with
    | .found m' => Memo.Sound insts m' ∧ RepTrue insts s
    | .more m' push' => Memo.Sound insts m' ∧
        ∀ p ∈ push', p ∈ producersOf insts i ∧ ∃ q, findInst insts p = some q ∧ q.aggregate = false := by
  intro r
  induction r with
  | nil => intro m push _ hm hpush; exact ⟨hm, hpush⟩
  | cons p r ih =>
    intro m push hr hm hpush
    have hpi : p ∈ producersOf insts i := hr p List.mem_cons_self
    have hr' : ∀ x ∈ r, x ∈ producersOf insts i := fun x hx => hr x (List.mem_cons_of_mem _ hx)
    unfold scan
    cases hq : findInst insts p with
    | none => exact ih m push hr' hm hpush
    | some q =>
      dsimp only
      by_cases h1 : (m.rep.contains p || q.replicate) = true
      · rw [if_pos h1]
        have hrep : RepTrue insts s := by
          refine repTrue_of_producer insts s p i q hi hpi hq ?_
          rcases Bool.or_eq_true_iff.mp h1 with hc | hc
          · obtain ⟨q', hq', hfact⟩ := hm.1 p (List.contains_iff_mem.mp hc)
            rw [hq] at hq'
            cases hq'
            exact hfact
          · exact Or.inl hc
        exact ⟨hm.consRep hi (Or.inr ⟨hagg, hrep⟩), hrep⟩
      · rw [if_neg h1]
        by_cases h2 : (m.agg.contains p || q.aggregate) = true
        · rw [if_pos h2]
          refine ih _ push hr' (hm.consAgg hq ?_) hpush
          rcases Bool.or_eq_true_iff.mp h2 with hc | hc
          · obtain ⟨q', hq', ha⟩ := hm.2 p (List.contains_iff_mem.mp hc)
            rw [hq] at hq'
            cases hq'
            exact ha
          · exact hc
        · rw [if_neg h2]
          exact ih m (p :: push) hr' hm (List.forall_mem_cons.mpr
            ⟨⟨hpi, q, hq, (Bool.or_eq_false_iff.mp (Bool.eq_false_iff.mpr h2)).2⟩, hpush⟩)

/-- the walk: if every location on the stack is not aggregating and a replicating ancestor of any of them implies
`Q`, then a positive answer implies `Q`, and the memo stays sound — for every fuel, memo and stack -/
theorem walkM_sound (insts : List Inst) (Q : Prop) : ∀ (fuel : Nat) (m : Memo) (stack : List Loc) (b : Bool) (m' : Memo),
    Memo.Sound insts m → (∀ s ∈ stack, ∀ i, findInst insts s = some i → i.aggregate = false) →
    (∀ s ∈ stack, RepTrue insts s → Q) → walkM insts fuel m stack = (b, m') →
    Memo.Sound insts m' ∧ (b = true → Q) := by
  intro fuel
  induction fuel with
  | zero => intro m stack b m' hm _ _ h; cases h; exact ⟨hm, nofun⟩
  | succ f ih =>
    intro m stack b m' hm hgood hq h
    cases stack with
    | nil => cases h; exact ⟨hm, nofun⟩
    | cons s stack =>
      have hgood' := fun x hx => hgood x (List.mem_cons_of_mem _ hx)
      have hq' := fun x hx => hq x (List.mem_cons_of_mem _ hx)
      have hqs := hq s List.mem_cons_self
      unfold walkM at h
      cases hi : findInst insts s with
      | none => rw [hi] at h; exact ih m stack b m' hm hgood' hq' h
      | some i =>
        rw [hi] at h
        dsimp only at h
        by_cases hr : i.replicate = true
        · rw [if_pos hr] at h
          cases h
          exact ⟨hm, fun _ => hqs (repTrue_of_replicate insts s i hi hr)⟩
        · rw [if_neg hr] at h
          have hs := scan_sound insts s i hi (hgood s List.mem_cons_self i hi) (producersOf insts i) m []
            (fun _ hp => hp) hm nofun
          cases hsc : scan insts s m (producersOf insts i) [] with
          | found m1 =>
            rw [hsc] at h hs
            cases h
            exact ⟨hs.1, fun _ => hqs hs.2⟩
          | more m1 push =>
            rw [hsc] at h hs
            -- what the scan pushed are producers of `s` that do not aggregate
            refine ih m1 (push ++ stack) b m' hs.1 (fun x hx j hj => ?_) (fun x hx hrx => ?_) h
            · rcases List.mem_append.mp hx with hx | hx
              · obtain ⟨_, q, hq1, hq2⟩ := hs.2 x hx
                rw [hq1] at hj
                cases hj
                exact hq2
              · exact hgood' x hx j hj
            · rcases List.mem_append.mp hx with hx | hx
              · obtain ⟨hp, q, hq1, hq2⟩ := hs.2 x hx
                exact hqs (repTrue_of_producer insts s x i q hi hp hq1 (Or.inr ⟨hq2, hrx⟩))
              · exact hq' x hx hrx

/-- `memo_answer_sound`: starting from a memo that only holds true facts about this namespace, a positive answer of
`can_template_replicate` (with the memo dictionaries) is correct according to the memo-free specification, and the
memo it leaves behind again only holds true facts — for every list of component instances, every instance of it,
every such memo (in particular the memo left by any sequence of earlier calls on the same namespace, in any order). -/
theorem memo_answer_sound (insts : List Inst) (m : Memo) (i : Inst) (hi : findInst insts i.loc = some i)
    (hm : Memo.Sound insts m) (b : Bool) (m' : Memo) (h : canReplicateM insts m i = (b, m')) :
    Memo.Sound insts m' ∧ (b = true → IsReplicaSpec insts i) := by
  unfold canReplicateM at h
  by_cases hr : i.replicate = true
  · rw [if_pos hr] at h
    cases h
    exact ⟨hm, fun _ => Or.inl hr⟩
  · rw [if_neg hr] at h
    by_cases ha : i.aggregate = true
    · rw [if_pos ha] at h
      cases h
      exact ⟨hm.consAgg hi ha, nofun⟩
    · rw [if_neg ha] at h
      have hagg : i.aggregate = false := Bool.eq_false_iff.mpr ha
      have := walkM_sound insts (RepTrue insts i.loc) (walkFuel insts) m [i.loc] b m' hm
        (fun s hs j hj => by rw [List.mem_singleton.mp hs, hi] at hj; cases hj; exact hagg)
        (fun s hs hrs => List.mem_singleton.mp hs ▸ hrs) h
      exact ⟨this.1, fun hb => Or.inr ⟨hagg, this.2 hb⟩⟩

/-- the memo-free answer used by `flattenOp` is correct according to the same specification -/
theorem isReplica_sound (insts : List Inst) (i : Inst) (h : isReplica insts i = true) : IsReplicaSpec insts i := by
  unfold isReplica at h
  rcases Bool.or_eq_true_iff.mp h with h | h
  · exact Or.inl h
  · have := Bool.and_eq_true_iff.mp h
    exact Or.inr ⟨by simpa using this.1, ⟨_, this.2⟩⟩

/-- `replicasM_sound`: the answers of a whole series of calls sharing one memo (the loop over the components in
`namespace_to_flowir`), started from a sound memo — e.g. the empty one of a fresh `ScopeStack` — never report a
component as a replica that is not one according to the specification. -/
theorem replicasM_sound (insts : List Inst) : ∀ (todo : List Inst) (m : Memo), Memo.Sound insts m →
    (∀ i ∈ todo, findInst insts i.loc = some i) →
    ∀ k (h1 : k < (replicasM insts m todo).length) (h2 : k < todo.length),
      (replicasM insts m todo)[k] = true → IsReplicaSpec insts todo[k] := by
  intro todo
  induction todo with
  | nil => intro m _ _ k h1 h2; simp at h2
  | cons i r ih =>
    intro m hm hfind k h1 h2 hk
    have hstep := memo_answer_sound insts m i (hfind i List.mem_cons_self) hm
      (canReplicateM insts m i).1 (canReplicateM insts m i).2 rfl
    cases k with
    | zero =>
      simp only [replicasM, List.getElem_cons_zero] at hk ⊢
      exact hstep.2 hk
    | succ k =>
      simp only [replicasM, List.getElem_cons_succ] at hk ⊢
      exact ih _ hstep.1 (fun j hj => hfind j (List.mem_cons_of_mem _ hj)) k
        (by simpa [replicasM] using h1) (by simpa using h2) hk

/-- a replica that declares a parameter called `replica` is refused with `components/<idx>` (never `.ok`) -/
theorem replica_declaring_replica_rejected (insts : List Inst) (i : Inst) (hi : i ∈ insts)
    (hr : isReplica insts i = true) (hd : i.declaresReplica = true) :
    finish insts = .invalid 5 (envErrs insts ++ replicaErrs insts) ∧
    ErrLoc.tmpl false i.tidx none ∈ replicaErrs insts := by
  have hm : ErrLoc.tmpl false i.tidx none ∈ replicaErrs insts :=
    List.mem_filterMap.mpr ⟨i, hi, by rw [hr, hd]; rfl⟩
  exact ⟨finish_invalid (List.mem_append_right _ hm), hm⟩

/-! ### user variables: a layer above the arguments of the entrypoint -/

/-- `overlay_lookup`: a user variable wins over the entrypoint argument of the same name; entrypoint arguments
that no user variable names are untouched. -/
theorem overlay_lookup (uvars args : Env) (p : Name) :
    (overlay uvars args).lookup p = match uvars.lookup p with
      | some v => some v
      | none => args.lookup p := by
  unfold overlay
  rw [List.lookup_append]
  cases h : uvars.lookup p with
  | some v => rfl
  | none => simp [lookup_filter_none uvars args p h]

/-- the declared default of parameter `p` (first declaration that has one) -/
def defaultOf (params : List Param) (p : Name) : Option Val :=
  (params.filterMap fun q => q.default.map fun d => (q.name, d)).lookup p

/-- `entry_value_precedence`: the value the entry scope holds for parameter `p` is the user variable if one is
supplied, else the argument of `entrypoint.execute[0]`, else the declared default — for every entry template,
argument list and user-variable list. -/
theorem entry_value_precedence (t : Template) (args uvars : Env) (p : Name) :
    (entryRaw t (overlay uvars args)).lookup p = match uvars.lookup p with
      | some v => some v
      | none => match args.lookup p with
        | some v => some v
        | none => defaultOf t.params p := by
  unfold entryRaw
  rw [rawParams_eq_overlay, overlay_lookup, overlay_lookup]
  cases uvars.lookup p with
  | some v => rfl
  | none => cases args.lookup p <;> rfl

/-- `user_variable_reaches_call_chain`: what the denotational specification (and hence, by
`flattenOp_eq_flattenSpec`, every compiled component below the entry) sees for an entry parameter is that value. -/
theorem user_variable_reaches_call_chain (ns : Namespace) (t : Template) (p : Name) :
    valueOf [⟨[], entryRaw t ns.effArgs⟩] p =
      (match ns.userVars.lookup p with
        | some v => some v
        | none => match ns.entryArgs.lookup p with
          | some v => some v
          | none => defaultOf t.params p).map (resolve [] (fun _ => none)) := by
  simp only [valueOf, Namespace.effArgs]
  rw [entry_value_precedence]

/-- a user variable that is not a parameter of the entry template is refused (`entrypoint`) -/
theorem user_variable_unknown_refused (ns : Namespace) (t : Template) (a : Name × Val) (ha : a ∈ ns.userVars)
    (hp : t.hasParam a.1 = false) : entryUnknown t ns.effArgs = true := by
  unfold entryUnknown Namespace.effArgs overlay
  rw [List.any_eq_true]
  exact ⟨a, List.mem_append_left _ ha, by simp [hp]⟩

/-! ### the `environments` section: a component is bound to its own environment -/

section envtab
variable {H : Type} [DecidableEq H]

theorem findSlot_some (hv : H) : ∀ (tab : List (H × S)) (k : Nat), findSlot hv tab = some k →
    ∃ d, tab[k]? = some (hv, d) := by
  intro tab
  induction tab with
  | nil => intro k h; cases h
  | cons e r ih =>
    intro k h
    unfold findSlot at h
    split at h
    · next he =>
      cases h
      exact ⟨e.2, by rw [← he]; rfl⟩
    · cases hr : findSlot hv r with
      | none => rw [hr] at h; cases h
      | some j =>
        rw [hr] at h
        cases h
        exact ih j hr

/-- every entry of the table is registered under the hash of its own dictionary -/
def TabOk (h : S → H) (tab : List (H × S)) : Prop := ∀ e ∈ tab, e.1 = h e.2

private theorem prefix_get {α : Type} {a b : List α} (hp : a <+: b) {k : Nat} {x : α} (hk : a[k]? = some x) :
    b[k]? = some x := by
  obtain ⟨hlt, rfl⟩ := List.getElem?_eq_some_iff.mp hk
  exact List.prefix_iff_getElem?.mp hp k hlt

theorem bindEnv_spec (h : S → H) (tab : List (H × S)) (d : S) (hok : TabOk h tab) :
    TabOk h (bindEnv h tab d).2 ∧ tab <+: (bindEnv h tab d).2 ∧
    ∃ d', (bindEnv h tab d).2[(bindEnv h tab d).1]? = some (h d, d') ∧ h d' = h d := by
  unfold bindEnv
  cases hs : findSlot (h d) tab with
  | some k =>
    obtain ⟨d', hd'⟩ := findSlot_some (h d) tab k hs
    refine ⟨hok, List.prefix_refl _, d', hd', ?_⟩
    exact (hok _ (List.mem_of_getElem? hd')).symm
  | none =>
    refine ⟨?_, List.prefix_append _ _, d, by simp, rfl⟩
    intro e he
    rcases List.mem_append.mp he with h1 | h1
    · exact hok e h1
    · simp at h1; subst h1; rfl

theorem bindAll_spec (h : S → H) : ∀ (ds : List S) (tab : List (H × S)), TabOk h tab →
    tab <+: (bindAll h tab ds).2 ∧ (bindAll h tab ds).1.length = ds.length ∧
    ∀ p ∈ ds.zip (bindAll h tab ds).1, ∃ d', (bindAll h tab ds).2[p.2]? = some (h p.1, d') ∧ h d' = h p.1 := by
  intro ds
  induction ds with
  | nil => intro tab _; exact ⟨List.prefix_refl _, rfl, fun _ hp => nomatch hp⟩
  | cons d r ih =>
    intro tab hok
    obtain ⟨hok1, hpre1, d', hget, hd'⟩ := bindEnv_spec h tab d hok
    obtain ⟨hpre2, hlen, hall⟩ := ih (bindEnv h tab d).2 hok1
    simp only [bindAll]
    refine ⟨hpre1.trans hpre2, congrArg (· + 1) hlen, fun p hp => ?_⟩
    rcases List.mem_cons.mp hp with rfl | hp
    · exact ⟨d', prefix_get hpre2 hget, hd'⟩
    · exact hall p hp

/-- `environment_binding_faithful`: when the hash tells different dictionaries apart, then — for every sequence of
components with dictionary environments — every component gets a name, and the entry registered under the name of a
component is that component's OWN dictionary (it is never bound to the environment of another instance). -/
theorem environment_binding_faithful (h : S → H) (hinj : ∀ a b, h a = h b → a = b) (ds : List S) :
    (bindAll h [] ds).1.length = ds.length ∧
    ∀ p ∈ ds.zip (bindAll h [] ds).1, ((bindAll h [] ds).2[p.2]?).map (·.2) = some p.1 := by
  obtain ⟨_, hlen, hall⟩ := bindAll_spec h ds [] (by intro e he; cases he)
  refine ⟨hlen, ?_⟩
  intro p hp
  obtain ⟨d', hget, hd'⟩ := hall p hp
  rw [hget, hinj _ _ hd']
  rfl

/-- whatever the hash: the entry a component is bound to has the same hash as the component's dictionary -/
theorem environment_binding_same_hash (h : S → H) (ds : List S) :
    ∀ p ∈ ds.zip (bindAll h [] ds).1, ((bindAll h [] ds).2[p.2]?).map (·.1) = some (h p.1) := by
  obtain ⟨_, _, hall⟩ := bindAll_spec h ds [] (by intro e he; cases he)
  intro p hp
  obtain ⟨d', hget, _⟩ := hall p hp
  rw [hget]; rfl

end envtab

/-! ### non-vacuity -/

private def lc (s : String) : S := s.toList
private def compT : Template := ⟨lc "comp", 0, [⟨lc "x", none⟩, ⟨lc "y", some [.lit (lc "dflt")]⟩],
  .component [.lit (lc "cat "), .par (lc "x"), .lit (lc " "), .par (lc "y")] none none false⟩
private def prodT : Template := ⟨lc "prod", 1, [], .component [.lit (lc "make")] none none false⟩
private def innerT : Template := ⟨lc "inner", 1, [⟨lc "src", none⟩],
  .workflow [(lc "foo", lc "comp")] [⟨lc "foo", [(lc "x", [.par (lc "src"), .suf [lc "out.txt"] (some (lc "ref"))])]⟩]⟩
private def mainT : Template := ⟨lc "main", 0, [],
  .workflow [(lc "foo", lc "prod"), (lc "foo-I", lc "prod"), (lc "w", lc "inner")]
    [⟨lc "foo", []⟩, ⟨lc "foo-I", []⟩, ⟨lc "w", [(lc "src", [.ref [lc "foo"] none])]⟩]⟩
private def nsEx : Namespace := ⟨[compT, prodT, mainT, innerT], lc "main", [], []⟩

/-- a nested namespace with a partial reference completed one level down, a default, and the step names
`foo`, `foo-I`, `foo` — compiles to three uniquely named components with the expected edge -/
example : (match flattenOp nsEx with
    | .ok cs => cs.map (fun c => (c.name, c.producers))
    | _ => []) =
  [(lc "foo-I", []), (lc "foo", []), (lc "foo-II", [[entryName, lc "foo"]])] := by decide +kernel

example : (flattenSpec nsEx).map (·.loc) =
    [[entryName, lc "foo"], [entryName, lc "foo-I"], [entryName, lc "w", lc "foo"]] := by
  unfold nsEx compT prodT innerT mainT entryName lc
  simp -index only [String.toList_ofList]
  decide +kernel

example : specEdges (flattenSpec nsEx) = [([entryName, lc "w", lc "foo"], [entryName, lc "foo"])] := by
  unfold nsEx compT prodT innerT mainT entryName lc
  simp -index only [String.toList_ofList]
  decide +kernel

example : assignNames [] [lc "foo-I", lc "foo", lc "foo"] = some [(0, lc "foo-I"), (0, lc "foo"), (0, lc "foo-II")] := by
  unfold lc
  simp -index only [String.toList_ofList]
  decide +kernel

/-- two spellings of one name, in two stages: `generate`, `stage0.generate`, `stage00.generate`, `stage1.generate` -/
example : assignNames [] [lc "generate", lc "stage0.generate", lc "stage00.generate", lc "stage1.generate"] =
    some [(0, lc "generate"), (0, lc "generate-I"), (0, lc "generate-II"), (1, lc "generate")] := by
  unfold lc
  simp -index only [String.toList_ofList]
  decide +kernel

example : parseName (lc "stage1.") = none ∧ parseName (lc "stage1.2") = none ∧
    parseName (lc "stagex.y") = some (0, lc "stagex.y") ∧ parseName (lc "stage05.a-I") = some (5, lc "a-I") := by
  unfold lc
  simp -index only [String.toList_ofList]
  decide +kernel

example : split [[lc "e", lc "c"], [lc "e", lc "a", lc "p"]] [lc "e", lc "a", lc "p", lc "out"] =
    some ([lc "e", lc "a", lc "p"], [lc "out"]) := by decide +kernel

/-- hypothesis of `invalid_exec_refused` is satisfiable: unknown template behind a step -/
example : checkExec nsEx [lc "prod"] mainT [(lc "foo", lc "nosuch")] ⟨lc "foo", []⟩ = none := by decide +kernel

/-! non-vacuity: a dictionary forwarded verbatim through two levels reaches the component as
its environment; the same dictionary embedded in a longer string is refused at `workflows/0/execute/0`; a user
variable overrides the entrypoint argument and a default -/
private def envCompT : Template := ⟨lc "sim", 0, [⟨lc "env", none⟩, ⟨lc "n", some [.num (lc "3")]⟩, ⟨lc "label", none⟩],
  .component [.lit (lc "run "), .par (lc "label"), .lit (lc " -n "), .par (lc "n")] (some (lc "env")) none false⟩
private def envInnerT (arg : Val) : Template := ⟨lc "main", 0, [⟨lc "env", none⟩, ⟨lc "who", some [.lit (lc "dflt")]⟩],
  .workflow [(lc "run", lc "sim")] [⟨lc "run", [(lc "env", [.par (lc "env")]), (lc "label", arg)]⟩]⟩
private def nsEnv (arg : Val) (uvars : Env) : Namespace :=
  ⟨[envCompT, envInnerT arg], lc "main", [(lc "env", [.dict (lc "{A:1}")]), (lc "who", [.lit (lc "entry")])], uvars⟩

example : (match flattenOp (nsEnv [.lit (lc "x="), .par (lc "who")] []) with
    | .ok cs => cs.map (fun c => (c.name, c.args, c.env))
    | _ => []) =
  [(lc "run", [.lit (lc "run "), .lit (lc "x="), .lit (lc "entry"), .lit (lc " -n "), .lit (lc "3")], .dict (lc "{A:1}"))] := by
  decide +kernel

example : (match flattenOp (nsEnv [.lit (lc "x="), .par (lc "who")] [(lc "who", [.num (lc "7")])]) with
    | .ok cs => cs.map (fun c => c.args)
    | _ => []) =
  [[.lit (lc "run "), .lit (lc "x="), .lit (lc "7"), .lit (lc " -n "), .lit (lc "3")]] := by decide +kernel

example : (match flattenOp (nsEnv [.lit (lc "settings="), .par (lc "env")] []) with
    | .invalid ph errs => (ph, errs)
    | _ => (0, [])) = (2, [.tmpl true 0 (some 0)]) := by decide +kernel

/-- hypotheses of `resolve_embedded_dictionary_flagged` / `dict_embedded_rejected_with_location` are satisfiable -/
example : ([(lc "env", [Tok.dict (lc "{A:1}")])] : Env).lookup (lc "env") = some [.dict (lc "{A:1}")] ∧
    lc "env" ∈ paramRefs [.lit (lc "settings="), .par (lc "env")] ∧
    isWholePar [.lit (lc "settings="), .par (lc "env")] = false := by decide +kernel

example : envOf [(lc "env", [.lit (lc "fast")])] (some (lc "env")) = none ∧
    envOf [] (some (lc "nosuch")) = none ∧
    envOf [(lc "env", [.lit (lc "none")])] (some (lc "env")) = some .empty := by decide +kernel

private def stagedInst : Inst :=
  ⟨[entryName, lc "c"], .tmpl true 0 (some 1), 1,
    [(lc "staged", [.ref [entryName, lc "p", lc "molecule.inp"] (some (lc "copy"))])], [.lit (lc "molecule.inp")],
    none, false, false, false⟩

/-- the hypotheses of `parameter_reference_kept` are satisfiable: a `:copy` reference that is only a parameter value -/
example : (match digest [([entryName, lc "p"], (0, lc "p")), ([entryName, lc "c"], (0, lc "c"))] false stagedInst with
    | .ok c => decide (c.refs = [.dref 0 (lc "p") [lc "molecule.inp"] (lc "copy")] ∧
        c.producers = [[entryName, lc "p"]] ∧ c.args = [.lit (lc "molecule.inp")])
    | _ => false) = true := by decide +kernel

example : (bindAll (fun d => d) [] [lc "a", lc "b", lc "a"]).1 = [0, 1, 0] ∧
    (bindAll (fun d => d) [] [lc "a", lc "b", lc "a"]).2 = [(lc "a", lc "a"), (lc "b", lc "b")] := by decide +kernel

end St4sd.C06
