import St4sd.Lemmas.C18Confine
import St4sd.Model.C18Stagers
/-!
# C18 — two interleaved stagers: extraction is LOCAL to the working directory

In a `Safe` working directory `d` the extraction of a vetted member reads and writes the file system under `d`
only (`extractOne_local`, from `extractOne_conf`).  So a step of one stager is invisible from inside the other
stager's directory, and each stager stays where its solo run is (`Track`): there is a file system that looks like
the shared one from inside `d` and from which the rest of the stager's work gives the solo result.
`WGood` is the invariant of the two-stager world under any schedule; `Props.C18.stagers_confined` and
`stager_receives_own_members` read their conclusions off `wgood_finish`.
-/
namespace St4sd.Confine
open St4sd.Str

/-- **one member is local to the working directory** -/
theorem extractOne_local {d : Path} {fs0 : Fs} {st1 st2 : St} {m : Member}
    (hg : Good d fs0 st1) (he : Eqv d st1 st2) (hm : MemberRel m) :
    Eqv d (extractOne d st1 m).1 (extractOne d st2 m).1 ∧ (extractOne d st1 m).2 = (extractOne d st2 m).2 :=
  have h := extractOne_conf hg he hm
  ⟨h.eqv, h.res⟩

/-- neither directory is the other one or lies below it -/
def Apart (dA dB : Path) : Prop := ¬ dA <:+ dB ∧ ¬ dB <:+ dA

theorem apart_under {dA dB p : Path} (h : Apart dA dB) (ha : dA <:+ p) : ¬ dB <:+ p := fun hb =>
  (List.suffix_or_suffix_of_suffix ha hb).elim h.1 h.2

theorem apart_symm {dA dB : Path} (h : Apart dA dB) : Apart dB dA := ⟨h.2, h.1⟩

theorem agree_of_frame {d d' : Path} {fs fs' : Fs} (hap : Apart d' d) (h : Frame d fs fs') : AgreeUnder d' fs' fs :=
  fun p hp => h p (apart_under hap hp)

theorem safe_congr {d : Path} {fs fs' : Fs} (ha : AgreeUnder d fs' fs) (hs : Safe d fs) : Safe d fs' :=
  fun p n hp hget => hs p n hp (ha p hp ▸ hget)

/-! ## one stager -/

/-- the private state of a stager whose working directory is `d`: its log lies under `d`, the members it still has to
extract were vetted -/
structure SGood (d : Path) (s : Stager) : Prop where
  dest : s.dest = d
  log : LogUnder d s.log
  rel : ∀ m ∈ s.todo, MemberRel m

theorem sgood_init (d : Path) (ms : List Member) : SGood d (Stager.init d ms) :=
  ite_elim (fun hc => ⟨rfl, nofun, memberRel_of_check hc⟩) fun _ => ⟨rfl, nofun, nofun⟩

/-- a stager operation on the shared file system `fs` (result `r1`) and on a file system that agrees with `fs`
under the stager's directory (result `r2`): the stager stays good, its directory safe, nothing outside its directory
changes, and both runs leave the same stager and file systems that still agree under the directory -/
structure SConfined (d : Path) (fs : Fs) (r1 r2 : Fs × Stager) : Prop where
  good : SGood d r1.2
  safe : Safe d r1.1
  frame : Frame d fs r1.1
  same : r1.2 = r2.2
  agree : AgreeUnder d r1.1 r2.1

variable {d : Path} {fs1 fs2 : Fs} {s : Stager}

theorem stager_step_conf (hs : Safe d fs1) (hg : SGood d s) (ha : AgreeUnder d fs1 fs2) :
    SConfined d fs1 (s.step fs1) (s.step fs2) := by
  obtain ⟨rfl, hlog, hrel⟩ := hg
  unfold Stager.step
  split
  · exact ⟨⟨rfl, hlog, hrel⟩, hs, fun _ _ => rfl, rfl, ha⟩
  · next m ms htodo =>
    rw [htodo] at hrel
    obtain ⟨sa, sb, e, h1, h2, hg1, hl, hagree⟩ := (extractOne_conf (st1 := ⟨fs1, s.log⟩) (st2 := ⟨fs2, s.log⟩)
      ⟨hs, hlog, fun _ _ => rfl⟩ ⟨rfl, ha⟩ (hrel m (List.mem_cons_self ..))).split
    rw [h1, h2]
    cases e with
    | none =>
      exact ⟨⟨rfl, hg1.log, fun m' h => hrel m' (List.mem_cons_of_mem _ h)⟩, hg1.safe, hg1.frame, by simp only [hl], hagree⟩
    | some x => exact ⟨⟨rfl, hg1.log, nofun⟩, hg1.safe, hg1.frame, by simp only [hl], hagree⟩

theorem stager_drain_conf (hs : Safe d fs1) (hg : SGood d s) (ha : AgreeUnder d fs1 fs2) :
    SConfined d fs1 (s.drain fs1) (s.drain fs2) := by
  obtain ⟨rfl, hlog, hrel⟩ := hg
  unfold Stager.drain
  split
  · exact ⟨⟨rfl, hlog, hrel⟩, hs, fun _ _ => rfl, rfl, ha⟩
  · obtain ⟨sa, sb, e, h1, h2, hg1, hl, hagree⟩ := (extractAll_conf s.todo ⟨fs1, s.log⟩ ⟨fs2, s.log⟩
      ⟨hs, hlog, fun _ _ => rfl⟩ ⟨rfl, ha⟩ hrel).split
    rw [h1, h2]
    exact ⟨⟨rfl, hg1.log, nofun⟩, hg1.safe, hg1.frame, by simp only [hl], hagree⟩

/-- a stager that still has members to extract has not answered yet -/
def Pending (s : Stager) : Prop := s.todo ≠ [] → s.res = none

theorem pending_init (d : Path) (ms : List Member) : Pending (Stager.init d ms) := by
  unfold Stager.init Pending
  split
  · exact fun _ => rfl
  · exact fun h => absurd rfl h

theorem pending_step (fs : Fs) (s : Stager) (hp : Pending s) : Pending (s.step fs).2 := by
  unfold Stager.step
  split
  · exact hp
  · next m ms htodo =>
    have hres : s.res = none := hp (htodo ▸ List.cons_ne_nil m ms)
    split
    · exact fun _ => hres
    · exact fun h => absurd rfl h

theorem drain_step (fs : Fs) (s : Stager) (hp : Pending s) :
    (s.step fs).2.drain (s.step fs).1 = s.drain fs := by
  unfold Stager.step
  cases htodo : s.todo with
  | nil => rfl
  | cons m ms =>
    have hres : s.res = none := hp (htodo ▸ List.cons_ne_nil m ms)
    simp only
    cases h1 : extractOne s.dest ⟨fs, s.log⟩ m with
    | mk st1 e =>
      cases e with
      | some x => simp only [Stager.drain, htodo, extractAll, h1]
      | none =>
        cases ms with
        | nil => simp only [Stager.drain, htodo, extractAll, h1, hres]    -- nothing left: the answer is still `none`
        | cons m2 ms2 => simp only [Stager.drain, htodo, extractAll, h1]

/-! ## a stager against its own solo run -/

/-- the stager `s` on the shared file system `fs` is where its solo run is: there is a file system `fsS` that looks
like `fs` from inside `d` and from which the rest of the stager's work gives the solo result -/
structure Track (d : Path) (solo : Fs × Stager) (fs : Fs) (s : Stager) : Prop where
  safe : Safe d fs
  good : SGood d s
  pend : Pending s
  sim : ∃ fsS, AgreeUnder d fs fsS ∧ Safe d fsS ∧ s.drain fsS = solo

variable {solo : Fs × Stager} {fs fs' : Fs}

theorem track_init (hs : Safe d fs) (ms : List Member) :
    Track d ((Stager.init d ms).drain fs) fs (Stager.init d ms) :=
  ⟨hs, sgood_init d ms, pending_init d ms, fs, agree_refl d fs, hs, rfl⟩

theorem track_step (ht : Track d solo fs s) : Track d solo (s.step fs).1 (s.step fs).2 := by
  obtain ⟨fsS, hagree, hsafeS, hdrain⟩ := ht.sim
  have h := stager_step_conf ht.safe ht.good hagree
  refine ⟨h.safe, h.good, pending_step _ _ ht.pend, (s.step fsS).1, h.agree,
    (stager_step_conf hsafeS ht.good (agree_refl d fsS)).safe, ?_⟩
  rw [h.same, drain_step _ _ ht.pend]
  exact hdrain

/-- somebody else's step, invisible from inside `d` -/
theorem track_frame (ht : Track d solo fs s) (h : AgreeUnder d fs' fs) : Track d solo fs' s :=
  have ⟨fsS, hagree, hS⟩ := ht.sim
  ⟨safe_congr h ht.safe, ht.good, ht.pend, fsS, agree_trans h hagree, hS⟩

theorem track_drain (ht : Track d solo fs s) : (s.drain fs).2 = solo.2 ∧ AgreeUnder d (s.drain fs).1 solo.1 := by
  obtain ⟨fsS, hagree, _, rfl⟩ := ht.sim
  have h := stager_drain_conf ht.safe ht.good hagree
  exact ⟨h.same, h.agree⟩

/-! ## the world of two stagers -/

theorem World.step_eq (w : World) (second : Bool) : w.step second =
    if second then { w with fs := (w.b.step w.fs).1, b := (w.b.step w.fs).2 }
    else { w with fs := (w.a.step w.fs).1, a := (w.a.step w.fs).2 } := rfl

theorem World.finish_eq (w : World) : w.finish =
    { fs := (w.b.drain (w.a.drain w.fs).1).1, a := (w.a.drain w.fs).2, b := (w.b.drain (w.a.drain w.fs).1).2 } := rfl

/-- both stagers track their solo runs `soloA`, `soloB`, and nothing outside the two directories differs from the
initial state `fs0` -/
structure WGood (dA dB : Path) (fs0 : Fs) (soloA soloB : Fs × Stager) (w : World) : Prop where
  a : Track dA soloA w.fs w.a
  b : Track dB soloB w.fs w.b
  frame : ∀ q, ¬ dA <:+ q → ¬ dB <:+ q → w.fs.get q = fs0.get q

variable {dA dB : Path} {fs0 : Fs} {soloA soloB : Fs × Stager} {w : World}

theorem wgood_step (hap : Apart dA dB) (hw : WGood dA dB fs0 soloA soloB w) (second : Bool) :
    WGood dA dB fs0 soloA soloB (w.step second) := by
  rw [World.step_eq]
  cases second with
  | true =>
    have h := (stager_step_conf hw.b.safe hw.b.good (agree_refl dB w.fs)).frame
    exact ⟨track_frame hw.a (agree_of_frame hap h), track_step hw.b,
      fun q hqa hqb => (h q hqb).trans (hw.frame q hqa hqb)⟩
  | false =>
    have h := (stager_step_conf hw.a.safe hw.a.good (agree_refl dA w.fs)).frame
    exact ⟨track_step hw.a, track_frame hw.b (agree_of_frame (apart_symm hap) h),
      fun q hqa hqb => (h q hqa).trans (hw.frame q hqa hqb)⟩

theorem wgood_sched (hap : Apart dA dB) (sched : List Bool) (hw : WGood dA dB fs0 soloA soloB w) :
    WGood dA dB fs0 soloA soloB (sched.foldl World.step w) :=
  List.foldlRecOn sched World.step hw fun _ h x _ => wgood_step hap h x

theorem wgood_finish (hap : Apart dA dB) (hw : WGood dA dB fs0 soloA soloB w) :
    (w.finish.a = soloA.2 ∧ AgreeUnder dA w.finish.fs soloA.1) ∧
    (w.finish.b = soloB.2 ∧ AgreeUnder dB w.finish.fs soloB.1) ∧
    (LogUnder dA w.finish.a.log ∧ LogUnder dB w.finish.b.log) ∧
    (∀ q, ¬ dA <:+ q → ¬ dB <:+ q → w.finish.fs.get q = fs0.get q) ∧ Safe dA w.finish.fs ∧ Safe dB w.finish.fs := by
  rw [World.finish_eq]
  have hA := stager_drain_conf hw.a.safe hw.a.good (agree_refl dA w.fs)
  have hb1 := track_frame hw.b (agree_of_frame (apart_symm hap) hA.frame)
  have hB := stager_drain_conf hb1.safe hb1.good (agree_refl dB _)
  have hAB := agree_of_frame hap hB.frame
  obtain ⟨ha1, ha2⟩ := track_drain hw.a
  exact ⟨⟨ha1, agree_trans hAB ha2⟩, track_drain hb1, ⟨hA.good.log, hB.good.log⟩,
    fun q hqa hqb => (hB.frame q hqb).trans ((hA.frame q hqa).trans (hw.frame q hqa hqb)),
    safe_congr hAB hA.safe, hB.safe⟩

end St4sd.Confine
