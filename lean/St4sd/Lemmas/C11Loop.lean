import St4sd.Model.ValidateLoop
import St4sd.Lemmas.C11Vars
/-!
# C11 — lemmas about packages with DoWhile documents (`Model/ValidateLoop.lean`)

What `docErrors l = []` / `loopErrorsFrom … = []` / `validateP … = []` say (`LoopOk`); the identifiers of the iterations;
where a reference of iteration `k+1` points (`target_succ`); an importing (`$import`) entry is neither a component nor a
placeholder of the loaded document.
-/
namespace St4sd.C11
open St4sd.ValSchema St4sd.Validate

/-- The duplicate checks of the loader (`dupErrors`, `dupErrorsExpanded`, `dupLooped`) differ only in the error they
build: when none is reported no identifier occurs twice. -/
theorem nodup_of_dups_nil {ε : Type} {dups : List Id → List ε} (err : Id → ε)
    (hcons : ∀ i rest, dups (i :: rest) = (if rest.contains i then [err i] else []) ++ dups rest)
    {l : List Id} (h : dups l = []) : l.Nodup := by
  induction l with
  | nil => exact List.nodup_nil
  | cons i rest ih =>
    rw [hcons, List.append_eq_nil_iff] at h
    refine List.nodup_cons.mpr ⟨fun hm => ?_, ih h.2⟩
    rw [if_pos (by simpa using hm)] at h
    cases h.1

/-- what `docErrors foreign l = []` says -/
structure LoopOk (foreign : List Id) (l : Loop) : Prop where
  nodup : (tmplIds l).Nodup
  bound : ∀ k ∈ l.inputs, ∃ i, lookup k l.bindings = some i
  declared : ∀ kv ∈ l.bindings ++ l.loopBindings, kv.1 ∈ l.inputs
  bindings : ∀ kv ∈ l.bindings, kv.2 ∈ foreign
  loopBindings : ∀ kv ∈ l.loopBindings, offset l kv.2 ∈ tmplIds l
  cond : offset l l.cond ∈ tmplIds l

theorem docErrors_nil {foreign : List Id} {l : Loop} (h : docErrors foreign l = []) : LoopOk foreign l := by
  unfold docErrors at h
  simp only [List.append_eq_nil_iff, List.map_eq_nil_iff, List.filter_eq_nil_iff] at h
  obtain ⟨⟨⟨⟨⟨h1, h2⟩, h3⟩, h4⟩, h5⟩, h6⟩ := h
  refine ⟨nodup_of_dups_nil LoopErr.duplicateLooped (fun _ _ => rfl) h1,
    fun k hk => Option.ne_none_iff_exists'.mp (by simpa using h2 k hk), fun kv hkv => by simpa using h3 kv hkv,
    fun kv hkv => by simpa using h4 kv hkv, fun kv hkv => by simpa using h5 kv hkv, ?_⟩
  split at h6
  · rename_i hc; simpa using hc
  · cases h6

theorem loopErrorsFrom_nil {mainIds : List Id} {loops : List Loop} (h : loopErrorsFrom mainIds loops = []) :
    ∀ l ∈ loops, ∃ foreign, LoopOk foreign l ∧
      ∀ i ∈ foreign, i ∈ mainIds ∨ ∃ l' ∈ loops, i ∈ tmplIds l' := by
  induction loops with
  | nil => intro l hl; cases hl
  | cons l0 rest ih =>
    unfold loopErrorsFrom at h
    rw [List.append_eq_nil_iff, List.map_eq_nil_iff] at h
    obtain ⟨h1, h2⟩ := h
    intro l hl
    rcases List.mem_cons.mp hl with rfl | hl
    · exact ⟨_, docErrors_nil h1, fun i hi => (List.mem_append.mp hi).imp_right List.mem_flatMap.mp⟩
    · obtain ⟨foreign, hok, hsub⟩ := ih h2 l hl
      exact ⟨foreign, hok, fun i hi =>
        (hsub i hi).imp_right fun ⟨l', hl', h⟩ => ⟨l', List.mem_cons_of_mem _ hl', h⟩⟩

theorem validateP_nil {tbl sch} {p : Package} (h : validateP tbl sch p = []) :
    loopErrorsFrom (ids p.main ++ stubIds p) p.loops = [] ∧ validate tbl sch (flatten p) = [] := by
  unfold validateP at h
  rw [List.append_eq_nil_iff, List.map_eq_nil_iff] at h
  exact h

/-! ### identifiers of the iterations -/

theorem ids_inst (l : Loop) (k : Nat) :
    (inst l k).map Comp.id = (tmplIds l).map (fun i => (i.1, iterName k i.2)) := by
  unfold inst tmplIds
  simp [List.map_map, Comp.id, Function.comp_def]

theorem iterName_inj (k : Nat) {a b : S} (h : iterName k a = iterName k b) : a = b := by
  unfold iterName at h
  have := List.append_cancel_left h
  exact (List.cons.inj this).2

theorem nodup_ids_inst {l : Loop} (h : (tmplIds l).Nodup) (k : Nat) : ((inst l k).map Comp.id).Nodup := by
  rw [ids_inst]
  refine List.Pairwise.map _ (fun a b hab heq => hab ?_) h
  obtain ⟨h1, h2⟩ := Prod.mk.inj heq
  exact Prod.ext h1 (iterName_inj k h2)

theorem rewriteRef_mem_inst {l : Loop} {t : TComp} (ht : t ∈ l.comps) {r : Id} (hr : r ∈ t.refs) (k : Nat) :
    ∃ c ∈ inst l k, rewriteRef l k r ∈ c.refs :=
  ⟨_, List.mem_map.mpr ⟨t, ht, rfl⟩, List.mem_map.mpr ⟨r, hr, rfl⟩⟩

theorem inst0_sub_flatten {p : Package} {l : Loop} (hl : l ∈ p.loops) {c : Comp} (hc : c ∈ inst l 0) :
    c ∈ (flatten p).comps := by
  unfold flatten
  exact List.mem_append_right _ (List.mem_flatMap.mpr ⟨l, hl, hc⟩)

theorem ids_flatten_sub_unrolled (p : Package) (l : Loop) (n : Nat) {i : Id} (h : i ∈ ids (flatten p)) :
    i ∈ ids (unrolled p l n) := by
  unfold ids unrolled at *
  simp only [List.map_append]
  exact List.mem_append_left _ h

theorem iter_mem_unrolled {p : Package} {l : Loop} (hl : l ∈ p.loops) {i : Id} (h : i ∈ tmplIds l) {j n : Nat}
    (hj : j ≤ n) : (i.1, iterName j i.2) ∈ ids (unrolled p l n) := by
  have hin : (i.1, iterName j i.2) ∈ (inst l j).map Comp.id := by
    rw [ids_inst]
    exact List.mem_map.mpr ⟨i, h, rfl⟩
  obtain ⟨c, hc, hcid⟩ := List.mem_map.mp hin
  rw [← hcid]
  cases j with
  | zero => exact ids_flatten_sub_unrolled p l n (List.mem_map_of_mem (inst0_sub_flatten hl hc))
  | succ j =>
    refine List.mem_map_of_mem (List.mem_append_right _ ?_)
    exact List.mem_flatMap.mpr ⟨j, List.mem_range.mpr hj, hc⟩

theorem target_succ (l : Loop) (k : Nat) (r : Id) :
    target (bindsAt l (k + 1)) l r =
      match lookup r.2 l.loopBindings with
      | some i0 => (l.stage + i0.1, iterName k i0.2)
      | none => target (bindsAt l 0) l r := by
  unfold target
  simp only [bindsAt]
  have hm := lookup_map_snd r.2 l.loopBindings (fun i => (l.stage + i.1, iterName k i.2))
  rw [lookup_append, hm]
  cases lookup r.2 l.loopBindings <;> rfl

/-! ### the importing (`$import`) entries are no components of the loaded document -/

theorem afterHash_iterName0 (n : S) : afterHash (iterName 0 n) = some n := by
  rfl

theorem mem_ids_flatten {p : Package} {i : Id} (h : i ∈ ids (flatten p)) :
    i ∈ ids p.main ∨ ∃ l ∈ p.loops, ∃ j ∈ tmplIds l, i = (j.1, iterName 0 j.2) := by
  unfold ids flatten at h
  simp only [List.map_append, List.mem_append] at h
  refine h.imp_right fun h => ?_
  obtain ⟨c, hc, rfl⟩ := List.mem_map.mp h
  obtain ⟨l, hl, hc⟩ := List.mem_flatMap.mp hc
  have : c.id ∈ (inst l 0).map Comp.id := List.mem_map_of_mem hc
  rw [ids_inst] at this
  obtain ⟨j, hj, hji⟩ := List.mem_map.mp this
  exact ⟨l, hl, j, hj, hji.symm⟩

theorem mem_placeholders_flatten {p : Package} {i : Id} (h : i ∈ placeholders (flatten p)) :
    i ∈ placeholders p.main ∨ ∃ l ∈ p.loops, i ∈ tmplIds l := by
  unfold placeholders flatten at h
  simp only [List.filterMap_append, List.mem_append] at h
  refine h.imp_right fun h => ?_
  obtain ⟨c, hc, hci⟩ := List.mem_filterMap.mp h
  obtain ⟨l, hl, hc⟩ := List.mem_flatMap.mp hc
  obtain ⟨t, ht, rfl⟩ := List.mem_map.mp hc
  rw [afterHash_iterName0] at hci
  cases hci
  exact ⟨l, hl, List.mem_map.mpr ⟨t, ht, rfl⟩⟩

/-- **an importing entry resolves to nothing**: an identifier whose name has no `#`, that no component and no
placeholder of the main document carries and that is no looped component of any document is neither a component
nor a placeholder of the loaded document. -/
theorem entry_not_resolved {p : Package} {e : Id} (hname : afterHash e.2 = none) (hmain : e ∉ ids p.main)
    (hph : e ∉ placeholders p.main) (htmpl : ∀ l ∈ p.loops, e ∉ tmplIds l) :
    refResolves (flatten p) e = false := by
  simp only [refResolves, Bool.or_eq_false_iff, List.contains_eq_mem, decide_eq_false_iff_not]
  refine ⟨fun h => ?_, fun h => ?_⟩
  · rcases mem_ids_flatten h with h1 | ⟨l, _, j, _, rfl⟩
    · exact hmain h1
    · rw [afterHash_iterName0] at hname
      cases hname
  · rcases mem_placeholders_flatten h with h1 | ⟨l, hl, h1⟩
    · exact hph h1
    · exact htmpl l hl h1

end St4sd.C11
