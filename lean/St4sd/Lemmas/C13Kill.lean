import St4sd.Lemmas.C13
/-! The kill-after-producers-done delay of the repeating-engine model (C13): its expiry makes the engine stop within
the sub-steps the poll in progress has left (`rank`) - never-ending tasks included, they are killed - unless a task that
never ends is launched after the expiry and nobody kills it: the expiry falls between the `_suicide` check of a poll
and its launch (`Pc.window`), the task is `hang`, and `killAfterLaunch` is off. -/
namespace St4sd.Repeat

/-- between the `_suicide` check at the start of a poll and the launch -/
def Pc.window : Pc → Bool
  | .checked _ _ => true
  | .sampled _ _ _ => true
  | _ => false

/-- how many sub-steps of the engine thread are left until the cancel event is set, once the delay has expired -/
def rank (s : St) : Nat :=
  if s.cancel then 0 else
  match s.pc with
  | .stopped => 0
  | .polled _ => 1
  | .ready _ _ _ _ _ _ => 1
  | .idle => 2
  | .running _ _ _ _ => 2
  | .sampled _ _ _ => 3
  | .checked _ _ => 4

/-- the delay has expired and the engine thread is not waiting for a never-ending task that nobody killed -/
def Expired (s : St) : Prop := s.suicide = true ∧ blocked s = false

def engCount : List Op → Nat
  | [] => 0
  | .eng _ :: r => engCount r + 1
  | .env _ :: r => engCount r

/-- `guardNone`, `killOnSuicidePoll` and `killAfterLaunch` -/
def Fixed3 (cfg : Cfg) : Prop := Fixed cfg ∧ cfg.killAfterLaunch = true

theorem rank_clock (s : St) (n : Nat) : rank { s with clock := n } = rank s := rfl
theorem blocked_clock (s : St) (n : Nat) : blocked { s with clock := n } = blocked s := rfl

theorem rank_zero (s : St) (h : rank s = 0) : s.cancel = true ∨ s.pc = .stopped := by
  grind [rank]

theorem rank_le (s : St) : rank s ≤ if s.pc.window then 4 else 2 := by
  grind [rank, Pc.window]

variable {cfg : Cfg} {s s' : St} {op : Op}

theorem Trans.die_expired (ht : Trans cfg s (.env .die) s') (ha : s.armed = true)
    (hk : s.pc.runningStarted = true → s.hasProc = true) : Expired s' ∧ s'.pc = s.pc := by
  cases ht <;> grind [Expired, blocked]

/-- after the expiry every sub-step of the engine thread brings the stop nearer and no operation takes it further
away, as long as no launch leaves a never-ending task unkilled: there is none outside the window, and inside it only if
the task is `hang` and `killAfterLaunch` is off -/
theorem Expired.trans (hf : Fixed cfg) (ht : Trans cfg s op s') (h : Expired s)
    (hl : s.pc.window = false ∨ op ≠ .eng .hang ∨ cfg.killAfterLaunch = true) :
    Expired s' ∧ (s.pc.window = false → s'.pc.window = false) ∧ rank s' ≤ rank s - engCount [op] := by
  obtain ⟨g1, g2⟩ := hf
  simp only [Expired] at h ⊢
  cases ht with
  | fin | outLate | out | dieUnarmed | adv => exact ⟨h, id, Nat.le_refl _⟩
  -- `hl` is for `launch`, the one transition that starts a task; `Expired` rules out `wait` and `check`, `Fixed`
  -- `pollExpiredOld` and `escape`
  | _ => grind [blocked, rank, Pc.window, engCount]

theorem expired_run (hf : Fixed cfg) : ∀ (h : List Op) (s : St), Expired s →
    (s.pc.window = false ∨ (∀ op ∈ h, op ≠ .eng .hang) ∨ cfg.killAfterLaunch = true) →
    rank (run cfg s h) ≤ rank s - engCount h
  | [], _, _, _ => Nat.le_refl _
  | op :: ops, s, hs, hl => by
    obtain ⟨h1, h2, h3⟩ := hs.trans hf (step_trans cfg s op) (by grind)
    have := expired_run hf ops _ h1 (by grind)
    have : engCount (op :: ops) = engCount ops + engCount [op] := by cases op <;> rfl
    rw [run]
    omega

/-- "… or the configured kill delay expires": the delay expires after a history `h` that leaves the timer pending; once
the engine thread has taken the sub-steps the poll in progress has left (two, inside the window four) the cancel event
is set, whatever else happens - provided no never-ending task can be launched after the expiry and stay unkilled -/
theorem expiry_stops (hf : Fixed cfg) (h h2 : List Op) (ha : (exec cfg h).armed = true)
    (hl : (exec cfg h).pc.window = false ∨ (∀ op ∈ h2, op ≠ .eng .hang) ∨ cfg.killAfterLaunch = true)
    (hn : (if (exec cfg h).pc.window then 4 else 2) ≤ engCount h2) :
    (exec cfg (h ++ Op.env .die :: h2)).cancel = true := by
  have hx : exec cfg (h ++ Op.env .die :: h2) = run cfg (step cfg (exec cfg h) (.env .die)) h2 := by
    simp only [exec, run_append, run]
  obtain ⟨-, -, hexit, -⟩ := (inv_exec cfg (h ++ Op.env .die :: h2)).b
  obtain ⟨-, -, -, -, hproc, -⟩ := (inv_exec cfg h).b
  obtain ⟨he, hpc⟩ := (step_trans cfg (exec cfg h) (.env .die)).die_expired ha hproc
  have hr := expired_run hf h2 _ he (by rwa [hpc])
  have := rank_le (step cfg (exec cfg h) (.env .die))
  rw [hpc] at this
  rw [hx] at hexit ⊢
  have hz : rank (run cfg (step cfg (exec cfg h) (.env .die)) h2) = 0 := by omega
  rcases rank_zero _ hz with h0 | h0
  · exact h0
  · exact hexit (Or.inr h0)

theorem blocked_step (cfg : Cfg) (s : St) (o : Outcome) (hb : blocked s = true) :
    step cfg s (.eng o) = { s with clock := s.clock + 1 } := by
  unfold blocked at hb
  split at hb
  next h => simp only [step, engStep, h, hb, ↓reduceIte]
  next => cases hb

theorem blocked_forever (cfg : Cfg) (o : Outcome) : ∀ (n : Nat) (s : St), blocked s = true →
    blocked (run cfg s (List.replicate n (.eng o))) = true ∧
    (run cfg s (List.replicate n (.eng o))).cancel = s.cancel ∧
    (run cfg s (List.replicate n (.eng o))).pc = s.pc
  | 0, _, hb => ⟨hb, rfl, rfl⟩
  | n + 1, s, hb => by
    rw [List.replicate_succ, run, blocked_step cfg s o hb]
    exact blocked_forever cfg o n _ hb

end St4sd.Repeat
