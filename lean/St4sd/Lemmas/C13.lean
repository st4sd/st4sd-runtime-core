import St4sd.Model.Repeat
/-! The repeating-engine model (C13) as a transition system.  `Trans` lists the transitions of `step`, one constructor
per path through `envStep` / `engStep` / `post`, the guards of the path as premises.  The invariants are proved by
cases on `Trans`: every case is a statement about a few fields of `s` and of an explicit `{ s with … }`, and a transition
that changes no field the invariant reads is closed by the hypothesis itself. -/
namespace St4sd.Repeat

theorem run_append (cfg : Cfg) : ∀ (h1 h2 : List Op) (s : St),
    run cfg s (h1 ++ h2) = run cfg (run cfg s h1) h2
  | [], _, _ => rfl
  | _ :: ops, h2, _ => run_append cfg ops h2 _

theorem exec_snoc (cfg : Cfg) (h : List Op) (op : Op) : exec cfg (h ++ [op]) = step cfg (exec cfg h) op := by
  simp only [exec, run_append, run]

theorem doKill_eq (c : Cause) (s : St) :
    doKill c s = { s with cancel := true, cause := if s.cancel then s.cause else some c } := by
  cases s
  unfold doKill
  split <;> simp_all

/-! registers of the poll in progress (in an importing file `grind` evaluates the catch-all case of these only when they
are named in the call, as in `grind [Pc.pdws]`) -/
@[grind] def Pc.pdws : Pc → Bool
  | .sampled _ _ p => p | .running _ _ p _ => p | .ready _ _ p _ _ _ => p | _ => false
@[grind] def Pc.fc : Pc → Bool
  | .checked _ f => f | .sampled _ f _ => f | .running _ f _ _ => f | .ready _ f _ _ _ _ => f | _ => false
@[grind] def Pc.isNew : Pc → Bool
  | .checked n _ => n | .sampled n _ _ => n | .running n _ _ _ => n | .ready n _ _ _ _ _ => n | _ => false
/-- inside the body of a normal poll -/
@[grind] def Pc.mid : Pc → Bool
  | .checked _ _ => true | .sampled _ _ _ => true | .running _ _ _ _ => true | .ready _ _ _ _ _ _ => true
  | _ => false
/-- past the sample of producers_done_when_i_started -/
@[grind] def Pc.past : Pc → Bool
  | .sampled _ _ _ => true | .running _ _ _ _ => true | .ready _ _ _ _ _ _ => true | _ => false
@[grind] def Pc.launched : Pc → Bool
  | .running _ _ _ _ => true | .ready _ _ _ d _ _ => d | _ => false
@[grind] def Pc.skipped : Pc → Bool
  | .ready _ _ _ d _ _ => !d | _ => false
/-- no poll body can follow without the monitor looking at the cancel event again -/
@[grind] def Pc.quiet : Pc → Bool
  | .idle => true | .polled true => true | .stopped => true | _ => false
/-- the launch of the poll in progress returned a Task object -/
@[grind] def Pc.startedNow : Pc → Bool
  | .running _ _ _ o => o != .raised
  | .ready _ _ _ d _ r => d && !r
  | _ => false
/-- … and the engine waits for it -/
@[grind] def Pc.runningStarted : Pc → Bool
  | .running _ _ _ o => o != .raised
  | _ => false
/-- the poll in progress judged its own execution successful -/
@[grind] def Pc.rc0 : Pc → Bool
  | .ready _ _ _ d r _ => d && r
  | _ => false

inductive Trans (cfg : Cfg) (s : St) : Op → St → Prop
  | fin : Trans cfg s (.env .fin)
      { s with clock := s.clock + 1, prodDone := true, finTime := if s.prodDone then s.finTime else s.clock,
               armed := s.armed || (cfg.dieAfter && alive s) }
  | outLate (c) : (s.prodDone || !cfg.isProd c) = true → Trans cfg s (.env (.out c)) { s with clock := s.clock + 1 }
  | out (c) : (s.prodDone || !cfg.isProd c) = false → Trans cfg s (.env (.out c))
      { s with clock := s.clock + 1, hasOutput := true, lastOutput := s.clock, outs := c :: s.outs }
  | kill : Trans cfg s (.env .kill)
      { s with clock := s.clock + 1, cancel := true, cause := if s.cancel then s.cause else some .external }
  | dieUnarmed : s.armed = false → Trans cfg s (.env .die) { s with clock := s.clock + 1 }
  -- the timer fires while `self.process` exists: the task is signalled (if the engine waits for one), nothing else
  | dieSignal : s.armed = true → s.hasProc = true → Trans cfg s (.env .die)
      { s with clock := s.clock + 1, armed := false, suicide := true,
               procKilled := s.procKilled || s.pc.runningStarted }
  | dieStop : s.armed = true → s.hasProc = false → Trans cfg s (.env .die)
      { s with clock := s.clock + 1, armed := false, suicide := true, kc := true, cancel := true,
               cause := if s.cancel then s.cause else some .killDelay }
  | adv : Trans cfg s (.env .adv) { s with clock := s.clock + 1, aged := true }
  | begin (o) : s.pc = .idle → Trans cfg s (.eng o)
      { s with clock := s.clock + 1, pc := .polled s.cancel, started := true }
  | exit (o) : s.pc = .polled true → Trans cfg s (.eng o) { s with clock := s.clock + 1, kc := true, pc := .stopped }
  | pollExpired (o) : s.pc = .polled false → s.suicide = true → cfg.killOnSuicidePoll = true → Trans cfg s (.eng o)
      { s with clock := s.clock + 1, kc := false, pollsFin := s.pollsFin + b2n s.prodDone, pc := .idle,
               books := s.books + 1, cancel := true, cause := if s.cancel then s.cause else some .killDelay }
  | pollExpiredOld (o) : s.pc = .polled false → s.suicide = true → cfg.killOnSuicidePoll = false →
      Trans cfg s (.eng o)
        { s with clock := s.clock + 1, kc := false, pollsFin := s.pollsFin + b2n s.prodDone, pc := .idle }
  | check (o) : s.pc = .polled false → s.suicide = false → Trans cfg s (.eng o)
      { s with clock := s.clock + 1, pollsFin := s.pollsFin + b2n s.prodDone,
               pc := .checked (if s.prodDone && s.aged then true else outSince cfg s) s.prodDone }
  | sample (o n f) : s.pc = .checked n f → Trans cfg s (.eng o)
      { s with clock := s.clock + 1, pc := .sampled n f s.prodDone }
  | launch (o n f p) : s.pc = .sampled n f p →
      ((s.consume || canConsume cfg s.outs) && (n || cfg.noProd)) = true → Trans cfg s (.eng o)
      { s with clock := s.clock + 1, consume := s.consume || canConsume cfg s.outs, lastLaunched := s.clock,
               aged := false, execLog := ⟨s.clock, p, canConsume cfg s.outs, o != .raised⟩ :: s.execLog,
               hasProc := s.hasProc || (o != .raised),
               procKilled := cfg.killAfterLaunch && s.suicide && (o != .raised), pc := .running n f p o }
  | skip (o n f p) : s.pc = .sampled n f p →
      ((s.consume || canConsume cfg s.outs) && (n || cfg.noProd)) = false → Trans cfg s (.eng o)
      { s with clock := s.clock + 1, consume := s.consume || canConsume cfg s.outs,
               pc := .ready n f p false false false }
  | wait (o n f p o') : s.pc = .running n f p o' → (o' == .hang && !s.procKilled) = true → Trans cfg s (.eng o)
      { s with clock := s.clock + 1 }
  | taskEnd (o n f p o') : s.pc = .running n f p o' → (o' == .hang && !s.procKilled) = false →
      Trans cfg s (.eng o)
        { s with clock := s.clock + 1, pc := .ready n f p true (o' == .ok && !s.procKilled) (o' == .raised) }
  -- the bookkeeping of `post`, in the order of its tests
  | unjudged (o n f p d r e) : s.pc = .ready n f p d r e → (p || s.suicide) = false → Trans cfg s (.eng o)
      { s with clock := s.clock + 1, pc := .idle }
  | escape (o n f p d r e) : s.pc = .ready n f p d r e → (p || s.suicide) = true →
      (d && e && !cfg.guardNone) = true → Trans cfg s (.eng o) { s with clock := s.clock + 1, pc := .idle }
  | success (o n f p d r e) : s.pc = .ready n f p d r e → (p || s.suicide) = true →
      (d && e && !cfg.guardNone) = false → (d && r) = true → Trans cfg s (.eng o)
      { s with clock := s.clock + 1, pc := .idle, books := s.books + 1, cancel := true,
               cause := if s.cancel then s.cause else some (if s.suicide then .killDelay else .success) }
  | expired (o n f p d r e) : s.pc = .ready n f p d r e → (d && e && !cfg.guardNone) = false → (d && r) = false →
      s.suicide = true → Trans cfg s (.eng o)
      { s with clock := s.clock + 1, kc := true, pc := .idle, books := s.books + 1, cancel := true,
               cause := if s.cancel then s.cause else some .killDelay }
  | usedUp (o n f p d r e) : s.pc = .ready n f p d r e → (p || s.suicide) = true →
      (d && e && !cfg.guardNone) = false → (d && r) = false → s.suicide = false → s.retries = 0 →
      Trans cfg s (.eng o)
        { s with clock := s.clock + 1, pc := .idle, books := s.books + 1, cancel := true,
                 cause := if s.cancel then s.cause else some .retries }
  | retry (o n f p d r e) : s.pc = .ready n f p d r e → (p || s.suicide) = true →
      (d && e && !cfg.guardNone) = false → (d && r) = false → s.suicide = false → s.retries ≠ 0 →
      Trans cfg s (.eng o)
        { s with clock := s.clock + 1, retries := s.retries - 1, pc := .idle, books := s.books + 1 }
  | stopped (o) : s.pc = .stopped → Trans cfg s (.eng o) { s with clock := s.clock + 1 }

theorem step_trans (cfg : Cfg) (s : St) (op : Op) : Trans cfg s op (step cfg s op) := by
  rcases op with e | o
  · cases e with
    | fin => exact .fin
    | adv => exact .adv
    | kill => simpa only [step, envStep, doKill_eq] using Trans.kill
    | out c =>
      simp only [step, envStep]
      split
      next h => exact .outLate c h
      next h => exact .out c (eq_false_of_ne_true h)
    | die =>
      simp only [step, envStep, doKill_eq]
      split
      next ha =>
        split
        next hp =>
          have := Trans.dieSignal (cfg := cfg) ha hp
          cases hpc : s.pc <;> simp only [hpc, Pc.runningStarted, Bool.or_false] at this ⊢
          case running n f p o' =>
            split
            next h => simpa only [h, bne_self_eq_false, Bool.or_false] using this
            next h => simpa only [bne_iff_ne.mpr h, Bool.or_true] using this
          all_goals exact this
        next hp => exact .dieStop ha (eq_false_of_ne_true hp)
      next ha => exact .dieUnarmed (eq_false_of_ne_true ha)
  · simp only [step, engStep, post, doKill_eq]
    split
    next h => exact .begin o h
    next h => exact .exit o h
    next h =>
      split
      next hs =>
        split
        next hk => exact .pollExpired o h hs hk
        next hk => exact .pollExpiredOld o h hs (eq_false_of_ne_true hk)
      next hs => exact .check o h (eq_false_of_ne_true hs)
    next n f h => exact .sample o n f h
    next n f p h =>
      split
      next hg => exact .launch o n f p h hg
      next hg => exact .skip o n f p h (eq_false_of_ne_true hg)
    next n f p o' h =>
      split
      next hg => exact .wait o n f p o' h hg
      next hg => exact .taskEnd o n f p o' h (eq_false_of_ne_true hg)
    next n f p d r e h =>
      -- `split` is slow on this nest of six structure updates: the tests are named instead
      by_cases hj : (p || s.suicide) = true
      · rw [if_pos hj]
        by_cases he : (d && e && !cfg.guardNone) = true
        · rw [if_pos he]
          exact .escape o n f p d r e h hj he
        · rw [if_neg he]
          have he := eq_false_of_ne_true he
          by_cases hr : (d && r) = true
          · rw [if_pos hr]
            exact .success o n f p d r e h hj he hr
          · rw [if_neg hr]
            have hr := eq_false_of_ne_true hr
            by_cases hs : s.suicide = true
            · rw [if_pos hs]
              exact .expired o n f p d r e h he hr hs
            · rw [if_neg hs]
              have hs := eq_false_of_ne_true hs
              by_cases h0 : s.retries = 0
              · rw [if_pos h0]
                exact .usedUp o n f p d r e h hj he hr hs h0
              · rw [if_neg h0]
                exact .retry o n f p d r e h hj he hr hs h0
      · rw [if_neg hj]
        exact .unjudged o n f p d r e h (eq_false_of_ne_true hj)
    next h => exact .stopped o h

/-! ## What single fields do in one transition -/

variable {cfg : Cfg} {s s' : St} {op : Op}

theorem Trans.outs (ht : Trans cfg s op s') :
    s'.outs = s.outs ∨ ∃ c, op = .env (.out c) ∧ s'.outs = c :: s.outs := by
  cases ht with
  | out c => exact .inr ⟨c, rfl, rfl⟩
  | _ => exact .inl rfl

theorem outs_sound (cfg : Cfg) (c : Nat) : ∀ (h : List Op) (s : St),
    c ∈ (run cfg s h).outs → c ∈ s.outs ∨ Op.env (.out c) ∈ h
  | [], _, hc => Or.inl hc
  | op :: ops, s, hc => by
    rcases outs_sound cfg c ops _ hc with h1 | h1
    · rcases (step_trans cfg s op).outs with h2 | ⟨d, hd, h2⟩ <;> rw [h2] at h1
      · exact Or.inl h1
      · rcases List.mem_cons.mp h1 with h3 | h3
        · exact Or.inr (h3 ▸ hd ▸ List.mem_cons_self)
        · exact Or.inl h3
    · exact Or.inr (List.mem_cons_of_mem _ h1)

theorem outs_of_history (cfg : Cfg) (h : List Op) (c : Nat) (hc : c ∈ (exec cfg h).outs) :
    c ∈ cfg.pre ∨ Op.env (.out c) ∈ h :=
  (outs_sound cfg c h _ hc).imp_left fun h1 => (List.mem_filter.mp h1).1

theorem Trans.launches (ht : Trans cfg s op s') (hl : s'.execLog ≠ s.execLog) :
    (s.consume || canConsume cfg s.outs) = true := by
  cases ht with
  | launch _ _ _ _ _ hg => exact ((Bool.and_eq_true _ _).mp hg).1
  | _ => exact absurd rfl hl

theorem Trans.prodDone (ht : Trans cfg s op s') : s'.prodDone = (s.prodDone || decide (op = .env .fin)) := by
  cases ht <;> simp

theorem run_prodDone (cfg : Cfg) : ∀ (h : List Op) (s : St),
    (run cfg s h).prodDone = (s.prodDone || decide (Op.env .fin ∈ h))
  | [], s => by simp [run]
  | op :: ops, s => by
    rw [run, run_prodDone cfg ops, (step_trans cfg s op).prodDone]
    grind

theorem Trans.env {e : Ev} (ht : Trans cfg s (.env e) s') :
    s'.started = s.started ∧ (e ≠ .kill → e ≠ .die → s'.cancel = s.cancel) := by
  cases ht <;> simp

theorem run_envs (cfg : Cfg) : ∀ (es : List Ev) (s : St), (run cfg s (envs es)).started = s.started ∧
    (Ev.kill ∉ es → Ev.die ∉ es → (run cfg s (envs es)).cancel = s.cancel)
  | [], _ => ⟨rfl, fun _ _ => rfl⟩
  | e :: es, s => by
    obtain ⟨h1, h2⟩ := (step_trans cfg s (.env e)).env
    obtain ⟨h3, h4⟩ := run_envs cfg es (step cfg s (.env e))
    refine ⟨h3.trans h1, fun hk hd => ?_⟩
    rw [List.mem_cons, not_or] at hk hd
    exact (h4 hk.2 hd.2).trans (h2 (Ne.symm hk.1) (Ne.symm hd.1))

theorem canConsume_iff (cfg : Cfg) (outs : List Nat) :
    canConsume cfg outs = true ↔ ∀ p ∈ cfg.prods, p.same = true → p.id ∈ outs := by
  simp [canConsume, Decidable.imp_iff_not_or]

theorem canConsume_mono (cfg : Cfg) (outs : List Nat) (c : Nat) (h : canConsume cfg outs = true) :
    canConsume cfg (c :: outs) = true :=
  (canConsume_iff ..).mpr fun p hp hs => List.mem_cons_of_mem _ ((canConsume_iff ..).mp h p hp hs)

/-- A: whoever consumes has something to consume from EVERY producer of its own stage; every launch happened
with output of every same-stage producer available, and none before the `consume` flag was set; `hasOutput` is
"some producer has output" -/
def InvA (cfg : Cfg) (s : St) : Prop :=
  (s.consume = true → canConsume cfg s.outs = true) ∧ (∀ e ∈ s.execLog, e.avail = true) ∧
  (s.execLog ≠ [] → s.consume = true) ∧ (∀ c ∈ s.outs, s.hasOutput = true ∧ cfg.isProd c = true)

theorem InvA.trans (ht : Trans cfg s op s') (h : InvA cfg s) : InvA cfg s' := by
  simp only [InvA] at h ⊢
  cases ht with
  | out => grind [canConsume_mono]
  -- the flag becomes `consume || canConsume`, and `consume` implied `canConsume` already: a launch finds `avail`
  | launch | skip => grind
  | _ => exact h

def selfCause (s : St) : Prop := s.cause = some .success ∨ s.cause = some .retries

/-- B: who cancelled, and that nobody but an external `kill()` does before the producers finished; with a kill delay
configured, from the producers-finished notification on the delay timer is pending (`armed`), has expired (`suicide`)
or the engine had been cancelled; the task the engine waits for is `self.process`; the engine's own bookkeeping cancels
at the end of a poll only; flags that imply that the producers finished -/
def InvB (cfg : Cfg) (s : St) : Prop :=
  ((s.cause = some .success ∨ s.cause = some .retries ∨ s.cause = some .killDelay) → s.prodDone = true) ∧
  (s.cancel = true ↔ s.cause ≠ none) ∧
  (s.pc = .polled true ∨ s.pc = .stopped → s.cancel = true) ∧
  (cfg.dieAfter = true → s.prodDone = true → s.armed = true ∨ s.suicide = true ∨ s.cancel = true) ∧
  (s.pc.runningStarted = true → s.hasProc = true) ∧
  (selfCause s → s.pc.quiet = true) ∧
  (s.armed = true → s.prodDone = true) ∧ (s.suicide = true → s.prodDone = true) ∧
  (s.pc.pdws = true → s.prodDone = true) ∧ (s.pc.fc = true → s.prodDone = true)

theorem InvB.trans (ht : Trans cfg s op s') (h : InvB cfg s) : InvB cfg s' := by
  simp only [InvB, selfCause] at h ⊢
  cases ht with
  | outLate | out | dieUnarmed | adv | wait | stopped => exact h
  -- the timer is not armed for a dead engine only, and a dead engine has been cancelled
  | fin => grind [alive]
  -- the engine stops itself under `pdws || suicide` only, and either flag says that the producers finished
  | _ => grind

/-- the newest attempt of a log (of the empty one: an attempt that was never started) -/
@[grind] def newest : List Exec → Exec
  | e :: _ => e
  | [] => ⟨0, false, false, false⟩

theorem head?_newest : ∀ {l : List Exec}, l ≠ [] → l.head? = some (newest l)
  | _ :: _, _ => rfl

/-- T: what the log says about the last launch and about the attempt of the poll in progress; the order of the time
stamps -/
def InvT (s : St) : Prop :=
  (newest s.execLog).launch = s.lastLaunched ∧
  0 < s.clock ∧ s.lastLaunched < s.clock ∧ s.lastOutput < s.clock ∧
  (s.prodDone = true → s.finTime < s.clock ∧ s.lastOutput ≤ s.finTime) ∧
  (s.pc.launched = true → s.execLog ≠ [] ∧ (newest s.execLog).pdws = s.pc.pdws ∧ (newest s.execLog).started = s.pc.startedNow ∧
    (s.pc.pdws = true → s.finTime ≤ s.lastLaunched))

theorem InvT.trans (ht : Trans cfg s op s') (hB : InvB cfg s) (h : InvT s) : InvT s' := by
  simp only [InvT] at h ⊢
  cases ht with
  -- a poll that sampled the producers as finished did so after the first `fin` (B): a later `fin` leaves `finTime`
  -- alone, and the launch of such a poll is stamped after `finTime`
  | fin | launch => simp only [InvB] at hB; grind
  | _ => grind

/-- F: what the stop/retry bookkeeping of a poll judges is the attempt of THAT poll.  A stop by `success` needs an
execution that was really started (the task generator returned a Task object) in a poll that sampled the producers as
finished, i.e. after the producers' last output; a stop by `retries` happens only with no retry left. -/
def InvF (s : St) : Prop :=
  (s.pc.rc0 = true → s.pc.startedNow = true) ∧
  (s.cause = some .success →
    s.execLog ≠ [] ∧ (newest s.execLog).started = true ∧ (newest s.execLog).pdws = true ∧
    s.lastOutput ≤ s.lastLaunched) ∧
  (s.cause = some .retries → s.retries = 0)

theorem InvF.trans (ht : Trans cfg s op s') (hB : InvB cfg s) (hT : InvT s) (h : InvF s) : InvF s' := by
  simp only [InvF] at h ⊢
  cases ht with
  | fin | outLate | dieUnarmed | dieSignal | adv | wait | stopped => exact h
  -- after a stop by `success` the producers are finished and the poll is over (B): no `out`, no `launch`.  `success`
  -- judges the newest log entry (T), and unless the delay has expired (cause `killDelay`) its poll sampled the
  -- producers as finished: `lastOutput ≤ finTime ≤ lastLaunched` (T)
  | out | launch | success => simp only [InvB, InvT, selfCause] at hB hT; grind
  | _ => grind

/-- The code with the two repairs that the bound on the polls needs: `guardNone` (fixes/C13-launch-raises.diff: a launch
that raises is a failed attempt and goes through the retry bookkeeping) and `killOnSuicidePoll`
(fixes/C13-kill-delay-between-polls.diff: a poll that finds `_suicide` set calls `kill()`).  The third switch of `Cfg`,
`killAfterLaunch` (fixes/C13-kill-delay-expires-before-launch.diff: a task launched after the delay expired is killed at
once), matters for the kill delay only: `Fixed3` in `Lemmas/C13Kill.lean`. -/
def Fixed (cfg : Cfg) : Prop := cfg.guardNone = true ∧ cfg.killOnSuicidePoll = true

/-- C: counting polls after the producers finished -/
def InvC (cfg : Cfg) (s : St) : Prop :=
  (s.pc.past = true → s.pc.fc = true → s.pc.pdws = true) ∧
  s.books + s.retries ≤ cfg.retries + 1 ∧
  ((s.cancel = false ∨ s.pc.mid = true ∨ s.pc = .polled false) → s.books + s.retries ≤ cfg.retries) ∧
  s.pollsFin ≤ s.books + (if s.pc.mid = true ∧ s.pc.fc = true then 1 else 0)

theorem InvC.trans (hf : Fixed cfg) (ht : Trans cfg s op s') (hB : InvB cfg s) (h : InvC cfg s) : InvC cfg s' := by
  obtain ⟨g1, g2⟩ := hf
  simp only [InvC] at h ⊢
  cases ht with
  | fin | outLate | out | dieUnarmed | dieSignal | adv | wait | stopped => exact h
  -- the flag is never reset (B): a poll that began with it set samples it as set, so `unjudged` ends no counted poll
  | sample => simp only [InvB] at hB; grind
  -- `check` counts a poll in `pollsFin`, its bookkeeping counts it in `books`; `Fixed` rules out the two ways past
  -- the bookkeeping, `pollExpiredOld` and `escape`
  | _ => grind [b2n]

/-- D: the final producer output is looked at before the engine stops by itself.  Once a retry has been used up the
producers are finished, so every later poll begins after that (`fc`); with `1 ≤ repeatRetries` the poll that finds the
retries used up is such a poll.  It launched - after the last output, by T - or skipped the launch, and a poll that can
consume skips only if its check found nothing newer than the last launch (`isNew = false`). -/
def InvD (cfg : Cfg) (s : St) : Prop :=
  (selfCause s → s.consume = true → s.hasOutput = true → s.execLog ≠ [] ∧ s.lastOutput ≤ s.lastLaunched) ∧
  s.retries ≤ cfg.retries ∧
  (s.hasOutput = true → 0 < s.lastOutput) ∧
  (s.retries < cfg.retries → s.prodDone = true ∧ (s.pc.mid = true → s.pc.fc = true)) ∧
  (s.pc.mid = true → s.pc.fc = true → s.pc.isNew = false → cfg.noProd = false → s.hasOutput = true →
      s.lastOutput ≤ s.lastLaunched) ∧
  (s.pc.skipped = true → s.consume = false ∨ (s.pc.isNew = false ∧ cfg.noProd = false))

theorem InvD.trans (hr : 1 ≤ cfg.retries) (ht : Trans cfg s op s') (hB : InvB cfg s) (hT : InvT s)
    (h : InvD cfg s) : InvD cfg s' := by
  simp only [InvD, selfCause] at h ⊢
  cases ht with
  | outLate | dieUnarmed | dieSignal | adv | wait | stopped => exact h
  -- B: after a self stop the producers are finished and the poll is over, so no `out`, `launch` or `skip` follows it;
  -- no `out` falls into a poll begun after `fin`; `retry` ends a poll that sampled the producers as finished.
  -- `success` and `usedUp` judge an attempt launched after `finTime` (T), or (`usedUp`) a skipped one: then
  -- `0 < lastOutput ≤ lastLaunched`, so the log is not empty (T)
  | out | launch | skip | success | usedUp | retry => simp only [InvB, InvT, selfCause] at hB hT; grind
  -- what `isNew = false` says: no output is newer than the last launch
  | check => grind [outSince]
  | _ => grind

/-- all of them, for the states reached from `init`: C for the repaired code, D for a component with retries and
without producer output that predates `run()` -/
structure Inv (cfg : Cfg) (s : St) : Prop where
  a : InvA cfg s
  b : InvB cfg s
  t : InvT s
  f : InvF s
  c : Fixed cfg → InvC cfg s
  d : 1 ≤ cfg.retries → cfg.preOutput = false → InvD cfg s

theorem Inv.trans (ht : Trans cfg s op s') (h : Inv cfg s) : Inv cfg s' where
  a := h.a.trans ht
  b := h.b.trans ht
  t := h.t.trans ht h.b
  f := h.f.trans ht h.b h.t
  c hf := (h.c hf).trans hf ht h.b
  d hr hp := (h.d hr hp).trans hr ht h.b h.t

theorem inv_run (cfg : Cfg) : ∀ (h : List Op) (s : St), Inv cfg s → Inv cfg (run cfg s h)
  | [], _, hs => hs
  | op :: ops, s, hs => inv_run cfg ops _ (hs.trans (step_trans cfg s op))

theorem inv_init (cfg : Cfg) : Inv cfg (init cfg) where
  a := by
    simp only [InvA, init, Cfg.preOutput]
    grind
  b := by simp [InvB, init, selfCause, Pc.pdws, Pc.fc, Pc.runningStarted]
  t := by simp [InvT, init, newest, Pc.launched]
  f := by simp [InvF, init, Pc.rc0]
  c _ := by simp [InvC, init, Pc.pdws, Pc.fc, Pc.mid, Pc.past]
  d _ hp := by simp [InvD, init, selfCause, Pc.mid, Pc.skipped, hp]

theorem inv_exec (cfg : Cfg) (h : List Op) : Inv cfg (exec cfg h) :=
  inv_run cfg h _ (inv_init cfg)

end St4sd.Repeat
