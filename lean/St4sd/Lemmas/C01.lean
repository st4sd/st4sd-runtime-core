import St4sd.Lemmas.CtrlOps
/-!
# C01 — the launch log: what a scheduler pass saw of the producers of a component it launched

The state invariant is `Inv`: `Core` (`Lemmas/CtrlOps.lean`), every log entry is `EntryOk` (the launch rules),
and every component with `ran = true` has a log entry.  Operations other than a scheduler pass leave the log
alone (`Ext`); within a pass a component that was found ready stays ready until it is launched (`Frame`).
-/
namespace St4sd.C01L
open St4sd.Ctrl

/-! ## the scheduler pass -/

structure EntryOk (wf : Wf) (e : Nat × List (Nat × View)) : Prop where
  preds : e.2.map Prod.fst = (wf.cdef e.1).preds
  final : ∀ pv ∈ e.2, pv.2.state.isSome = true ∨
      ((wf.cdef e.1).isRepeat = true ∧ (wf.cdef pv.1).stage = (wf.cdef e.1).stage ∧ pv.2.staged = true)
  nofail : ∀ pv ∈ e.2, pv.2.state ≠ some .failed
  nonagg : (wf.cdef e.1).isAgg = false → ∀ pv ∈ e.2, pv.2.state ≠ some .shutdown
  agg1 : (wf.cdef e.1).isAgg = true → ∀ pv ∈ e.2, (wf.cdef pv.1).isRepl = false → pv.2.state ≠ some .shutdown
  agg2 : (wf.cdef e.1).isAgg = true → (∃ pv ∈ e.2, (wf.cdef pv.1).isRepl = true) →
      ∃ pv ∈ e.2, (wf.cdef pv.1).isRepl = true ∧ pv.2.state ≠ some .shutdown

structure Inv (wf : Wf) (s : St) : Prop where
  core : Core s
  log : ∀ e ∈ s.log, EntryOk wf e
  ran : ∀ c, (s.comp c).ran = true → ∃ e ∈ s.log, e.1 = c

theorem Inv.of_ext {wf : Wf} {s s' : St} (h : Inv wf s) (p : Core s' ∧ Ext s s') : Inv wf s' ∧ Keeps s s' :=
  ⟨⟨p.1, by rw [p.2.log]; exact h.log, fun c hr => by rw [p.2.log]; exact h.ran c (by rw [← p.2.ran c]; exact hr)⟩,
   p.2.ctrl⟩

theorem Inv.of_quiet {wf : Wf} {s s' : St} (h : Inv wf s) (p : Core s' ∧ Quiet s s') : Inv wf s' ∧ Keeps s s' :=
  h.of_ext ⟨p.1, p.2.ext⟩

/-- what the scheduler established about a component it put on the ready list -/
structure ReadyP (wf : Wf) (s : St) (c : Nat) : Prop where
  deps : ∀ p ∈ (wf.cdef c).preds, s.done p = true ∨
      ((wf.cdef c).isRepeat = true ∧ (wf.cdef p).stage = (wf.cdef c).stage ∧ (s.comp p).staged = true)
  nofail : ∀ p ∈ (wf.cdef c).preds, (s.comp p).ctrl ≠ some .failed
  nonagg : (wf.cdef c).isAgg = false → ∀ p ∈ (wf.cdef c).preds, (s.comp p).ctrl ≠ some .shutdown
  agg1 : (wf.cdef c).isAgg = true → ∀ p ∈ (wf.cdef c).preds, (wf.cdef p).isRepl = false →
      (s.comp p).ctrl ≠ some .shutdown
  agg2 : (wf.cdef c).isAgg = true → (∃ p ∈ (wf.cdef c).preds, (wf.cdef p).isRepl = true) →
      ∃ p ∈ (wf.cdef c).preds, (wf.cdef p).isRepl = true ∧ (s.comp p).ctrl ≠ some .shutdown

/-- the part of the state a ready component depends on is untouched -/
structure Frame (s s' : St) : Prop where
  done : s'.done = s.done
  ctrl : ∀ p, (s.done p = true ∨ (s.comp p).staged = true) → (s'.comp p).ctrl = (s.comp p).ctrl
  staged : ∀ p, (s.comp p).staged = true → (s'.comp p).staged = true

theorem ReadyP.frame {wf : Wf} {s s' : St} {c : Nat} (h : ReadyP wf s c) (hf : Frame s s') :
    ReadyP wf s' c := by
  have key : ∀ p ∈ (wf.cdef c).preds, (s'.comp p).ctrl = (s.comp p).ctrl := by
    intro p hp
    apply hf.ctrl
    rcases h.deps p hp with h1 | h1
    · exact Or.inl h1
    · exact Or.inr h1.2.2
  refine ⟨fun p hp => ?_, fun p hp => ?_, fun ha p hp => ?_, fun ha p hp hr => ?_, fun ha hex => ?_⟩
  · rcases h.deps p hp with h1 | h1
    · left; rw [hf.done]; exact h1
    · right; exact ⟨h1.1, h1.2.1, hf.staged p h1.2.2⟩
  · rw [key p hp]; exact h.nofail p hp
  · rw [key p hp]; exact h.nonagg ha p hp
  · rw [key p hp]; exact h.agg1 ha p hp hr
  · obtain ⟨p, hp, hr, hn⟩ := h.agg2 ha hex
    exact ⟨p, hp, hr, by rw [key p hp]; exact hn⟩

theorem readyP_of (wf : Wf) (s : St) (c : Nat) (hd : depsSatisfied wf s c = true)
    (hm : mustShutdown wf s c = false) : ReadyP wf s c := by
  simp only [depsSatisfied, List.all_eq_true, Bool.or_eq_true, Bool.and_eq_true, beq_iff_eq] at hd
  simp only [mustShutdown_eq, rule_eq_false, predState, beq_eq_false_iff_ne] at hm
  obtain ⟨h1, h2, h3⟩ := hm
  exact ⟨fun p hp => (hd p hp).imp_right fun h => ⟨h.1.1, h.1.2, h.2⟩, h1, h2, fun ha => (h3 ha).1, fun ha => (h3 ha).2⟩

theorem entryOk_of (wf : Wf) {s : St} (hd : ∀ p, s.done p = true → (s.comp p).ctrl.isSome = true) (c : Nat)
    (h : ReadyP wf s c) : EntryOk wf (c, (wf.cdef c).preds.map (viewOf s)) where
  preds := by
    simp only [List.map_map]
    exact List.map_id'' (fun _ => rfl) _
  final := List.forall_mem_map.2 fun p hp => (h.deps p hp).imp_left (hd p)
  nofail := List.forall_mem_map.2 h.nofail
  nonagg ha := List.forall_mem_map.2 (h.nonagg ha)
  agg1 ha := List.forall_mem_map.2 (h.agg1 ha)
  agg2 ha hex := by
    obtain ⟨pv, hpv, hr⟩ := hex
    obtain ⟨p, hp, rfl⟩ := List.mem_map.mp hpv
    obtain ⟨q, hq, hqr, hqn⟩ := h.agg2 ha ⟨p, hp, hr⟩
    exact ⟨viewOf s q, List.mem_map.mpr ⟨q, hq, rfl⟩, hqr, hqn⟩

/-! ### first phase: the `visit` fold -/

theorem fakeFinish_frame (s : St) (c : Nat) (st : Fin3) (hd : s.done c = false)
    (hs : (s.comp c).staged = false) : Frame s (fakeFinish s c st) := by
  -- `c` itself is not in the part of the state that the frame speaks of
  have hne : ∀ p, s.done p = true ∨ (s.comp p).staged = true → p ≠ c := by
    rintro p hp rfl
    rcases hp with hp | hp <;> simp [hd, hs] at hp
  exact ⟨fakeFinish_done s c st, fun p hp => by rw [fakeFinish_other s c st p (hne p hp)],
    fun p hp => by rw [fakeFinish_other s c st p (hne p (.inr hp))]; exact hp⟩

structure VInv (wf : Wf) (s0 : St) (acc : St × List Nat) : Prop where
  core : Core acc.1
  ext : Ext s0 acc.1
  ready : ∀ c ∈ acc.2, ReadyP wf acc.1 c

theorem visit_fold (wf : Wf) (s0 : St) (l : List Nat) (acc : St × List Nat) (h : VInv wf s0 acc) :
    VInv wf s0 (l.foldl (visit wf) acc) :=
  visit_fold_rec l h
    (fun a c _ h hd hcn hs _ _ =>
      have h1 := fakeFinish_spec h.core c .shutdown hcn
      ⟨h1.1, h.ext.trans h1.2.ext, fun c' hc' => (h.ready c' hc').frame (fakeFinish_frame a.1 c .shutdown hd hs)⟩)
    (fun a c _ h hdeps hm => ⟨h.core, h.ext, fun c' hc' => by
      rcases List.mem_append.1 hc' with hc' | hc'
      · exact h.ready c' hc'
      · cases List.mem_singleton.1 hc'; exact readyP_of wf a.1 c hdeps hm⟩)

/-! ### second phase: stage-in and launch of the ready list -/

theorem stageIn_fold_frame (wf : Wf) (l : List Nat) (s : St) : Frame s (l.foldl (stageIn wf) s) := by
  refine ⟨(foldl_stageIn_rest wf l s).1, fun p _ => ?_, fun p hp => ?_⟩ <;> rw [foldl_stageIn_comp] <;> split
  · rfl
  · rfl
  · rfl
  · exact hp

/-- every new log entry is that of a ready component, seen after the stage-in of the whole list -/
theorem launch_spec (wf : Wf) {s : St} (l : List Nat) (h : Inv wf s) (hr : ∀ c ∈ l, ReadyP wf s c) :
    Inv wf (launch wf l s) ∧ Keeps s (launch wf l s) := by
  obtain ⟨hd, hp, _, _⟩ := launch_rest wf l s
  have hf := stageIn_fold_frame wf l s
  refine ⟨⟨⟨fun j => ?_, fun j hj => ?_, fun j hj => ?_⟩, fun e he => ?_, fun j hj => ?_⟩,
    fun j f hj => (launch_ctrl wf l s j).trans hj⟩
  · have hg := h.core.good j
    obtain ⟨k, hk⟩ := launch_comp wf l s j
    rw [hk]; split
    · exact ⟨hg.fc, hg.ex, hg.pf⟩
    · exact hg
  · rw [launch_ctrl]; exact h.core.done j (hd ▸ hj)
  · rw [launch_ctrl]; exact h.core.pend j (hp ▸ hj)
  · rw [launch_log] at he
    rcases List.mem_append.1 he with he | he
    · exact h.log e he
    · obtain ⟨c, hc, rfl⟩ := List.mem_map.1 he
      refine entryOk_of wf (fun p hp => ?_) c ((hr c hc).frame hf)
      have hp : s.done p = true := hf.done ▸ hp
      rw [hf.ctrl p (.inl hp)]; exact h.core.done p hp
  · rw [launch_log]
    obtain ⟨k, hk⟩ := launch_comp wf l s j
    rw [hk] at hj
    by_cases hjl : j ∈ l
    · exact ⟨_, List.mem_append_right _ (List.mem_map_of_mem hjl), rfl⟩
    · rw [if_neg hjl] at hj
      obtain ⟨e, he, hec⟩ := h.ran j hj
      exact ⟨e, List.mem_append_left _ he, hec⟩

theorem schedPass_spec (wf : Wf) {s : St} (h : Inv wf s) :
    Inv wf (schedPass wf s) ∧ Keeps s (schedPass wf s) := by
  have hv := visit_fold wf s wf.order (s, []) ⟨h.core, Ext.refl s, fun _ hc => by cases hc⟩
  unfold schedPass
  generalize wf.order.foldl (visit wf) (s, []) = r at hv
  obtain ⟨t, ready⟩ := r
  dsimp only
  have hi := h.of_ext ⟨hv.core, hv.ext⟩
  split
  · exact hi
  · have h2 := launch_spec wf ready hi.1 hv.ready
    exact ⟨h2.1, fun c f hc => h2.2 c f (hi.2 c f hc)⟩

/-! ## every operation -/

theorem init_inv (wf : Wf) : Inv wf init := by
  refine ⟨⟨fun c => ⟨?_, ?_, ?_⟩, ?_, ?_⟩, ?_, ?_⟩ <;> simp [init]

theorem step_spec (wf : Wf) {s : St} (h : Inv wf s) (op : Op) :
    Inv wf (step wf s op) ∧ Keeps s (step wf s op) := by
  cases op with
  | sched => exact schedPass_spec wf h
  | next => exact h.of_ext (advance_spec wf h.core)
  | _ => exact h.of_quiet (step_quiet wf h.core nofun nofun)

end St4sd.C01L
